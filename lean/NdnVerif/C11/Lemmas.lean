/-
  C11 helper lemmas.  Both receive loops read T and L (`hdr`); what they share is
  `Framer`, and everything about streams of blocks is proved once for a `Framer`.
-/
import NdnVerif.C11.Model
import NdnVerif.C11.Spec
namespace Ndn.C11

theorem decTL_append {p r : Bytes} {v : Nat} (h : decTL p = some (v, r)) (z : Bytes) :
    decTL (p ++ z) = some (v, r ++ z) := Ndn.decTL_append h z

theorem tlLen_pos (x : Nat) : 1 ≤ tlLen x := Ndn.tlLen_pos x

theorem tlLen_le9 (x : Nat) : tlLen x ≤ 9 := Ndn.tlLen_le9 x

/-- 4611686018427387904 = 2^62: a header and a length below it add up to less than 2^63, the Go `int` range -/
theorem toI64_small (len : Nat) (h : len < 4611686018427387904) : toI64 len = (len : Int) := by
  unfold toI64
  rw [Nat.mod_eq_of_lt (Nat.lt_trans h (by decide)), if_pos (Nat.lt_trans h (by decide))]

/-- for lengths far below 2^63 the Go `int` arithmetic of `rdr.Pos() + int(len)` is exact -/
theorem hdrSize_exact (hdr len : Nat) (hh : hdr ≤ 4611686018427387904) (h : len < 4611686018427387904) :
    hdrSize hdr len = ((hdr + len : Nat) : Int) := by
  unfold hdrSize wrapI64
  rw [toI64_small len h, if_neg (by omega)]
  exact (Int.natCast_add hdr len).symm

/-- **the tie of the sizing**: on the working tree the header of a block is measured by what was read of it.
    Depends on the regenerated fact `Ndn.Gen.C11.blockSizedByReaderPos`; with the other sizing
    (`EncodingLength()`, the tree before repair F-11b) this does not check — and it is false: see `corpus/C11/f11b-*.ops`. -/
theorem hdrBytes_eq (u r2 : Bytes) (typ len : Nat) : hdrBytes u r2 typ len = u.length - r2.length := by
  simp [hdrBytes, Ndn.Gen.C11.blockSizedByReaderPos]

/-- a block, as the property quantifies over them (model-side size bound) -/
def Blk (b : Bytes) : Prop := WellFormedTlv b ∧ b.length ≤ maxPkt

theorem maxPkt_small : maxPkt < 4611686018427387904 := by decide
theorem maxPkt_lt_cap : maxPkt < cap := by decide

theorem admissible_singleton {b : Bytes} (h : WellFormedTlv b) (hl : b.length ≤ specMaxPkt) : Admissible [b] :=
  fun _ hb => List.mem_singleton.mp hb ▸ ⟨h, hl⟩

/-- where the 8800 of the specification meets the regenerated `MaxNDNPacketSize` -/
theorem blk_of_admissible {blocks : List Bytes} (h : Admissible blocks) : ∀ b ∈ blocks, Blk b := by
  intro b hb
  have hle : specMaxPkt ≤ maxPkt := by decide
  exact ⟨(h b hb).1, Nat.le_trans (h b hb).2 hle⟩

/-- what both receive loops read first (`ReadTLNum` twice): type, length, and the bytes behind the two numbers -/
def hdr (u : Bytes) : Option (Nat × Nat × Bytes) :=
  match decTL u with
  | none => none
  | some (typ, r1) =>
    match decTL r1 with
    | none => none
    | some (len, r2) => some (typ, len, r2)

theorem hdr_eq_some {u r2 : Bytes} {typ len : Nat} :
    hdr u = some (typ, len, r2) ↔ ∃ r1, decTL u = some (typ, r1) ∧ decTL r1 = some (len, r2) := by
  unfold hdr
  constructor
  · intro h
    split at h
    · cases h
    · rename_i h1
      split at h
      · cases h
      · rename_i h2
        cases h
        exact ⟨_, h1, h2⟩
  · rintro ⟨r1, h1, h2⟩
    simp only [h1, h2]

theorem hdr_append {u r2 : Bytes} {typ len : Nat} (h : hdr u = some (typ, len, r2)) (z : Bytes) :
    hdr (u ++ z) = some (typ, len, r2 ++ z) := by
  obtain ⟨r1, h1, h2⟩ := hdr_eq_some.mp h
  exact hdr_eq_some.mpr ⟨_, decTL_append h1 z, decTL_append h2 z⟩

theorem hdr_split {u r2 : Bytes} {typ len : Nat} (h : hdr u = some (typ, len, r2)) : ∃ hd, u = hd ++ r2 := by
  obtain ⟨r1, h1, h2⟩ := hdr_eq_some.mp h
  obtain ⟨hd1, rfl, _⟩ := decTL_split h1
  obtain ⟨hd2, rfl, _⟩ := decTL_split h2
  exact ⟨hd1 ++ hd2, (List.append_assoc ..).symm⟩

theorem hdr_length_le {u r2 : Bytes} {typ len : Nat} (h : hdr u = some (typ, len, r2)) :
    r2.length ≤ u.length := by
  obtain ⟨hd, rfl⟩ := hdr_split h
  rw [List.length_append]; exact Nat.le_add_left ..

theorem hdr_of_wf {b : Bytes} (h : WellFormedTlv b) : ∃ typ v, hdr b = some (typ, v.length, v) := by
  obtain ⟨typ, len, r1, v, h1, h2, rfl⟩ := h
  exact ⟨typ, v, hdr_eq_some.mpr ⟨r1, h1, h2⟩⟩

theorem blk_length_pos {b : Bytes} (hb : Blk b) : 0 < b.length := by
  obtain ⟨typ, v, h⟩ := hdr_of_wf hb.1
  cases b with
  | nil => cases h
  | cons => exact Nat.succ_pos _

theorem parseLoop_eq (u : Bytes) :
    parseLoop u = match hdr u with
      | none => ([], u, .more)
      | some (_, len, r2) =>
        if len > cap then ([], u, .tooBig)
        else if u.length ≥ u.length - r2.length + len then
          (u.take (u.length - r2.length + len) :: (parseLoop (u.drop (u.length - r2.length + len))).1,
            (parseLoop (u.drop (u.length - r2.length + len))).2.1,
            (parseLoop (u.drop (u.length - r2.length + len))).2.2)
        else if u.length > maxPkt then ([], u, .tooMuch) else ([], u, .more) := by
  rw [parseLoop, hdr]
  split
  · rename_i h; simp only [h]
  · rename_i typ r1 h
    simp only [h]
    split
    · rename_i h'; simp only [h']
    · rename_i len r2 h'
      simp only [h', hdrBytes_eq]

theorem appLoop_eq (u : Bytes) :
    appLoop u = match hdr u with
      | none => ([], u, .more)
      | some (_, len, r2) =>
        if hdrSize (u.length - r2.length) len < 0 ∨ toI64 len < 0 then ([], u, .panic)
        else if r2.length ≥ len then
          ((u.take (u.length - r2.length) ++ r2.take len) :: (appLoop (r2.drop len)).1,
            (appLoop (r2.drop len)).2.1, (appLoop (r2.drop len)).2.2)
        else ([], u, .more) := by
  rw [appLoop, hdr]
  split
  · rename_i h; simp only [h]
  · rename_i typ r1 h
    simp only [h]
    split
    · rename_i h'; simp only [h']
    · rename_i len r2 h'
      simp only [h']

/-- What the two loops have in common as long as no block exceeds `maxPkt`: without T and L, or with fewer
    than L bytes behind them, they wait; with L bytes there they hand up T, L and the value as received and
    go on behind it. -/
structure Framer (f : Bytes → List Bytes × Bytes × Status) : Prop where
  wait : ∀ {u}, hdr u = none → f u = ([], u, .more)
  short : ∀ {u typ len r2}, hdr u = some (typ, len, r2) → r2.length < len → len ≤ maxPkt →
    u.length ≤ maxPkt → f u = ([], u, .more)
  full : ∀ {hd r2 typ len}, hdr (hd ++ r2) = some (typ, len, r2) → len ≤ r2.length →
    hd.length + len ≤ maxPkt →
    f (hd ++ r2) = ((hd ++ r2.take len) :: (f (r2.drop len)).1, (f (r2.drop len)).2.1, (f (r2.drop len)).2.2)

theorem not_tooBig {len : Nat} (h : len ≤ maxPkt) : ¬ len > cap :=
  Nat.not_lt.mpr (Nat.le_trans h (Nat.le_of_lt maxPkt_lt_cap))

theorem parseLoop_framer : Framer parseLoop where
  wait h := by rw [parseLoop_eq, h]
  short {u typ len r2} h hlt hlen hu := by
    have hr := hdr_length_le h
    rw [parseLoop_eq, h]
    dsimp only
    rw [if_neg (not_tooBig hlen), if_neg (by omega), if_neg (Nat.not_lt.mpr hu)]
  full {hd r2 typ len} h hle hsz := by
    rw [parseLoop_eq, h]
    dsimp only
    rw [List.length_append, Nat.add_sub_cancel, if_neg (not_tooBig (Nat.le_trans (Nat.le_add_left ..) hsz)),
      if_pos (Nat.add_le_add_left hle _), List.take_length_add_append, List.drop_length_add_append]

theorem no_panic {h len : Nat} (hh : h ≤ maxPkt) (hl : len ≤ maxPkt) : ¬ (hdrSize h len < 0 ∨ toI64 len < 0) := by
  have hl' := Nat.lt_of_le_of_lt hl maxPkt_small
  rw [hdrSize_exact _ _ (Nat.le_trans hh (Nat.le_of_lt maxPkt_small)) hl', toI64_small _ hl']
  exact not_or.mpr ⟨Int.not_lt.mpr (Int.natCast_nonneg _), Int.not_lt.mpr (Int.natCast_nonneg _)⟩

theorem appLoop_framer : Framer appLoop where
  wait h := by rw [appLoop_eq, h]
  short {u typ len r2} h hlt hlen hu := by
    rw [appLoop_eq, h]
    dsimp only
    rw [if_neg (no_panic (Nat.le_trans (Nat.sub_le ..) hu) hlen), if_neg (Nat.not_le.mpr hlt)]
  full {hd r2 typ len} h hle hsz := by
    rw [appLoop_eq, h]
    dsimp only
    rw [List.length_append, Nat.add_sub_cancel, if_neg (no_panic (Nat.le_trans (Nat.le_add_right ..) hsz) (Nat.le_trans (Nat.le_add_left ..) hsz)), if_pos hle,
      List.take_left]

/-- Where reception stands in the blocks `todo`, of which the bytes `R` are still to come: what has arrived of
    them, `u`, is a proper part of the first one. -/
structure Pending (todo : List Bytes) (R u : Bytes) : Prop where
  rest : u ++ R = todo.flatten
  short : ∀ b ∈ todo.head?, u.length < b.length

namespace Pending

theorem start {bs : List Bytes} {R : Bytes} (hwf : ∀ b ∈ bs, Blk b) (h : R = bs.flatten) : Pending bs R [] :=
  ⟨h, fun b hb => blk_length_pos (hwf b (List.mem_of_mem_head? hb))⟩

theorem done {todo : List Bytes} {u : Bytes} (h : Pending todo [] u) : todo = [] := by
  cases todo with
  | nil => rfl
  | cons b tl =>
    have h1 := h.short b rfl
    have h2 := congrArg List.length h.rest
    rw [List.append_nil, List.flatten_cons, List.length_append] at h2
    exact absurd (h2 ▸ h1) (Nat.not_lt.mpr (Nat.le_add_right ..))

theorem length_lt {todo : List Bytes} {R u : Bytes} (h : Pending todo R u) (hwf : ∀ b ∈ todo, Blk b) :
    u.length < maxPkt := by
  cases todo with
  | nil =>
    have := h.rest
    rw [List.flatten_nil, List.append_eq_nil_iff] at this
    rw [this.1]; decide
  | cons b tl => exact Nat.lt_of_lt_of_le (h.short b rfl) (hwf b (List.mem_cons_self ..)).2

theorem completeBlocks_eq {todo : List Bytes} {R u : Bytes} (h : Pending todo R u) (dn : List Bytes) :
    completeBlocks (dn ++ todo) (dn.flatten.length + u.length) = dn := by
  induction dn with
  | nil =>
    cases todo with
    | nil => rfl
    | cons b tl =>
      rw [List.nil_append, completeBlocks, if_neg (Nat.not_le.mpr (Nat.zero_add _ ▸ h.short b rfl))]
  | cons d ds ih =>
    rw [List.cons_append, List.flatten_cons, List.length_append, Nat.add_assoc, completeBlocks,
      if_pos (Nat.le_add_right ..), Nat.add_sub_cancel_left, ih]

theorem completeBlocks_received {dn todo : List Bytes} {R u rcvd : Bytes} (h : Pending todo R u)
    (hr : rcvd ++ R = (dn ++ todo).flatten) : completeBlocks (dn ++ todo) rcvd.length = dn := by
  rw [List.flatten_append, ← h.rest, ← List.append_assoc] at hr
  rw [List.append_cancel_right hr, List.length_append, h.completeBlocks_eq]

end Pending

namespace Framer
variable {f : Bytes → List Bytes × Bytes × Status} (hf : Framer f)
include hf

theorem nil : f [] = ([], [], .more) := hf.wait rfl

theorem block {b : Bytes} (hb : Blk b) (u' : Bytes) :
    f (b ++ u') = (b :: (f u').1, (f u').2.1, (f u').2.2) := by
  obtain ⟨typ, v, h⟩ := hdr_of_wf hb.1
  obtain ⟨hd, rfl⟩ := hdr_split h
  have hlen := hb.2
  rw [List.length_append] at hlen
  have := hf.full (List.append_assoc .. ▸ hdr_append h u') (List.length_append ▸ Nat.le_add_right ..) hlen
  rw [List.take_left, List.drop_left] at this
  rw [List.append_assoc, this]

theorem part {b u z : Bytes} (hb : Blk b) (hz : z ≠ []) (hu : u ++ z = b) : f u = ([], u, .more) := by
  cases h : hdr u with
  | none => exact hf.wait h
  | some t =>
    obtain ⟨typ, len, r2⟩ := t
    obtain ⟨typ', v, hv⟩ := hdr_of_wf hb.1
    -- T and L of `u` are those of the block, so `len` bytes are expected and `z` is still missing
    have e := hdr_append h z
    rw [hu, hv] at e
    cases e
    have hul : u.length ≤ b.length := by rw [← hu, List.length_append]; exact Nat.le_add_right ..
    exact hf.short h (List.length_append ▸ Nat.lt_add_of_pos_right (List.length_pos_iff.mpr hz))
      (Nat.le_trans (hdr_length_le hv) hb.2) (Nat.le_trans hul hb.2)

theorem stream (bs : List Bytes) (hwf : ∀ b ∈ bs, Blk b) :
    ∀ (u R : Bytes), u ++ R = bs.flatten →
      ∃ done todo rest, bs = done ++ todo ∧ f u = (done, rest, .more) ∧ Pending todo R rest := by
  induction bs with
  | nil =>
    intro u R h
    rw [List.flatten_nil, List.append_eq_nil_iff] at h
    exact ⟨[], [], [], rfl, by rw [h.1, hf.nil], ⟨by rw [h.2]; rfl, nofun⟩⟩
  | cons b bs ih =>
    intro u R h
    have hb : Blk b := hwf b (List.mem_cons_self ..)
    have hbs : ∀ x ∈ bs, Blk x := fun x hx => hwf x (List.mem_cons_of_mem _ hx)
    rw [List.flatten_cons] at h
    have hcases : (∃ z, z ≠ [] ∧ u ++ z = b) ∨ ∃ c, u = b ++ c ∧ c ++ R = bs.flatten := by
      rcases List.append_eq_append_iff.mp h with ⟨a, hb', hR⟩ | ⟨c, hu, hc⟩
      · by_cases ha : a = []
        · subst ha
          exact .inr ⟨[], by rw [hb', List.append_nil, List.append_nil], hR⟩
        · exact .inl ⟨a, ha, hb'.symm⟩
      · exact .inr ⟨c, hu, hc.symm⟩
    rcases hcases with ⟨z, hz, hu⟩ | ⟨c, rfl, hc⟩
    · refine ⟨[], b :: bs, u, rfl, hf.part hb hz hu, h, ?_⟩
      intro b' hb'
      cases hb'
      rw [← hu, List.length_append]
      exact Nat.lt_add_of_pos_right (List.length_pos_iff.mpr hz)
    · obtain ⟨done, todo, rest, rfl, hp, hpend⟩ := ih hbs c R hc
      exact ⟨b :: done, todo, rest, rfl, by rw [hf.block hb, hp], hpend⟩

end Framer

/-- invariant between two reads: nothing is parked in front of the unread bytes, and the unread
    bytes are a proper part of the next block -/
def Inv (s : St) (todo : List Bytes) (R : Bytes) : Prop := s.tlvOff = 0 ∧ Pending todo R s.unread

theorem inv_space {s : St} {todo : List Bytes} {R : Bytes} (h : Inv s todo R) (hwf : ∀ b ∈ todo, Blk b) :
    s.unread.length < maxPkt ∧ cap - maxPkt < s.free := by
  have hlt := h.2.length_lt hwf
  refine ⟨hlt, ?_⟩
  unfold St.free St.recvOff
  rw [h.1, Nat.zero_add]
  exact Nat.sub_lt_sub_left (Nat.lt_trans hlt maxPkt_lt_cap) hlt

theorem onRead_stream (s : St) (bs : List Bytes) (hwf : ∀ b ∈ bs, Blk b)
    (c R : Bytes) (h : s.unread ++ (c ++ R) = bs.flatten) :
    ∃ done todo, bs = done ++ todo ∧ (onRead s c).2 = (done, .more) ∧ Inv (onRead s c).1 todo R := by
  obtain ⟨done, todo, rest, rfl, hp, hpend⟩ :=
    parseLoop_framer.stream bs hwf (s.unread ++ c) R (by rw [List.append_assoc]; exact h)
  have hrest := hpend.length_lt fun b hb => hwf b (List.mem_append_right _ hb)
  have e : onRead s c = (⟨0, rest⟩, done, .more) := by
    simp only [onRead, hp, if_pos (Nat.le_of_lt hrest)]
  rw [e]
  exact ⟨done, todo, rfl, rfl, rfl, hpend⟩

def scriptSize (script : List Bytes) : Nat := (script.map List.length).sum + script.length

theorem scriptSize_cons (c : Bytes) (cs : List Bytes) : scriptSize (c :: cs) = c.length + scriptSize cs + 1 := by
  simp only [scriptSize, List.map_cons, List.sum_cons, List.length_cons]; omega

theorem run_step (s : St) (c : Bytes) (cs : List Bytes) (hfree : 0 < s.free) :
    ∃ c' cs', c' ++ cs'.flatten = (c :: cs).flatten ∧ scriptSize cs' < scriptSize (c :: cs) ∧
      run s (c :: cs) =
        match (onRead s c').2.2 with
        | .more => ((onRead s c').2.1 ++ (run (onRead s c').1 cs').1, (run (onRead s c').1 cs').2)
        | st => ((onRead s c').2.1, st.toOutcome) := by
  rw [run]
  by_cases hfit : c.length ≤ s.free
  · exact ⟨c, cs, rfl, scriptSize_cons c cs ▸ Nat.lt_succ_of_le (Nat.le_add_left ..), by rw [if_pos hfit]; rfl⟩
  · refine ⟨c.take s.free, c.drop s.free :: cs, ?_, ?_,
      by rw [if_neg hfit, if_neg (Nat.ne_of_gt hfree)]; rfl⟩
    · rw [List.flatten_cons, List.flatten_cons, ← List.append_assoc, List.take_append_drop]
    · rw [scriptSize_cons, scriptSize_cons, List.length_drop]; omega

/-- `R` = what the peer sends later; the run ends (EOF) holding a proper part `u'` of the next block -/
theorem run_stream (script : List Bytes) : ∀ (s : St) (bs : List Bytes) (R : Bytes),
    (∀ b ∈ bs, Blk b) → Inv s bs (script.flatten ++ R) →
    ∃ done todo u', bs = done ++ todo ∧ run s script = (done, Outcome.eof) ∧ Pending todo R u' := by
  induction hn : scriptSize script using Nat.strongRecOn generalizing script with
  | ind n ih =>
    intro s bs R hwf hinv
    cases script with
    | nil => exact ⟨[], bs, s.unread, rfl, by rw [run], hinv.2⟩
    | cons c cs =>
      obtain ⟨c', cs', hcat, hsz, hrun⟩ := run_step s c cs (Nat.zero_lt_of_lt (inv_space hinv hwf).2)
      have h := hinv.2.rest
      rw [← hcat, List.append_assoc] at h
      obtain ⟨done, todo, rfl, hout, hinv'⟩ := onRead_stream s bs hwf c' (cs'.flatten ++ R) h
      obtain ⟨done', todo', u', rfl, hrun', hpend⟩ :=
        ih _ (hn ▸ hsz) cs' rfl (onRead s c').1 todo R (fun b hb => hwf b (List.mem_append_right _ hb)) hinv'
      refine ⟨done ++ done', todo', u', (List.append_assoc ..).symm, ?_, hpend⟩
      rw [hrun, hrun']
      simp only [hout]

theorem appRun_stream : ∀ (chunks : List Bytes) (pending : Bytes) (bs : List Bytes) (R : Bytes),
    (∀ b ∈ bs, Blk b) → Pending bs (chunks.flatten ++ R) pending →
    ∃ done todo u', bs = done ++ todo ∧ appRun pending chunks = (done, Outcome.eof) ∧ Pending todo R u' := by
  intro chunks
  induction chunks with
  | nil => intro pending bs R _ hp; exact ⟨[], bs, pending, rfl, rfl, hp⟩
  | cons c cs ih =>
    intro pending bs R hwf hp
    obtain ⟨done, todo, rest, rfl, hloop, hpend⟩ :=
      appLoop_framer.stream bs hwf (pending ++ c) (cs.flatten ++ R)
        (by rw [List.append_assoc, ← List.append_assoc c]; exact hp.rest)
    obtain ⟨done', todo', u', rfl, hrun, hpend'⟩ :=
      ih rest todo R (fun b hb => hwf b (List.mem_append_right _ hb)) hpend
    refine ⟨done ++ done', todo', u', (List.append_assoc ..).symm, ?_, hpend'⟩
    simp only [appRun, hloop, hrun]

/-- What `readTlvStream` and `StreamFace.Run` both are: fed any cut `chunks` of a prefix of the block stream `bs` (`R` still
    to come), the receiver has handed up the blocks that are complete, holds a proper part of the next one, and reports EOF. -/
def Streams (rcv : List Bytes → List Bytes × Outcome) : Prop :=
  ∀ (chunks bs : List Bytes) (R : Bytes), (∀ b ∈ bs, Blk b) → chunks.flatten ++ R = bs.flatten →
    ∃ done todo u', bs = done ++ todo ∧ rcv chunks = (done, Outcome.eof) ∧ Pending todo R u'

theorem run_streams : Streams (run init) := fun chunks bs R hwf h =>
  run_stream chunks init bs R hwf ⟨rfl, .start hwf h⟩

theorem appRun_streams : Streams (appRun []) := fun chunks bs R hwf h =>
  appRun_stream chunks [] bs R hwf (.start hwf h)

namespace Streams
variable {rcv : List Bytes → List Bytes × Outcome} (h : Streams rcv)
include h

theorem refines {blocks chunks : List Bytes} (hadm : Admissible blocks) (hcut : chunks.flatten = blocks.flatten) :
    rcv chunks = (blocks, Outcome.eof) := by
  obtain ⟨done, todo, u', rfl, hrun, hpend⟩ := h chunks blocks [] (blk_of_admissible hadm) (by rw [List.append_nil, hcut])
  rw [hrun, hpend.done, List.append_nil]

theorem prompt {blocks chunks later : List Bytes} (hadm : Admissible blocks)
    (hcut : (chunks ++ later).flatten = blocks.flatten) :
    (rcv chunks).1 = completeBlocks blocks chunks.flatten.length := by
  rw [List.flatten_append] at hcut
  obtain ⟨done, todo, u', rfl, hrun, hpend⟩ := h chunks blocks later.flatten (blk_of_admissible hadm) hcut
  rw [hrun, hpend.completeBlocks_received hcut]

end Streams

end Ndn.C11
