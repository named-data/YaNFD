/-
  C11 — property theorems.

  Reading guide.  `run init chunks` is the model of `readTlvStream` driven by a reader that returns
  the chunks one after the other (a chunk larger than the free space of the receive buffer is
  handed over in several reads — reads are bounded by the free space) and then reports EOF.
  `Admissible blocks`: every block is a well-formed TLV (T and L in ANY form the readers accept —
  1, 3, 5 or 9 bytes, shortest or not —, |V| = L) of at most 8800 bytes.  There is no bound on the number of blocks, the total length or the number
  and sizes of the chunks.
-/
import NdnVerif.C11.Lemmas
namespace Ndn.C11

/-- **C11, main clause.**  For EVERY list of admissible blocks and EVERY way of cutting their
    concatenation into reads — one byte at a time, many blocks per read, reads ending inside a
    type or length field, even empty reads — `readTlvStream` hands up exactly the blocks, byte
    identical, in order, none lost / duplicated / split / merged, never reports an error, never
    stalls for lack of buffer space, and returns nil at EOF. -/
theorem stream_refines_blocks (blocks : List Bytes) (chunks : List Bytes)
    (hadm : Admissible blocks) (hcut : chunks.flatten = blocks.flatten) :
    run init chunks = (blocks, Outcome.eof) :=
  run_streams.refines hadm hcut

/-- non-vacuity: two admissible blocks (a 1-byte-length and a 3-byte-type one), cut inside T and L -/
example : run init [[6], [2, 1], [2, 0xfd, 3], [0x20, 1, 7], []] = ([[6, 2, 1, 2], [0xfd, 3, 0x20, 1, 7]], Outcome.eof) :=
  stream_refines_blocks [[6, 2, 1, 2], [0xfd, 3, 0x20, 1, 7]] _
    (by unfold Admissible; decide)
    (by decide)

/-- **C11, the quantifier's "1/3/5-byte length forms".**  A block of at most 8800 bytes whose T and L
    are written in ANY form that holds them — in particular L in the 5-byte form, which is never the
    shortest one for such a block — is admissible, so every clause below covers it: it is framed by
    what was read of it (`rdr.Pos()`), not by what its numbers would take in the shortest form. -/
theorem every_length_form_is_admissible (ft fl typ : Nat) (v : Bytes) (ht : formFits ft typ)
    (hl : formFits fl v.length)
    (hsz : (encTLForm ft typ ++ encTLForm fl v.length ++ v).length ≤ specMaxPkt) :
    Admissible [encTLForm ft typ ++ encTLForm fl v.length ++ v] :=
  admissible_singleton (wellFormed_of_forms ft fl typ v ht hl) hsz

/-- the shortest form (what a correct encoder emits; C10's frames) is a special case -/
theorem shortest_form_is_admissible (b : Bytes) (h : ShortestForm b) (hsz : b.length ≤ specMaxPkt) :
    Admissible [b] :=
  admissible_singleton (wellFormed_of_shortest h (Nat.lt_of_le_of_lt hsz (by decide))) hsz

/-- non-vacuity: type 6 in the 3-byte form, length 2 in the 5-byte form, cut inside T and inside L;
    then an ordinary block -/
example : run init [[0xfd, 0], [6, 0xfe, 0, 0], [0, 2, 1], [2, 6, 2, 1, 2]] =
    ([[0xfd, 0, 6, 0xfe, 0, 0, 0, 2, 1, 2], [6, 2, 1, 2]], Outcome.eof) :=
  stream_refines_blocks [[0xfd, 0, 6, 0xfe, 0, 0, 0, 2, 1, 2], [6, 2, 1, 2]] _
    (by unfold Admissible; decide)
    (by decide)

/-- **C11, reads that come with an ignored error.**  The same for read results `(bytes, ignored error?)`
    — a transient socket error the transport chooses to ignore, reported alone or TOGETHER with
    data: no byte is lost, the frames are exactly the blocks. -/
theorem stream_refines_blocks_ignored_errors (blocks : List Bytes) (script : List ReadRes)
    (hadm : Admissible blocks) (hcut : (script.map (·.1)).flatten = blocks.flatten) :
    runE init script = (blocks, Outcome.eof) :=
  stream_refines_blocks blocks _ hadm hcut

example : runE init [([6, 2], true), ([], true), ([1, 2], false)] = ([[6, 2, 1, 2]], Outcome.eof) :=
  stream_refines_blocks_ignored_errors [[6, 2, 1, 2]] _
    (by unfold Admissible; decide)
    (by decide)

/-- **C11, prompt delivery (refinement of the abstract receiver after every read).**  At any moment
    — `chunks` received so far, `later` still to come — the frames handed up so far are exactly the
    blocks completely contained in the bytes received so far (`completeBlocks`): a block is handed
    up by the very read that completes it, and moving unread bytes to the front of the buffer
    never corrupts the partial block that stays behind. -/
theorem stream_prompt (blocks : List Bytes) (chunks later : List Bytes)
    (hadm : Admissible blocks) (hcut : (chunks ++ later).flatten = blocks.flatten) :
    (run init chunks).1 = completeBlocks blocks chunks.flatten.length :=
  run_streams.prompt hadm hcut

example : (run init [[6, 2, 1], [2, 0xfd]]).1 = [[6, 2, 1, 2]] := by
  rw [stream_prompt [[6, 2, 1, 2], [0xfd, 3, 0x20, 1, 7]] [[6, 2, 1], [2, 0xfd]] [[3, 0x20, 1, 7]]
    (by unfold Admissible; decide)
    (by decide)]
  decide

/-- **C11, reconnection of a permanent face.**  Every connection `c = (blocks, chunks, later)` carries
    the first `chunks` of an admissible block stream and then fails (anywhere — `later` never arrives,
    the connection may end in the middle of a block); the face reconnects and the peer starts a new
    block stream.  The link service is handed, connection after connection, exactly the blocks that
    were completely received on that connection: the partly received block of a failed connection is
    gone with it and never contaminates the next connection's stream. -/
theorem reconnect_fresh_buffer (conns : List (List Bytes × List Bytes × List Bytes))
    (h : ∀ c ∈ conns, Admissible c.1 ∧ (c.2.1 ++ c.2.2).flatten = c.1.flatten) :
    runConns (conns.map (·.2.1)) =
      (conns.map fun c => completeBlocks c.1 c.2.1.flatten.length).flatten := by
  induction conns with
  | nil => rfl
  | cons c rest ih =>
    have hc := h c (List.mem_cons_self ..)
    have hr : ∀ c' ∈ rest, Admissible c'.1 ∧ (c'.2.1 ++ c'.2.2).flatten = c'.1.flatten :=
      fun c' hc' => h c' (List.mem_cons_of_mem _ hc')
    simp only [List.map_cons, runConns, List.flatten_cons]
    rw [stream_prompt c.1 c.2.1 c.2.2 hc.1 hc.2, ih hr]

/-- non-vacuity: the first connection fails after block 1 and two bytes of block 2, the second
    connection carries one block -/
example : runConns [[[6, 2, 1], [2, 0xfd, 3]], [[6, 2], [1, 2]]] = [[6, 2, 1, 2], [6, 2, 1, 2]] := by
  exact (reconnect_fresh_buffer
    [([[6, 2, 1, 2], [0xfd, 3, 0x20, 1, 7]], [[6, 2, 1], [2, 0xfd, 3]], [[0x20, 1, 7]]),
     ([[6, 2, 1, 2]], [[6, 2], [1, 2]], [])]
    (by unfold Admissible; decide)).trans (by decide)

/-- **C11, buffer space.**  Between two reads of an admissible stream nothing is parked in front of
    the unread bytes and fewer than `MaxNDNPacketSize` bytes are unread, so every `Read` is offered
    more than `len(recvBuf) - MaxNDNPacketSize` (= 31 packets) of space: the reader never starves,
    however long the stream. -/
theorem stream_buffer_invariant (blocks : List Bytes) (hadm : Admissible blocks)
    (s : St) (c R : Bytes) (h : s.unread ++ (c ++ R) = blocks.flatten) :
    (onRead s c).1.tlvOff = 0 ∧ (onRead s c).1.unread.length < maxPkt ∧
    cap - maxPkt < (onRead s c).1.free := by
  have hwf := blk_of_admissible hadm
  obtain ⟨done, todo, rfl, _, hinv⟩ := onRead_stream s blocks hwf c R h
  exact ⟨hinv.1, inv_space hinv fun b hb => hwf b (List.mem_append_right _ hb)⟩

example : (onRead init [6, 2, 1]).1.tlvOff = 0 ∧ (onRead init [6, 2, 1]).1.unread.length < maxPkt ∧
    cap - maxPkt < (onRead init [6, 2, 1]).1.free :=
  stream_buffer_invariant [[6, 2, 1, 2]] (by unfold Admissible; decide) init [6, 2, 1] [2] (by decide)

/-- **C11, application-side counterpart** (`std/engine/face/stream_face.go` `StreamFace.Run`: read T,
    read L, read exactly L bytes).  Same statement: for every admissible block list and every
    chunking, the packets handed to the engine are exactly the blocks, in order, byte-identical. -/
theorem app_refines_blocks (blocks : List Bytes) (chunks : List Bytes)
    (hadm : Admissible blocks) (hcut : chunks.flatten = blocks.flatten) :
    appRun [] chunks = (blocks, Outcome.eof) :=
  appRun_streams.refines hadm hcut

example : appRun [] [[6], [2, 1], [2, 0xfd, 3], [0x20, 1, 7]] = ([[6, 2, 1, 2], [0xfd, 3, 0x20, 1, 7]], Outcome.eof) :=
  app_refines_blocks [[6, 2, 1, 2], [0xfd, 3, 0x20, 1, 7]] _
    (by unfold Admissible; decide)
    (by decide)

/-- non-vacuity on the application side: type 6 in the 3-byte form, length 2 in the 5-byte form — the engine gets
    the bytes that were sent (F-11c), then an ordinary block -/
example : appRun [] [[0xfd, 0], [6, 0xfe, 0, 0], [0, 2, 1], [2, 6, 2, 1, 2]] =
    ([[0xfd, 0, 6, 0xfe, 0, 0, 0, 2, 1, 2], [6, 2, 1, 2]], Outcome.eof) :=
  app_refines_blocks [[0xfd, 0, 6, 0xfe, 0, 0, 0, 2, 1, 2], [6, 2, 1, 2]] _
    (by unfold Admissible; decide)
    (by decide)

/-- application side, after every chunk: exactly the completely received blocks were handed up -/
theorem app_prompt (blocks : List Bytes) (chunks later : List Bytes)
    (hadm : Admissible blocks) (hcut : (chunks ++ later).flatten = blocks.flatten) :
    (appRun [] chunks).1 = completeBlocks blocks chunks.flatten.length :=
  appRun_streams.prompt hadm hcut

example : (appRun [] [[6, 2, 1], [2, 0xfd]]).1 = [[6, 2, 1, 2]] := by
  rw [app_prompt [[6, 2, 1, 2], [0xfd, 3, 0x20, 1, 7]] [[6, 2, 1], [2, 0xfd]] [[3, 0x20, 1, 7]]
    (by unfold Admissible; decide)
    (by decide)]
  decide

/-- the model constants agree with the protocol constant the property names -/
theorem consts_agree : maxPkt = specMaxPkt ∧ maxPkt < cap := by decide

end Ndn.C11
