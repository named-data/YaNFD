/-
  C02 — Interests go only to FIB next hops, without loops or duplicate forwarding.
  Property theorems over the shared model `Fw` (C01/Fw.lean), for EVERY state `s` (hence every
  reachable one) or every `WF` one where assumed; every Interest, both strategies, every FIB, every oracle value (`tie` = order
  chosen by the unstable sort among equal costs, `pick` = Content Store walk order).
  Lemmas: C01/FwInterest.lean.
-/
import NdnVerif.C02.Model
import NdnVerif.C01.FwInterest
namespace Ndn.Fw.C02
open Ndn.Fw.Spec

/-- the sends of an Interest arrival that are Interests -/
def fwd (s : St) (f : FaceId) (i : Interest) (tie : List FaceId) (pick : Nat) : List Send :=
  (step s (.interest f i tie pick)).2.filter (!·.isData)

theorem mem_fwd {s f i tie pick snd} (h : snd ∈ fwd s f i tie pick) :
    ∃ hop tok, hopStep i.hop = some hop ∧ IsFwd s.faces f i hop tok (nextHopCands s i) snd := by
  unfold fwd at h
  simp only [step, List.mem_filter] at h
  rcases onInterest_sends h.1 with ⟨ce, _, _, rfl, _⟩ | hfw
  · cases h.2
  · exact hfw

/-- An Interest is sent upstream only on a face that is a next hop of the longest-prefix FIB entry for
    its name — or for its first forwarding hint when no hint lies in the producer region — or on the
    consumer-chosen next hop (NextHopFaceId). -/
theorem interest_sends_in_fib (s : St) (f : FaceId) (i : Interest) (tie : List FaceId) (pick : Nat) (snd : Send)
    (h : snd ∈ fwd s f i tie pick) :
    (i.nextHop = none ∧ snd.face ∈ (lpmNextHops s.fib (lookupName s.regions i)).map (·.1)) ∨
    i.nextHop = some snd.face := by
  obtain ⟨hop, tok, _, g, rfl, _, hc⟩ := mem_fwd h
  unfold nextHopCands at hc
  cases hn : i.nextHop with
  | none => left; simp only [hn] at hc; exact ⟨rfl, hc⟩
  | some g' => right; simp only [hn, List.mem_singleton] at hc; rw [hc]; rfl

/-- forwarding hint / producer region rule: the name looked up in the FIB is the Interest name when
    there is no hint or some hint has a producer-region name as a prefix, else the FIRST hint. -/
theorem lookup_name_rule (regions : List Name) (i : Interest) :
    lookupName regions i =
      if (i.hints.any fun h => regions.any fun r => r.isPrefixOf h) = true then i.name
      else i.hints.head?.getD i.name := by
  unfold lookupName fhName
  split <;> rfl

/-- never back out of the point-to-point (or multi-access) face it arrived on -/
theorem no_uturn_p2p (s : St) (f : FaceId) (i : Interest) (tie : List FaceId) (pick : Nat) (snd : Send)
    (h : snd ∈ fwd s f i tie pick) (hface : snd.face = f) :
    ∃ fc, faceOf s.faces f = some fc ∧ fc.link = .adhoc := by
  obtain ⟨hop, tok, _, g, rfl, hu, _⟩ := mem_fwd h
  obtain ⟨fc, hfc, hut, _, _⟩ := usableOut_spec hu
  subst hface
  exact ⟨fc, hfc, Decidable.byContradiction fun hl => hut ⟨rfl, hl⟩⟩

/-- every forwarded copy carries the unchanged name and the hop limit reduced by one (absent stays
    absent), and is never sent to a non-local face once the hop limit has reached zero -/
theorem forwarded_hop_minus_one (s : St) (f : FaceId) (i : Interest) (tie : List FaceId) (pick : Nat) (snd : Send)
    (h : snd ∈ fwd s f i tie pick) :
    ∃ g tok hop, snd = .interest g i.name hop (.mine tok) ∧
      (i.hop = none ∧ hop = none ∨ ∃ k, i.hop = some (k + 1) ∧ hop = some k) ∧
      (hop = some 0 → nonLocal s.faces g = false) := by
  obtain ⟨hop, tok, hh, g, rfl, hu, _⟩ := mem_fwd h
  refine ⟨g, tok, hop, rfl, ?_, ?_⟩
  · cases hi : i.hop with
    | none => rw [hi] at hh; exact Or.inl ⟨rfl, (Option.some.inj hh).symm⟩
    | some k =>
      cases k with
      | zero => rw [hi] at hh; cases hh
      | succ k => rw [hi] at hh; exact Or.inr ⟨k, rfl, (Option.some.inj hh).symm⟩
  · intro h0
    obtain ⟨fc, hfc, _, hz, _⟩ := usableOut_spec hu
    simp only [nonLocal, hfc]
    cases hl : fc.isLocal with
    | true => rfl
    | false => exact absurd ⟨h0, hl⟩ hz

/-- an Interest arriving with hop limit zero is not forwarded (and changes nothing) -/
theorem hop0_not_forwarded (s : St) (f : FaceId) (i : Interest) (tie : List FaceId) (pick : Nat)
    (h : i.hop = some 0) : step s (.interest f i tie pick) = (s, []) :=
  onInterest_of_not_accepted tie pick fun _ _ _ hacc => nomatch (congrArg hopStep h).symm.trans hacc.hopLimit

/-- an Interest lacking a nonce is not forwarded (and changes nothing) -/
theorem no_nonce_not_forwarded (s : St) (f : FaceId) (i : Interest) (tie : List FaceId) (pick : Nat)
    (h : i.nonce = none) : step s (.interest f i tie pick) = (s, []) :=
  onInterest_of_not_accepted tie pick fun _ _ _ hacc => nomatch h.symm.trans hacc.hasNonce

/-- an Interest whose (name, nonce) is recorded as dead is not forwarded (and changes nothing) -/
theorem dead_nonce_not_forwarded (s : St) (f : FaceId) (i : Interest) (tie : List FaceId) (pick : Nat) (nonce : Nat)
    (hn : i.nonce = some nonce) (hd : dnlHas s.dnl i.name nonce = true) :
    step s (.interest f i tie pick) = (s, []) :=
  onInterest_of_not_accepted tie pick fun _ _ _ hacc => by
    cases hn.symm.trans hacc.hasNonce
    exact nomatch hd.symm.trans hacc.alive

/-- an Interest repeating the nonce of one still pending from ANOTHER face (same PIT entry: same name,
    CanBePrefix, MustBeFresh, forwarding hint) is not forwarded, is not answered from the cache, and
    leaves the PIT as it was -/
theorem dup_nonce_not_forwarded (s : St) (f : FaceId) (i : Interest) (tie : List FaceId) (pick : Nat) (nonce : Nat)
    (e : Entry) (r : InRec)
    (hn : i.nonce = some nonce)
    (he : s.pit.find? (·.hasKey i.name i.cbp i.mbf (fhName s.regions i.hints)) = some e)
    (hr : r ∈ e.inRecs) (hface : r.face ≠ f) (hnonce : r.nonce = nonce) :
    step s (.interest f i tie pick) = (s, []) :=
  onInterest_of_not_accepted tie pick fun _ _ _ hacc => by
    cases hn.symm.trans hacc.hasNonce
    exact List.any_eq_false.mp (hacc.nodup e he) r hr
      (Bool.and_eq_true_iff.mpr ⟨bne_iff_ne.mpr hface, beq_iff_eq.mpr hnonce⟩)

example :
    let e : Entry := ⟨[⟨8, [97]⟩], false, false, none, 0, [⟨2, 7, 1000, []⟩], [], false, some 1000⟩
    let s : St := { faces := [⟨1, true, .p2p⟩, ⟨2, true, .p2p⟩, ⟨3, true, .p2p⟩], fib := [([], [(3, 1)])], pit := [e], nextTok := 1 }
    step s (.interest 1 { name := [⟨8, [97]⟩], nonce := some 7 } [] 0) = (s, []) := by decide

/-- start of the `WF` theorems: nothing is forwarded, or `Stage` and what the strategy picked and `usableOut` let pass -/
theorem fwd_cases (s : St) (hwf : WF s) (f : FaceId) (i : Interest) (tie : List FaceId) (pick : Nat)
    (hnh : i.nextHop = none) :
    fwd s f i tie pick = [] ∨
    ∃ inF hop nonce s' tok e', Accepted s f i inF hop nonce ∧ Stage s f i nonce s' tok e' ∧
      suppressed s.now e' nonce = false ∧ fwd s f i tie pick =
        ((strategyHops s i e' nonce hop f tie).filter fun nh => usableOut s.faces f i.name hop nh.1).map
          fun nh => fwdSend i hop tok nh.1 := by
  unfold fwd
  simp only [step]
  rcases onInterest_drop_or_accepted s f i tie pick with h | ⟨inF, hop, nonce, hacc⟩
  · left; rw [h]; rfl
  rcases onInterest_stage hwf tie pick hacc with ⟨ce, cs', _, _, h⟩ | ⟨s', tok, e', hst, heq⟩
  · left
    rw [h, List.filter_eq_nil_iff]
    intro a ha
    rw [dataSends_isData a ha]; exact Bool.false_ne_true
  · rw [heq, hst.sends hnh]
    cases hsup : suppressed s.now e' nonce with
    | true => left; rw [strategyHops_suppressed hop f tie hsup]; rfl
    | false =>
      refine Or.inr ⟨inF, hop, nonce, s', tok, e', hacc, hst, hsup, List.filter_eq_self.mpr fun a ha => ?_⟩
      obtain ⟨x, _, rfl⟩ := List.mem_map.mp ha
      rfl

/-- A different-nonce retransmission inside the suppression interval is aggregated, not forwarded:
    if the PIT entry of the Interest holds an out-record with another nonce sent less than the
    suppression interval ago, no Interest leaves (the in-record is still added / refreshed). -/
theorem retx_suppressed_within_interval (s : St) (hwf : WF s) (f : FaceId) (i : Interest) (tie : List FaceId) (pick : Nat)
    (nonce : Nat) (e : Entry) (r : OutRec)
    (hn : i.nonce = some nonce) (hnh : i.nextHop = none)
    (he : preEntry s i = some e) (hr : r ∈ e.outRecs) (hdiff : r.nonce ≠ nonce)
    (hint : s.now < r.sentAt + suppressionInterval) :
    fwd s f i tie pick = [] := by
  rcases fwd_cases s hwf f i tie pick hnh with h | ⟨inF, hop, nonce', s', tok, e', hacc, hst, hsup, _⟩
  · exact h
  · cases hn.symm.trans hacc.hasNonce
    refine absurd ?_ (Bool.eq_false_iff.mp hsup)
    unfold suppressed
    rw [hst.outs, he]
    simp only [Option.map_some, Option.getD_some, List.any_eq_true, Bool.and_eq_true, bne_iff_ne, decide_eq_true_eq]
    exact ⟨r, hr, hdiff, hint⟩

example :
    let e : Entry := ⟨[⟨8, [97]⟩], false, false, none, 0, [⟨1, 7, 4000, []⟩], [⟨3, 7, 0, 4000, [⟨8, [97]⟩]⟩], false, some 4000⟩
    let s : St := { now := 100, faces := [⟨1, true, .p2p⟩, ⟨3, true, .p2p⟩], fib := [([], [(3, 1)])], pit := [e], nextTok := 1 }
    (step s (.interest 1 { name := [⟨8, [97]⟩], nonce := some 8 } [] 0)).2 = [] := by decide

/-- The first Interest for content not in the cache that has a usable next hop is forwarded, with its
    hop limit reduced by one: no PIT entry for it yet, nonce present and not dead, hop limit not zero,
    arrival scope respected, Content Store miss, and some next hop of the longest-prefix FIB entry
    passes the outgoing pipeline ⇒ at least one copy leaves, every send is such a copy carrying the new
    entry's token. Both strategies, every tie order. -/
theorem first_interest_forwarded_hop_minus_one (s : St) (hwf : WF s) (f : FaceId) (i : Interest) (tie : List FaceId)
    (pick : Nat) (inF : Face) (hop : Option Nat) (nonce : Nat) (g : FaceId) (c : Nat)
    (hF : faceOf s.faces f = some inF) (hsc : (!inF.isLocal && isLocalhost i.name) = false)
    (hhop : hopStep i.hop = some hop) (hn : i.nonce = some nonce) (hdead : dnlHas s.dnl i.name nonce = false)
    (hfirst : preEntry s i = none) (hcs : s.csServe = false ∨ csFind s.now s.cs i pick = none)
    (hnh : i.nextHop = none)
    (hg : (g, c) ∈ lpmNextHops s.fib (lookupName s.regions i)) (hu : usableOut s.faces f i.name hop g = true) :
    (step s (.interest f i tie pick)).2 ≠ [] ∧
    ∀ snd ∈ (step s (.interest f i tie pick)).2, ∃ g', snd = .interest g' i.name hop (.mine s.nextTok) := by
  obtain ⟨s', e', hst, _, heq⟩ := onInterest_first hwf tie
    ⟨hF, hhop, hsc, hn, hdead, fun e he => nomatch hfirst.symm.trans he⟩ hfirst hcs
  simp only [step]
  rw [heq, hst.sends hnh]
  constructor
  · -- no in-record yet, so `g` is offered; no out-record yet, so nothing is suppressed
    have hall : (g, c) ∈ allowedNhs s i e' f :=
      mem_allowed_of_not_held hst hg fun ⟨_, e, he, _⟩ => nomatch hfirst.symm.trans he
    have hsup : suppressed s.now e' nonce = false := by
      unfold suppressed; rw [hst.outs, hfirst]; rfl
    intro hnil
    rw [List.map_eq_nil_iff, List.filter_eq_nil_iff] at hnil
    cases hs : lpmStrat s.strat i.name with
    | multi =>
      rw [strategyHops_multi hop f tie hsup hs] at hnil
      exact hnil (g, c) hall hu
    | best =>
      rw [strategyHops_best hop f tie hsup hs] at hnil
      cases hfnd : (sortNh tie (allowedNhs s i e' f)).find? (fun nh => usableOut s.faces f i.name hop nh.1) with
      | none => exact List.find?_eq_none.mp hfnd (g, c) (mem_sortNh.mpr hall) hu
      | some nh =>
        exact hnil nh (by rw [hfnd]; exact List.mem_singleton.mpr rfl)
          (List.find?_some (p := fun nh : FaceId × Nat => usableOut s.faces f i.name hop nh.1) hfnd)
  · intro snd h
    obtain ⟨nh, _, rfl⟩ := List.mem_map.mp h
    exact ⟨nh.1, rfl⟩

example :
    let s : St := { faces := [⟨1, true, .p2p⟩, ⟨2, false, .p2p⟩], fib := [([], [(2, 1)])] }
    (step s (.interest 1 { name := [⟨8, [97]⟩], nonce := some 5, hop := some 4 } [] 0)).2 =
      [.interest 2 [⟨8, [97]⟩] (some 3) (.mine 0)] := by decide

/-- best-route uses the lowest-cost usable next hop: exactly one copy is sent, and its cost is minimal
    among the next hops of the longest-prefix FIB entry that pass the outgoing pipeline and are not
    held back (a face other than the arrival face that already has an in-record in the entry) —
    for EVERY order `tie` in which the unstable sort may leave equal costs. -/
theorem bestroute_min_cost (s : St) (hwf : WF s) (f : FaceId) (i : Interest) (tie : List FaceId) (pick : Nat)
    (hstrat : lpmStrat s.strat i.name = .best) (hnh : i.nextHop = none)
    (snd : Send) (h : snd ∈ fwd s f i tie pick) :
    fwd s f i tie pick = [snd] ∧
    ∃ hop c, hopStep i.hop = some hop ∧ (snd.face, c) ∈ lpmNextHops s.fib (lookupName s.regions i) ∧
      ∀ g' c', (g', c') ∈ lpmNextHops s.fib (lookupName s.regions i) →
        usableOut s.faces f i.name hop g' = true → ¬heldBy s i f g' → c ≤ c' := by
  rcases fwd_cases s hwf f i tie pick hnh with h0 | ⟨inF, hop, nonce, s', tok, e', hacc, hst, hsup, heq⟩
  · rw [h0] at h; cases h
  · rw [heq, strategyHops_best hop f tie hsup hstrat] at h ⊢
    cases hfnd : (sortNh tie (allowedNhs s i e' f)).find? (fun nh => usableOut s.faces f i.name hop nh.1) with
    | none => rw [hfnd] at h; cases h
    | some nh =>
      -- `nh` passes the test it was found by, so filtering `[nh]` again keeps it
      simp only [hfnd, Option.toList_some, List.filter_cons, List.find?_some hfnd, if_true, List.filter_nil,
        List.map_cons, List.map_nil, List.mem_singleton] at h ⊢
      subst h
      have hmem := mem_sortNh.mp (List.mem_of_find?_eq_some hfnd)
      refine ⟨rfl, hop, nh.2, hacc.hopLimit, (List.mem_filter.mp hmem).1, fun g' c' hg' hu' hfree => ?_⟩
      exact find_first_le (sorted_sortNh tie _) hfnd (mem_sortNh.mpr (mem_allowed_of_not_held hst hg' hfree)) hu'

example :
    let s : St := { faces := [⟨1, true, .p2p⟩, ⟨2, false, .p2p⟩, ⟨3, false, .p2p⟩, ⟨4, false, .p2p⟩],
                    fib := [([], [(2, 5), (1, 0), (3, 1), (4, 1)])] }
    (step s (.interest 1 { name := [⟨8, [97]⟩], nonce := some 5 } [] 0)).2 = [.interest 3 [⟨8, [97]⟩] none (.mine 0)] ∧
    (step s (.interest 1 { name := [⟨8, [97]⟩], nonce := some 5 } [4] 0)).2 = [.interest 4 [⟨8, [97]⟩] none (.mine 0)] := by decide

/-- multicast uses all of them: when multicast forwards at all, every next hop of the longest-prefix FIB
    entry that passes the outgoing pipeline and is not held back receives a copy. -/
theorem multicast_all (s : St) (hwf : WF s) (f : FaceId) (i : Interest) (tie : List FaceId) (pick : Nat)
    (hstrat : lpmStrat s.strat i.name = .multi) (hnh : i.nextHop = none)
    (snd : Send) (h : snd ∈ fwd s f i tie pick) :
    ∃ hop tok, hopStep i.hop = some hop ∧
      ∀ g' c', (g', c') ∈ lpmNextHops s.fib (lookupName s.regions i) →
        usableOut s.faces f i.name hop g' = true → ¬heldBy s i f g' →
        Send.interest g' i.name hop (.mine tok) ∈ fwd s f i tie pick := by
  rcases fwd_cases s hwf f i tie pick hnh with h0 | ⟨inF, hop, nonce, s', tok, e', hacc, hst, hsup, heq⟩
  · rw [h0] at h; cases h
  · refine ⟨hop, tok, hacc.hopLimit, ?_⟩
    rw [heq, strategyHops_multi hop f tie hsup hstrat]
    intro g' c' hg' hu' hfree
    exact List.mem_map.mpr ⟨(g', c'), List.mem_filter.mpr ⟨mem_allowed_of_not_held hst hg' hfree, hu'⟩, rfl⟩

example :
    let s : St := { faces := [⟨1, true, .p2p⟩, ⟨2, false, .p2p⟩, ⟨3, false, .p2p⟩, ⟨4, true, .adhoc⟩],
                    fib := [([], [(2, 5), (1, 0), (3, 1), (9, 1), (4, 7)])], strat := [([], .multi)] }
    (step s (.interest 1 { name := [⟨8, [97]⟩], nonce := some 5 } [] 0)).2 =
      [.interest 2 [⟨8, [97]⟩] none (.mine 0), .interest 3 [⟨8, [97]⟩] none (.mine 0), .interest 4 [⟨8, [97]⟩] none (.mine 0)] := by decide

end Ndn.Fw.C02
