/-
  C14/Pattern.lean — name PATTERNS (`std/encoding/name_pattern.go` NamePatternFromStr,
  `name_component.go` ComponentPatternFromStr): a pattern is a list of components and `<type=tag>` /
  `<tag>` placeholders.  Only the parser is modelled (the schema tree takes its paths from configuration
  text through it): it shares the '/'-splitting and the component parser with NameFromStr.
-/
import NdnVerif.C14.Model
namespace Ndn.C14

inductive CPat where
  | comp (c : Component)
  | pat (typ : Nat) (tag : Bytes)
deriving Repr, DecidableEq

/-- `strings.Split(s, "=")` -/
def splitEqAll : Bytes → List Bytes
  | [] => [[]]
  | c :: t =>
    if c = 61 then [] :: splitEqAll t
    else match splitEqAll t with
      | h :: tl => (c :: h) :: tl
      | [] => [[c]]

/-- `ComponentPatternFromStr` -/
def compPatFromStr (s : Bytes) : Res CPat :=
  let asComp : Res CPat := match compFromStr s with
    | .ok c => .ok (.comp c)
    | .err => .err
    | .panic => .panic
  match s with
  | [] => asComp
  | c :: _ =>
    if c ≠ 60 then asComp
    else if s.getLast? ≠ some 62 then .err
    else
      match splitEqAll ((s.drop 1).dropLast) with
      | [tag] => .ok (.pat 8 tag)
      | [t, tag] =>
        match parseCompType t with
        | .ok (typ, _) => .ok (.pat typ tag)
        | .err => .err
        | .panic => .panic
      | _ => .err

/-- `NamePatternFromStr` (after fix F-14c: the trailing-empty test is guarded by `len(strs) > 0`; the pinned
    tree indexed `strs[len(strs)-1]` unconditionally and panicked on the empty string) -/
def namePatFromStr (s : Bytes) : Res (List CPat) :=
  let strs := splitSlash s
  let strs := match strs with
    | [] :: t => t
    | l => l
  let strs := if strs.getLast? = some [] then strs.dropLast else strs
  mapRes compPatFromStr strs

/-- the pinned tree's version, with the unguarded Go index -/
def namePatFromStrPinned (s : Bytes) : Res (List CPat) :=
  let strs := splitSlash s
  let strs := match strs with
    | [] :: t => t
    | l => l
  match strs.getLast? with
  | none => .panic                       -- strs[len(strs)-1] with len(strs) = 0
  | some l => mapRes compPatFromStr (if l = [] then strs.dropLast else strs)

end Ndn.C14
