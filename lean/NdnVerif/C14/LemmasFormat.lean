import NdnVerif.C14.LemmasEnc
namespace Ndn.C14

/-- neither '/' (47) nor '=' (61) -/
@[reducible] def plain (c : Nat) : Prop := c ≠ 47 ∧ c ≠ 61

theorem not_mem_of_plain {l : Bytes} (h : ∀ c ∈ l, plain c) : 61 ∉ l ∧ 47 ∉ l :=
  ⟨fun m => (h 61 m).2 rfl, fun m => (h 47 m).1 rfl⟩

theorem hexDig_hexUp : ∀ x < 16, hexDig (hexUp x) = some x := by decide
theorem hexDig_hexLo : ∀ x < 16, hexDig (hexLo x) = some x := by decide

/-- the hex digits of either case, of any number: at least '0', and the letters lie beyond '=' -/
theorem hexUp_plain (n : Nat) : plain (hexUp n) := by
  unfold hexUp; split <;> omega

theorem hexLo_plain (n : Nat) : plain (hexLo n) := by
  unfold hexLo; split <;> omega

theorem nibbles {b : Nat} (hb : b < 256) : b / 16 < 16 ∧ b % 16 < 16 ∧ b / 16 * 16 + b % 16 = b :=
  ⟨Nat.div_lt_of_lt_mul hb, Nat.mod_lt b (by decide), Nat.div_add_mod' b 16⟩

theorem isLegal_not_special {c : Nat} (h : isLegal c = true) : isSpecial c = false := by
  cases hs : isSpecial c with
  | false => rfl
  | true =>
    simp only [isSpecial, Bool.or_eq_true, beq_iff_eq] at hs
    rcases hs with ((rfl | rfl) | rfl) | rfl <;> exact absurd h (by decide)

theorem isLegal_plain {c : Nat} (h : isLegal c = true) : plain c :=
  ⟨fun e => by rw [e] at h; exact absurd h (by decide), fun e => by rw [e] at h; exact absurd h (by decide)⟩

theorem isDigit_add : ∀ d < 10, isDigit (48 + d) = true := by decide

theorem isDigit_bounds {c : Nat} (h : isDigit c = true) : 48 ≤ c ∧ c ≤ 57 := by
  simpa only [isDigit, Bool.and_eq_true, decide_eq_true_eq] using h

theorem not_isAlpha_of_isDigit {c : Nat} (h : isDigit c = true) : isAlpha c = false := by
  have ⟨_, _⟩ := isDigit_bounds h
  refine Bool.eq_false_iff.mpr fun ha => ?_
  simp only [isAlpha, Bool.or_eq_true, Bool.and_eq_true, decide_eq_true_eq] at ha
  omega

theorem flatMap_plain {enc : Nat → Bytes} (henc : ∀ b, ∀ c ∈ enc b, plain c) (v : Bytes) :
    61 ∉ v.flatMap enc ∧ 47 ∉ v.flatMap enc := not_mem_of_plain fun c hc =>
  let ⟨b, _, hcb⟩ := List.mem_flatMap.mp hc
  henc b c hcb

def escByte (b : Nat) : Bytes := if isLegal b then [b] else [37, hexUp (b / 16), hexUp (b % 16)]

theorem textToStr_eq (v : Bytes) : textToStr v = v.flatMap escByte := rfl

theorem textToStr_plain (v : Bytes) : 61 ∉ textToStr v ∧ 47 ∉ textToStr v := by
  refine flatMap_plain (fun b => ?_) v
  split
  · rename_i hl
    exact fun c hc => List.mem_singleton.mp hc ▸ isLegal_plain hl
  · intro c hc
    simp only [List.mem_cons, List.not_mem_nil, or_false] at hc
    rcases hc with rfl | rfl | rfl
    · decide
    · exact hexUp_plain _
    · exact hexUp_plain _

theorem textLoop_escByte (b : Nat) (hb : b < 256) (s : Bytes) :
    textLoop (escByte b ++ s) = (textLoop s).map (b :: ·) := by
  obtain ⟨h1, h2, h3⟩ := nibbles hb
  unfold escByte
  split
  · rename_i hl
    rw [List.singleton_append, textLoop.eq_def]
    simp only [if_pos hl]
  · -- '%' is not legal; the digits read back as the halves of `b`
    rw [List.cons_append, List.cons_append, List.cons_append, List.nil_append, textLoop.eq_def]
    simp only [if_neg (show ¬ isLegal 37 = true by decide), if_pos, hexDig_hexUp _ h1, hexDig_hexUp _ h2, h3]

theorem textLoop_textToStr (v : Bytes) (hv : Bytes.WF v) : textLoop (textToStr v) = some v :=
  parse_flatMap (by rw [textLoop]) textLoop_escByte v hv

theorem textLoop_of_no_special (s : Bytes) (h : s.any isSpecial = false) : textLoop s = some s := by
  induction s with
  | nil => rfl
  | cons c rest ih =>
    rw [List.any_cons, Bool.or_eq_false_iff] at h
    have h37 : c ≠ 37 := fun e => absurd (e ▸ h.1) (by decide)
    rw [textLoop.eq_def]
    simp only [if_neg h37, h.1, ih h.2, Bool.false_eq_true, if_false, Option.map_some, ite_self]

/-- the test for special characters in `FromString` only saves work -/
theorem textFromStr_eq_textLoop (s : Bytes) : textFromStr s = textLoop s := by
  unfold textFromStr
  by_cases h : s.any isSpecial = true
  · rw [if_pos h]
  · rw [if_neg h, textLoop_of_no_special s (Bool.not_eq_true _ ▸ h)]

theorem textFromStr_textToStr (v : Bytes) (hv : Bytes.WF v) : textFromStr (textToStr v) = some v :=
  (textFromStr_eq_textLoop _).trans (textLoop_textToStr v hv)

theorem textToStr_eq_nil {v : Bytes} : textToStr v = [] ↔ v = [] := by
  cases v with
  | nil => exact ⟨fun _ => rfl, fun _ => rfl⟩
  | cons b v =>
    rw [textToStr_eq, List.flatMap_cons, escByte]
    split <;> simp

theorem decStr_digits (n : Nat) : ∀ c ∈ decStr n, isDigit c = true := by
  fun_induction decStr n with
  | case1 n h => exact fun c hc => List.mem_singleton.mp hc ▸ isDigit_add n h
  | case2 n h ih =>
    intro c hc
    rcases List.mem_append.mp hc with hc | hc
    · exact ih c hc
    · exact List.mem_singleton.mp hc ▸ isDigit_add _ (Nat.mod_lt n (by decide))

theorem decStr_ne_nil (n : Nat) : decStr n ≠ [] := by
  unfold decStr; split <;> simp

theorem decStr_fold (n : Nat) : (decStr n).foldl (fun acc c => acc * 10 + (c - 48)) 0 = n := by
  fun_induction decStr n with
  | case1 n h => rw [List.foldl_cons, List.foldl_nil, Nat.zero_mul, Nat.zero_add, Nat.add_sub_cancel_left]
  | case2 n h ih =>
    rw [List.foldl_append, ih, List.foldl_cons, List.foldl_nil, Nat.add_sub_cancel_left]
    exact Nat.div_add_mod' n 10

theorem parseDec_decStr (n : Nat) (h : n < 2 ^ 64) : parseDec (decStr n) = some n := by
  unfold parseDec
  have h1 : ¬ (decStr n = [] ∨ ¬ (decStr n).all isDigit = true) :=
    fun hh => hh.elim (decStr_ne_nil n) fun hh => hh (List.all_eq_true.mpr (decStr_digits n))
  rw [if_neg h1]
  simp only [decStr_fold]
  rw [if_pos h]

theorem decStr_plain (n : Nat) : 61 ∉ decStr n ∧ 47 ∉ decStr n := not_mem_of_plain fun c hc =>
  have ⟨_, _⟩ := isDigit_bounds (decStr_digits n c hc)
  ⟨by omega, by omega⟩

theorem decVal_lt (v : Bytes) : decVal v < 2 ^ 64 := by
  rcases v.eq_nil_or_concat with rfl | ⟨l, b, rfl⟩
  · exact Nat.two_pow_pos 64
  · rw [decVal, List.concat_eq_append, List.foldl_append]
    exact Nat.mod_lt _ (Nat.two_pow_pos 64)

theorem hexToStr_eq (v : Bytes) : hexToStr v = v.flatMap fun b => [hexLo (b / 16), hexLo (b % 16)] := rfl

theorem hexPairs_hexToStr (v : Bytes) (hv : Bytes.WF v) : hexPairs (hexToStr v) = some v := by
  refine parse_flatMap (by rw [hexPairs]) (fun b hb s => ?_) v hv
  obtain ⟨h1, h2, h3⟩ := nibbles hb
  rw [List.cons_append, List.cons_append, List.nil_append, hexPairs]
  simp only [hexDig_hexLo _ h1, hexDig_hexLo _ h2, h3]

theorem hexToStr_length (v : Bytes) : (hexToStr v).length = 2 * v.length := by
  induction v with
  | nil => rfl
  | cons b v ih =>
    rw [hexToStr_eq, List.flatMap_cons, ← hexToStr_eq, List.length_append, ih, List.length_cons]
    exact (Nat.mul_succ 2 _).trans (Nat.add_comm _ _) |>.symm

theorem hexFromStr_hexToStr (v : Bytes) (hv : Bytes.WF v) : hexFromStr (hexToStr v) = some v := by
  unfold hexFromStr
  rw [hexToStr_length, Nat.mul_mod_right, if_neg (not_not_intro rfl)]
  exact hexPairs_hexToStr v hv

theorem hexToStr_plain (v : Bytes) : 61 ∉ hexToStr v ∧ 47 ∉ hexToStr v := by
  refine flatMap_plain (fun b c hc => ?_) v
  simp only [List.mem_cons, List.not_mem_nil, or_false] at hc
  rcases hc with rfl | rfl
  · exact hexLo_plain _
  · exact hexLo_plain _

/-- `hok`: what `compUriOk` asks of a value -/
theorem fmt_roundtrip (f : VFmt) (v : Bytes) (hv : Bytes.WF v) (hok : f = .dec → v = encNat (decVal v)) :
    f.fromStr (f.toStr v) = some v := by
  cases f with
  | text => exact textFromStr_textToStr v hv
  | hex => exact hexFromStr_hexToStr v hv
  | dec =>
    simp only [VFmt.fromStr, VFmt.toStr, decFromStr, decToStr]
    rw [parseDec_decStr _ (decVal_lt v)]
    exact congrArg some (hok rfl).symm

theorem fmt_plain (f : VFmt) (v : Bytes) : 61 ∉ f.toStr v ∧ 47 ∉ f.toStr v := by
  cases f with
  | text => exact textToStr_plain v
  | hex => exact hexToStr_plain v
  | dec => exact decStr_plain _

end Ndn.C14
