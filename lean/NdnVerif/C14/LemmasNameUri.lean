/- Each component string is preceded by '/'; the parser drops the leading and one trailing empty string. -/
import NdnVerif.C14.LemmasCompUri
namespace Ndn.C14

theorem splitSlash_ne_nil (s : Bytes) : splitSlash s ≠ [] := by
  cases s with
  | nil => nofun
  | cons c t =>
    unfold splitSlash
    split
    · nofun
    · split <;> nofun

theorem splitSlash_append (s r : Bytes) (h : 47 ∉ s) :
    splitSlash (s ++ 47 :: r) = s :: splitSlash r := by
  induction s with
  | nil => rw [List.nil_append, splitSlash, if_pos rfl]
  | cons c t ih =>
    rw [List.cons_append, splitSlash, if_neg fun (e : c = 47) => h (e ▸ List.mem_cons_self),
      ih fun m => h (List.mem_cons_of_mem c m)]

theorem splitSlash_plain (s : Bytes) (h : 47 ∉ s) : splitSlash s = [s] := by
  induction s with
  | nil => rfl
  | cons c t ih =>
    rw [splitSlash, if_neg fun (e : c = 47) => h (e ▸ List.mem_cons_self), ih fun m => h (List.mem_cons_of_mem c m)]

theorem splitSlash_join (strs : List Bytes) (h : ∀ s ∈ strs, 47 ∉ s) :
    splitSlash (strs.flatMap (47 :: ·)) = [] :: strs := by
  cases strs with
  | nil => rfl
  | cons s rest =>
    rw [List.flatMap_cons, List.cons_append, splitSlash, if_pos rfl]
    congr 1
    induction rest generalizing s with
    | nil => rw [List.flatMap_nil, List.append_nil]; exact splitSlash_plain s (h s List.mem_cons_self)
    | cons s2 rest ih =>
      rw [List.flatMap_cons, List.cons_append, splitSlash_append s _ (h s List.mem_cons_self),
        ih s2 fun x hx => h x (List.mem_cons_of_mem s hx)]

theorem nameFromStr_join (strs : List Bytes) (h : ∀ s ∈ strs, 47 ∉ s) :
    nameFromStr (strs.flatMap (47 :: ·)) =
      mapRes compFromStr (if strs.getLast? = some [] then strs.dropLast else strs) := by
  unfold nameFromStr
  rw [splitSlash_join strs h]

theorem mapRes_map_ok {α β : Type} (f : α → Res β) (g : β → α) (l : List β)
    (h : ∀ b ∈ l, f (g b) = .ok b) : mapRes f (l.map g) = .ok l := by
  induction l with
  | nil => rfl
  | cons b bs ih =>
    rw [List.forall_mem_cons] at h
    rw [List.map_cons, mapRes, h.1, ih h.2]

end Ndn.C14
