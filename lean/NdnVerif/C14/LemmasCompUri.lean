import NdnVerif.C14.Spec
import NdnVerif.C14.LemmasFormat
namespace Ndn.C14

theorem conv_name_spec : ∀ e ∈ conventions,
    parseCompType e.2.1 = .ok (e.1, e.2.2) ∧ 61 ∉ e.2.1 ∧ 47 ∉ e.2.1 := by decide +kernel

theorem convByType_mem {t : Nat} {nm : Bytes} {f : VFmt} (h : convByType t = some (nm, f)) :
    (t, nm, f) ∈ conventions := by
  obtain ⟨⟨t', nm', f'⟩, hf, he⟩ := Option.map_eq_some_iff.mp h
  cases he
  have ht := List.find?_some hf
  rw [← beq_iff_eq.mp ht]
  exact List.mem_of_find?_eq_some hf

theorem cutEq_with (ts v : Bytes) (h1 : 61 ∉ ts) : cutEq (ts ++ 61 :: v) = some (ts, v) := by
  induction ts with
  | nil => rw [List.nil_append, cutEq, if_pos rfl]
  | cons x xs ih =>
    rw [List.cons_append, cutEq, if_neg fun (e : x = 61) => h1 (e ▸ List.mem_cons_self),
      ih fun m => h1 (List.mem_cons_of_mem x m)]
    rfl

theorem cutEq_without (v : Bytes) (h : 61 ∉ v) : cutEq v = none := by
  induction v with
  | nil => rfl
  | cons x xs ih =>
    rw [cutEq, if_neg fun (e : x = 61) => h (e ▸ List.mem_cons_self), ih fun m => h (List.mem_cons_of_mem x m)]
    rfl

theorem splitEq_with (ts v : Bytes) (h1 : 61 ∉ ts) (h2 : 61 ∉ v) :
    splitEq (ts ++ 61 :: v) = some (some ts, v) := by
  unfold splitEq
  rw [cutEq_with ts v h1]
  simp [h2]

theorem splitEq_without (v : Bytes) (h : 61 ∉ v) : splitEq v = some (none, v) := by
  unfold splitEq
  rw [cutEq_without v h]

theorem compFromStr_typed {ts s v : Bytes} {t : Nat} {f : VFmt} (hts : 61 ∉ ts) (hs : 61 ∉ s)
    (hp : parseCompType ts = .ok (t, f)) (ht : 1 ≤ t ∧ t ≤ 65535) (hv : f.fromStr s = some v) :
    compFromStr (ts ++ [61] ++ s) = .ok ⟨t, v⟩ := by
  rw [List.append_assoc, List.singleton_append, compFromStr, splitEq_with ts s hts hs]
  simp only [hp]
  rw [if_neg (not_or.mpr ⟨Nat.ne_of_gt ht.1, Nat.not_lt.mpr ht.2⟩), hv]

theorem compFromStr_generic {s v : Bytes} (hs : 61 ∉ s) (hv : textFromStr s = some v) :
    compFromStr s = .ok ⟨8, v⟩ := by
  rw [compFromStr, splitEq_without s hs]
  simp only [hv]

theorem parseCompType_decStr (t : Nat) (h : t < 2 ^ 64) : parseCompType (decStr t) = .ok (t, .text) := by
  unfold parseCompType
  cases hd : decStr t with
  | nil => exact absurd hd (decStr_ne_nil t)
  | cons c rest =>
    have hna := not_isAlpha_of_isDigit (decStr_digits t c (hd ▸ List.mem_cons_self))
    simp only [List.length_cons, Nat.add_one_ne_zero, if_false, goIndex, List.getElem?_cons_zero, hna,
      Bool.false_eq_true]
    rw [← hd, parseDec_decStr t h]

theorem compUriOk_range {c : Component} (hok : compUriOk c = true) : 1 ≤ c.typ ∧ c.typ ≤ 65535 :=
  of_decide_eq_true (Bool.and_eq_true_iff.mp hok).1

/-- generic text, or `type=value` whose type string (convention name, else number) parses back to type and format -/
theorem compToStr_cases (c : Component) (hok : compUriOk c = true) :
    (c.typ = 8 ∧ compToStr c = textToStr c.val) ∨
    ∃ ts f, compToStr c = ts ++ [61] ++ f.toStr c.val ∧ parseCompType ts = .ok (c.typ, f) ∧
      61 ∉ ts ∧ 47 ∉ ts ∧ (f = .dec → c.val = encNat (decVal c.val)) := by
  unfold compToStr
  cases hc : convByType c.typ with
  | some e =>
    obtain ⟨nm, f⟩ := e
    have hnm := conv_name_spec (c.typ, nm, f) (convByType_mem hc)
    have hfmt := (Bool.and_eq_true_iff.mp hok).2
    rw [hc] at hfmt
    refine .inr ⟨nm, f, rfl, hnm.1, hnm.2.1, hnm.2.2, ?_⟩
    rintro rfl
    exact of_decide_eq_true hfmt
  | none =>
    by_cases h8 : c.typ = 8
    · exact .inl ⟨h8, by rw [if_neg (not_not_intro h8)]; rfl⟩
    · have hd := decStr_plain c.typ
      have ht : c.typ < 2 ^ 64 := Nat.lt_of_le_of_lt (compUriOk_range hok).2 (by decide)
      exact .inr ⟨decStr c.typ, .text, by rw [if_pos h8]; rfl, parseCompType_decStr c.typ ht, hd.1, hd.2, nofun⟩

theorem compFromStr_compToStr (c : Component) (hv : Bytes.WF c.val) (hok : compUriOk c = true) :
    compFromStr (compToStr c) = .ok c := by
  rcases compToStr_cases c hok with ⟨h8, e⟩ | ⟨ts, f, e, hp, hts, _, hfok⟩
  · rw [e, compFromStr_generic (textToStr_plain c.val).1 (textFromStr_textToStr c.val hv), ← h8]
  · rw [e, compFromStr_typed hts (fmt_plain f c.val).1 hp (compUriOk_range hok)
      (fmt_roundtrip f c.val hv hfok)]

theorem compToStr_no_slash (c : Component) (hok : compUriOk c = true) : 47 ∉ compToStr c := by
  rcases compToStr_cases c hok with ⟨_, e⟩ | ⟨ts, f, e, _, _, hts, _⟩
  · rw [e]; exact (textToStr_plain c.val).2
  · rw [e, List.mem_append, List.mem_append, List.mem_singleton]
    exact fun h => h.elim (fun h => h.elim hts (by decide)) (fmt_plain f c.val).2

theorem compToStr_eq_nil {c : Component} (hok : compUriOk c = true) (h : compToStr c = []) :
    c.typ = 8 ∧ c.val = [] := by
  rcases compToStr_cases c hok with ⟨h8, e⟩ | ⟨ts, f, e, _⟩
  · exact ⟨h8, textToStr_eq_nil.mp (e ▸ h)⟩
  · rw [e, List.append_assoc] at h
    exact absurd (List.append_eq_nil_iff.mp h).2 (List.cons_ne_nil _ _)

end Ndn.C14
