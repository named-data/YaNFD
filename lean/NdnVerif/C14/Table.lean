/-
  C14/Table.lean — tables keyed on names (std/engine/basic/simple_trie.go NameTrie,
  std/object/store_memory.go memoryStoreNode): a node per distinct *key path*, where the key of a
  component is what the implementation puts into its `map[string]` (`compKey`).

  Observationally such a trie is an association list over key paths: `ExactMatch`/`find` returns the
  node reached by following `name.map key`, `MatchAlways`/`insert` creates it, `PrefixMatch` returns
  the deepest existing node along the path.  The property (C14: "tables key on these hashes and strings,
  so one counterexample silently conflates two names") is that the table distinguishes exactly the
  names that are not Equal, which holds iff the component key is injective.
-/
import NdnVerif.C14.Model
namespace Ndn.C14

/-- key paths already present, with the value stored at each -/
abbrev KTable (κ : Type) := List (List κ × Nat)

def KTable.find {κ} [DecidableEq κ] (t : KTable κ) (p : List κ) : Option Nat :=
  match t with
  | [] => none
  | (q, v) :: r => if q = p then some v else KTable.find r p

/-- insert the names in order (value = position); the class of name i is the value already stored
under its key path, else i.  Two names are in one class iff the table cannot tell them apart. -/
def classesAux {κ} [DecidableEq κ] (key : Component → κ) : KTable κ → Nat → List Name → List Nat
  | _, _, [] => []
  | t, i, n :: ns =>
    match t.find (n.map key) with
    | some j => j :: classesAux key t (i + 1) ns
    | none => i :: classesAux key ((n.map key, i) :: t) (i + 1) ns

def classes {κ} [DecidableEq κ] (key : Component → κ) (names : List Name) : List Nat :=
  classesAux key [] 0 names

/-- the specification: classes of `Equal` names (key = the component itself) -/
def eqClasses (names : List Name) : List Nat := classes id names

/-- length of the longest common prefix of two paths -/
def commonLen {κ} [DecidableEq κ] : List κ → List κ → Nat
  | a :: as, b :: bs => if a = b then commonLen as bs + 1 else 0
  | _, _ => 0

/-- depth of the node `PrefixMatch q` returns in a trie holding the paths of `names`:
the deepest existing node on q's path = the longest common prefix with any inserted path -/
def prefixDepth {κ} [DecidableEq κ] (key : Component → κ) (names : List Name) (q : Name) : Nat :=
  names.foldl (fun d n => max d (commonLen (n.map key) (q.map key))) 0

def specPrefixDepth (names : List Name) (q : Name) : Nat := prefixDepth id names q

/-- the key the implementation uses (after the repair of F-14b): the TLV encoding of the component -/
def compKey (c : Component) : Bytes := encComp c

/-- the key the pinned tree used: the URI form, `Component.String()` -/
def compKeyUri (c : Component) : Bytes := compToStr c

/- `key` is injective on the set `S` of components in use -/

section
variable {κ : Type _} {key : Component → κ} {S : Component → Prop}
  (hinj : ∀ a b, S a → S b → key a = key b → a = b)
include hinj

theorem map_key_inj {x y : Name} (hx : ∀ c ∈ x, S c) (hy : ∀ c ∈ y, S c) (h : x.map key = y.map key) : x = y := by
  induction x generalizing y with
  | nil => cases y with
    | nil => rfl
    | cons b bs => cases h
  | cons a as ih =>
    cases y with
    | nil => cases h
    | cons b bs =>
      rw [List.forall_mem_cons] at hx hy
      rw [List.map_cons, List.map_cons, List.cons.injEq] at h
      rw [hinj a b hx.1 hy.1 h.1, ih hx.2 hy.2 h.2]

theorem map_key_eq_iff {x y : Name} (hx : ∀ c ∈ x, S c) (hy : ∀ c ∈ y, S c) : x.map key = y.map key ↔ x = y :=
  ⟨map_key_inj hinj hx hy, congrArg _⟩

variable [DecidableEq κ]

theorem find_map_key (T : KTable Component) (hT : ∀ e ∈ T, ∀ c ∈ e.1, S c) (n : Name) (hn : ∀ c ∈ n, S c) :
    KTable.find (T.map fun e => (e.1.map key, e.2)) (n.map key) = KTable.find T n := by
  induction T with
  | nil => rfl
  | cons e r ih =>
    obtain ⟨q, v⟩ := e
    rw [List.forall_mem_cons] at hT
    simp only [List.map_cons, KTable.find]
    rw [ih hT.2]
    exact ite_congr (propext (map_key_eq_iff hinj hT.1 hn)) (fun _ => rfl) fun _ => rfl

theorem classesAux_map_key (names : List Name) (T : KTable Component) (i : Nat) (hT : ∀ e ∈ T, ∀ c ∈ e.1, S c)
    (hn : ∀ n ∈ names, ∀ c ∈ n, S c) :
    classesAux key (T.map fun e => (e.1.map key, e.2)) i names = classesAux id T i names := by
  induction names generalizing T i with
  | nil => rfl
  | cons n ns ih =>
    rw [List.forall_mem_cons] at hn
    simp only [classesAux, List.map_id]
    rw [find_map_key hinj T hT n hn.1]
    cases KTable.find T n with
    | some j => exact congrArg (j :: ·) (ih T (i + 1) hT hn.2)
    | none =>
      -- the image of `(n, i)`
      exact congrArg (i :: ·) (ih ((n, i) :: T) (i + 1) (List.forall_mem_cons.mpr ⟨hn.1, hT⟩) hn.2)

theorem commonLen_map (x y : Name) (hx : ∀ c ∈ x, S c) (hy : ∀ c ∈ y, S c) :
    commonLen (x.map key) (y.map key) = commonLen x y := by
  induction x generalizing y with
  | nil => cases y <;> rfl
  | cons a as ih =>
    cases y with
    | nil => rfl
    | cons b bs =>
      rw [List.forall_mem_cons] at hx hy
      simp only [List.map_cons, commonLen]
      rw [ih bs hx.2 hy.2]
      exact ite_congr (propext ⟨hinj a b hx.1 hy.1, congrArg key⟩) (fun _ => rfl) fun _ => rfl

end

/-- `t` is the keyed image of `t'`, entry by entry -/
def Rel {κ} (key : Component → κ) : KTable κ → KTable Component → Prop
  | [], [] => True
  | (p, v) :: r, (q, w) :: r' => p = q.map key ∧ v = w ∧ Rel key r r'
  | _, _ => False

theorem Rel.eq_map {κ} {key : Component → κ} : ∀ {t : KTable κ} {t' : KTable Component}, Rel key t t' → t = t'.map fun e => (e.1.map key, e.2)
  | [], [], _ => rfl
  | (_, _) :: _, (_, _) :: _, ⟨hp, hv, hr⟩ => by rw [hp, hv, hr.eq_map]; rfl
  | [], _ :: _, h | _ :: _, [], h => h.elim

theorem classesAux_rel {κ} [DecidableEq κ] (key : Component → κ) (S : Component → Prop)
    (hinj : ∀ a b, S a → S b → key a = key b → a = b) :
    ∀ (names : List Name) (t : KTable κ) (t' : KTable Component) (i : Nat), Rel key t t' →
      (∀ e ∈ t', ∀ c ∈ e.1, S c) → (∀ n ∈ names, ∀ c ∈ n, S c) →
      classesAux key t i names = classesAux id t' i names := by
  intro names t t' i hr hT hn
  rw [hr.eq_map]
  exact classesAux_map_key hinj names t' i hT hn

theorem foldl_depth_congr {κ} [DecidableEq κ] (key : Component → κ) (S : Component → Prop)
    (hinj : ∀ a b, S a → S b → key a = key b → a = b) (q : Name) (hq : ∀ c ∈ q, S c) :
    ∀ (names : List Name) (d : Nat), (∀ n ∈ names, ∀ c ∈ n, S c) →
      names.foldl (fun d n => max d (commonLen (n.map key) (q.map key))) d =
      names.foldl (fun d n => max d (commonLen (n.map id) (q.map id))) d := by
  intro names
  induction names with
  | nil => intros; rfl
  | cons n ns ih =>
    intro d hn
    rw [List.forall_mem_cons] at hn
    rw [List.foldl_cons, List.foldl_cons, commonLen_map hinj n q hn.1 hq,
      commonLen_map (key := id) (fun _ _ _ _ h => h) n q hn.1 hq]
    exact ih _ hn.2

/-! ### tables with removal: the set of names a table holds, under insert / remove / lookup -/

inductive TOp where
  | ins (n : Name)      -- insert unless present
  | rem (n : Name)      -- remove if present
  | has (n : Name)      -- lookup
deriving Repr

/-- a keyed table as a set of key paths; returns one observation character per operation:
    n(ew) / e(xisting), r(emoved) / m(issing), 1 / 0 -/
def tabrStep {κ} [DecidableEq κ] (key : Component → κ) (s : List (List κ)) : TOp → List (List κ) × Char
  | .ins n => if n.map key ∈ s then (s, 'e') else (s ++ [n.map key], 'n')
  | .rem n => if n.map key ∈ s then (s.filter (fun x => decide (x ≠ n.map key)), 'r') else (s, 'm')
  | .has n => (s, if n.map key ∈ s then '1' else '0')

def tabrRun {κ} [DecidableEq κ] (key : Component → κ) : List (List κ) → List TOp → List Char
  | _, [] => []
  | s, op :: ops => let r := tabrStep key s op; r.2 :: tabrRun key r.1 ops

def TOp.name : TOp → Name
  | .ins n | .rem n | .has n => n

section
variable {κ : Type _} {key : Component → κ} {S : Component → Prop}
  (hinj : ∀ a b, S a → S b → key a = key b → a = b)
include hinj

theorem mem_map_key {s : List Name} (hs : ∀ m ∈ s, ∀ c ∈ m, S c) {n : Name} (hn : ∀ c ∈ n, S c) :
    n.map key ∈ s.map (·.map key) ↔ n ∈ s := by
  rw [List.mem_map]
  exact ⟨fun ⟨m, hm, e⟩ => map_key_inj hinj (hs m hm) hn e ▸ hm, fun h => ⟨n, h, rfl⟩⟩

variable [DecidableEq κ]

theorem filter_map_key {s : List Name} (hs : ∀ m ∈ s, ∀ c ∈ m, S c) {n : Name} (hn : ∀ c ∈ n, S c) :
    (s.map (·.map key)).filter (fun x => decide (x ≠ n.map key)) =
      (s.filter (fun x => decide (x ≠ n))).map (·.map key) := by
  rw [List.filter_map]
  exact congrArg _ (List.filter_congr fun m hm => decide_eq_decide.mpr (not_congr (map_key_eq_iff hinj (hs m hm) hn)))

theorem tabrStep_map {s : List Name} (hs : ∀ m ∈ s, ∀ c ∈ m, S c) (op : TOp) (hop : ∀ c ∈ op.name, S c) :
    tabrStep key (s.map (·.map key)) op = ((tabrStep id s op).1.map (·.map key), (tabrStep id s op).2) ∧
      ∀ m ∈ (tabrStep id s op).1, ∀ c ∈ m, S c := by
  -- by hand: `simp` finds no `Decidable (n ∈ s)` at type `Name` to rewrite under the `if`
  have hid (n : Name) : n.map id ∈ s ↔ n ∈ s := by rw [List.map_id]
  have hm (n : Name) (hn : ∀ c ∈ n, S c) := mem_map_key hinj hs hn
  cases op with
  | ins n =>
    have hm := hm n hop
    simp only [tabrStep]
    by_cases hc : n ∈ s
    · rw [if_pos (hm.mpr hc), if_pos ((hid n).mpr hc)]
      exact ⟨rfl, hs⟩
    · rw [if_neg (mt hm.mp hc), if_neg (mt (hid n).mp hc), List.map_id]
      exact ⟨by rw [List.map_append]; rfl,
        fun m h => (List.mem_append.mp h).elim (hs m) fun h => List.mem_singleton.mp h ▸ hop⟩
  | rem n =>
    have hm := hm n hop
    simp only [tabrStep]
    by_cases hc : n ∈ s
    · rw [if_pos (hm.mpr hc), if_pos ((hid n).mpr hc), filter_map_key hinj hs (n := n) hop, List.map_id]
      exact ⟨rfl, fun m h => hs m (List.mem_filter.mp h).1⟩
    · rw [if_neg (mt hm.mp hc), if_neg (mt (hid n).mp hc)]
      exact ⟨rfl, hs⟩
  | has n =>
    have hm := hm n hop
    simp only [tabrStep]
    by_cases hc : n ∈ s
    · rw [if_pos (hm.mpr hc), if_pos ((hid n).mpr hc)]
      exact ⟨rfl, hs⟩
    · rw [if_neg (mt hm.mp hc), if_neg (mt (hid n).mp hc)]
      exact ⟨rfl, hs⟩

end

theorem tabrRun_map {κ} [DecidableEq κ] (key : Component → κ) (S : Component → Prop)
    (hinj : ∀ a b, S a → S b → key a = key b → a = b) :
    ∀ (ops : List TOp) (s : List Name), (∀ m ∈ s, ∀ c ∈ m, S c) → (∀ op ∈ ops, ∀ c ∈ op.name, S c) →
      tabrRun key (s.map (·.map key)) ops = tabrRun id s ops := by
  intro ops
  induction ops with
  | nil => intros; rfl
  | cons op ops ih =>
    intro s hs hops
    rw [List.forall_mem_cons] at hops
    obtain ⟨e, hs'⟩ := tabrStep_map hinj hs op hops.1
    simp only [tabrRun]
    rw [e]
    exact congrArg (_ :: ·) (ih _ hs' hops.2)

/-! ### prefix queries: newest version under a prefix (MemoryStore.Get(prefix=true)), Data matching in the PIT -/

/-- stored packets: (name, version), later puts of an Equal name replace earlier ones; answers with the index of the
    put that is served, `none` when nothing is stored at or under the query -/
def memNewest (puts : List (Name × Nat)) (q : Name) : Option Nat :=
  let idx := puts.zipIdx
  -- the live packet of each name is its last put
  let live := idx.filter fun e => !(idx.any fun e2 => e2.2 > e.2 && decide (e2.1.1 = e.1.1))
  match live.find? (fun e => decide (e.1.1 = q)) with
  | some e => some e.2
  | none =>
    let under := live.filter fun e => isPrefix q e.1.1
    (under.foldl (fun (best : Option ((Name × Nat) × Nat)) e =>
      match best with
      | none => some e
      | some b => if e.1.2 > b.1.2 then some e else some b) none).map (·.2)

/-- a PIT entry (name, CanBePrefix) is matched by a Data name arriving WITHOUT a usable token when its name equals
    the Data name, or is a prefix of it and the Interest allowed that -/
def dataMatches (e : Name × Bool) (d : Name) : Bool := decide (e.1 = d) || (e.2 && isPrefix e.1 d)

/-- the PIT entries so matched: the indices (of the first insertion of each entry) -/
def pitNameMatch (ints : List (Name × Bool)) (d : Name) : List Nat :=
  let idx := ints.zipIdx
  let firsts := idx.filter fun e => !(idx.any fun e2 => e2.2 < e.2 && decide (e2.1 = e.1))
  (firsts.filter fun e => dataMatches e.1 d).map (·.2)

/-- ... and WITH the token of entry `t`: that entry, whatever the Data's name (the token rule) -/
def pitTokenMatch (ints : List (Name × Bool)) (t : Nat) : List Nat :=
  match ints[t]? with
  | none => []
  | some e => match (ints.zipIdx.find? fun e2 => decide (e2.1 = e)) with
    | some f => [f.2]
    | none => []

end Ndn.C14
