/-
  An encoding is injective because something decodes it (`eq_of_decode`); a parser that peels one encoded element off the front
  reads a concatenation back (`parse_flatMap`, which also serves the text and hex loops of `LemmasFormat`).  The hash input has
  no decoder in the code: its injectivity is `SelfDelim` of `Base/Code.lean`.
-/
import NdnVerif.C14.Spec
import NdnVerif.Base.Code
namespace Ndn.C14

/-- an encoding that some decoder undoes is injective (`ret`: `some`, `Res.ok`) -/
theorem eq_of_decode {α β γ : Type} {enc : α → β} {dec : β → γ} {ret : α → γ}
    (hret : ∀ {x y}, ret x = ret y → x = y) {a b : α} (ha : dec (enc a) = ret a) (hb : dec (enc b) = ret b)
    (h : enc a = enc b) : a = b :=
  hret (ha.symm.trans ((congrArg dec h).trans hb))

theorem parse_flatMap {α : Type} {P : α → Prop} {enc : α → Bytes} {parse : Bytes → Option (List α)}
    (h0 : parse [] = some []) (hstep : ∀ a, P a → ∀ s, parse (enc a ++ s) = (parse s).map (a :: ·))
    (v : List α) (hv : ∀ a ∈ v, P a) : parse (v.flatMap enc) = some v := by
  induction v with
  | nil => exact h0
  | cons b v ih =>
    rw [List.forall_mem_cons] at hv
    rw [List.flatMap_cons, hstep b hv.1, ih hv.2]
    rfl

theorem eqComp_iff {a b : Component} : eqComp a b = true ↔ a = b := by
  obtain ⟨ta, va⟩ := a; obtain ⟨tb, vb⟩ := b
  simp only [eqComp, Component.mk.injEq]
  by_cases ht : ta = tb
  · by_cases hl : va.length = vb.length
    · simp [ht, hl]
    · have : va ≠ vb := fun e => hl (by rw [e])
      simp [ht, hl, this]
  · simp [ht]

theorem eqName_iff {a b : Name} : eqName a b = true ↔ a = b := by
  induction a generalizing b with
  | nil => cases b <;> simp [eqName]
  | cons x xs ih =>
    cases b with
    | nil => simp [eqName]
    | cons y ys => simp [eqName, eqComp_iff, ih]

theorem isPrefix_iff {a b : Name} : isPrefix a b = true ↔ a <+: b :=
  prefix_test (fun _ _ => eqComp_iff) (fun _ => rfl) (fun _ _ => rfl) fun _ _ _ _ => rfl

def wfComp (c : Component) : Prop := c.typ < 2 ^ 64 ∧ c.val.length < 2 ^ 64

theorem readComp_encComp (c : Component) (h : wfComp c) (rest : Bytes) :
    readComp (encComp c ++ rest) = some (c, rest) := by
  obtain ⟨t, v⟩ := c
  unfold readComp encComp
  simp only [List.append_assoc]
  rw [decTL_encTL t h.1]
  simp only
  rw [decTL_encTL v.length h.2]
  simp

theorem encComp_ne_nil (c : Component) : encComp c ≠ [] :=
  List.append_ne_nil_of_left_ne_nil (List.append_ne_nil_of_left_ne_nil (encTL_ne_nil c.typ) _) _

theorem readName_encComp_append (c : Component) (h : wfComp c) (rest : Bytes) :
    readName (encComp c ++ rest) = (readName rest).map (c :: ·) := by
  rw [readName, dif_neg (List.append_ne_nil_of_left_ne_nil (encComp_ne_nil c) rest)]
  split
  · rename_i hh; rw [readComp_encComp c h] at hh; cases hh
  · rename_i c' r hh
    rw [readComp_encComp c h] at hh
    cases hh
    rfl

theorem readName_encNameInner (n : Name) (h : ∀ c ∈ n, wfComp c) :
    readName (encNameInner n) = some n :=
  parse_flatMap (by rw [readName, dif_pos rfl]) readName_encComp_append n h

theorem hashInput_append (a b : Name) : hashInput (a ++ b) = hashInput a ++ hashInput b :=
  List.flatMap_append

/-- type and length have fixed width; the length delimits the value -/
theorem hashInputComp_selfDelim : SelfDelim wfComp hashInputComp := selfDelim_be8.frame selfDelim_be8

theorem hashInputComp_ne_nil (c : Component) : hashInputComp c ≠ [] :=
  List.append_ne_nil_of_left_ne_nil (List.append_ne_nil_of_left_ne_nil (List.cons_ne_nil _ _) _) _

end Ndn.C14
