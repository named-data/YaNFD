/-
  C14 — property theorems.  "Name order, equality, prefix, hash and URI form are mutually
  consistent."  Every statement is over ALL names / byte strings (no size bound).
-/
import NdnVerif.C14.LemmasOrder
import NdnVerif.C14.LemmasEnc
import NdnVerif.C14.LemmasNameUri
import NdnVerif.C14.LemmasNoPanic
import NdnVerif.C14.Table
import NdnVerif.C14.Pattern
import NdnVerif.C14.XXHash
namespace Ndn.C14

/-! ## 1. `Name.Compare` is a total order and coincides with NDN canonical order -/

/-- the comparison result is exactly the one prescribed by canonical order (component-wise by type,
    then value length, then value bytes; a proper prefix sorts first), stated with the standard
    library's `List.Lex` -/
theorem compare_eq_canonical (a b : Name) : cmpName a b = canonCmp a b := threeWay_name.eq_canon a b

theorem compare_reflexive (a : Name) : cmpName a a = 0 := threeWay_name.refl a

theorem compare_antisymmetric (a b : Name) : cmpName b a = - cmpName a b := threeWay_name.antisymm a b

theorem compare_total (a b : Name) : cmpName a b = -1 ∨ cmpName a b = 0 ∨ cmpName a b = 1 :=
  threeWay_name.vals a b

theorem compare_zero_iff_eq (a b : Name) : cmpName a b = 0 ↔ a = b := threeWay_name.eq_zero

theorem compare_transitive (a b c : Name) (h1 : cmpName a b = -1) (h2 : cmpName b c = -1) :
    cmpName a c = -1 :=
  threeWay_name.lt_iff.mpr
    (List.lex_trans compLt_trans (threeWay_name.lt_iff.mp h1) (threeWay_name.lt_iff.mp h2))

example : cmpName [⟨8, [97]⟩] [⟨8, [97]⟩, ⟨8, []⟩] = -1 ∧ cmpName [⟨8, [98]⟩] [⟨8, [97, 97]⟩] = -1 := by decide

/-! ## 2. equality coincides with structural equality and with equality of encodings -/

theorem equal_iff_eq (a b : Name) : eqName a b = true ↔ a = b := eqName_iff

theorem nameFromBytes_nameBytes (n : Name) (h : ∀ c ∈ n, c.typ < 2 ^ 64 ∧ c.val.length < 2 ^ 64)
    (hl : (encNameInner n).length < 2 ^ 64) : nameFromBytes (encName n) = some n := by
  unfold nameFromBytes encName
  simp only [List.append_assoc]
  rw [decTL_encTL 7 (by omega)]
  simp only [ne_eq, not_true_eq_false, if_false]
  rw [decTL_encTL _ hl]
  simp only
  rw [readName_encNameInner n h]
  rfl

theorem componentFromBytes_componentBytes (c : Component) (h : c.typ < 2 ^ 64 ∧ c.val.length < 2 ^ 64) :
    compFromBytes (encComp c) = some c := by
  have := readComp_encComp c h []
  rw [List.append_nil] at this
  rw [compFromBytes, this]
  rfl

theorem equal_iff_encoding_eq (a b : Name)
    (ha : ∀ c ∈ a, c.typ < 2 ^ 64 ∧ c.val.length < 2 ^ 64) (hb : ∀ c ∈ b, c.typ < 2 ^ 64 ∧ c.val.length < 2 ^ 64)
    (hla : (encNameInner a).length < 2 ^ 64) (hlb : (encNameInner b).length < 2 ^ 64) :
    eqName a b = true ↔ encName a = encName b :=
  eqName_iff.trans ⟨congrArg encName,
    eq_of_decode Option.some.inj (nameFromBytes_nameBytes a ha hla) (nameFromBytes_nameBytes b hb hlb)⟩

example : nameFromBytes (encName [⟨8, [97]⟩, ⟨32, []⟩]) = some [⟨8, [97]⟩, ⟨32, []⟩] := by
  decide +kernel

/-! ## 3. the prefix relation agrees with equality -/

theorem isPrefix_iff_exists_suffix (a b : Name) : isPrefix a b = true ↔ ∃ c, b = a ++ c :=
  isPrefix_iff.trans (exists_congr fun _ => eq_comm)

theorem isPrefix_iff_take (a b : Name) : isPrefix a b = true ↔ (a.length ≤ b.length ∧ b.take a.length = a) := by
  rw [isPrefix_iff, List.prefix_iff_eq_take]
  exact ⟨fun h => ⟨by rw [h, List.length_take]; exact Nat.min_le_right _ _, h.symm⟩, fun h => h.2.symm⟩

theorem isPrefix_antisymm_eq (a b : Name) (h1 : isPrefix a b = true) (h2 : isPrefix b a = true) :
    eqName a b = true :=
  eqName_iff.mpr ((isPrefix_iff.mp h1).eq_of_length_le (isPrefix_iff.mp h2).length_le)

/-! ## 4. hashes: the hashed byte string determines the name and is prefix-compatible -/

/-- equal names are hashed over equal input (hence hash equally, whatever the hash function) -/
theorem hash_of_equal_names (a b : Name) (h : eqName a b = true) : hashInput a = hashInput b := by
  rw [eqName_iff.mp h]

/-- the i-th prefix hash is computed over the hash input of the i-component prefix: the running
    hasher state after i components has consumed exactly `hashInput (n.take i)` -/
theorem prefixHash_take (n : Name) (i : Nat) :
    hashInput n = hashInput (n.take i) ++ hashInput (n.drop i) := by
  rw [← hashInput_append, List.take_append_drop]

/-- after fix F-07a (value length is hashed): distinct names never share a hash input, so a hash
    collision can only come from the hash function itself, never from the input framing -/
theorem hashInput_injective (a b : Name)
    (ha : ∀ c ∈ a, c.typ < 2 ^ 64 ∧ c.val.length < 2 ^ 64) (hb : ∀ c ∈ b, c.typ < 2 ^ 64 ∧ c.val.length < 2 ^ 64)
    (h : hashInput a = hashInput b) : a = b :=
  hashInputComp_selfDelim.flatMap_inj hashInputComp_ne_nil ha hb h

/-! ## 5. URI form -/

/-- converting to a URI string and parsing back returns the same name, for every name whose
    component types lie in 1..65535 and whose numeric-convention components are in shortest form
    (`nameUriOk`), with arbitrary byte values -/
theorem fromUri_toUri (n : Name) (hv : ∀ c ∈ n, Bytes.WF c.val) (hok : nameUriOk n = true) :
    nameFromStr (nameToStr n) = .ok n := by
  have hok' : ∀ c ∈ n, compUriOk c = true := List.all_eq_true.mp hok
  have hstr : ∀ s ∈ n.map compToStr, 47 ∉ s := by
    intro s hs
    obtain ⟨c, hc, rfl⟩ := List.mem_map.mp hs
    exact compToStr_no_slash c (hok' c hc)
  have hcomp : mapRes compFromStr (n.map compToStr) = .ok n :=
    mapRes_map_ok compFromStr compToStr n fun c hc => compFromStr_compToStr c (hv c hc) (hok' c hc)
  unfold nameToStr
  by_cases hn : n = []
  · subst hn; decide
  · obtain ⟨lastc, hlast⟩ := Option.isSome_iff_exists.mp (List.getLast?_isSome.mpr hn)
    rw [if_neg hn, hlast]
    simp only [← List.flatMap_map compToStr (47 :: ·)]
    by_cases hge : lastc.typ = 8 ∧ lastc.val = []
    · -- the extra '/' is one more, empty, string, which the parser drops again
      have e : (n.map compToStr).flatMap (47 :: ·) ++ [47] = (n.map compToStr ++ [[]]).flatMap (47 :: ·) := by
        rw [List.flatMap_append]; rfl
      have h' : ∀ s ∈ n.map compToStr ++ [[]], 47 ∉ s := fun s hs =>
        (List.mem_append.mp hs).elim (hstr s) fun hs => List.mem_singleton.mp hs ▸ List.not_mem_nil
      rw [if_pos hge, e, nameFromStr_join _ h', List.getLast?_concat, if_pos rfl, List.dropLast_concat]
      exact hcomp
    · have hne : (n.map compToStr).getLast? ≠ some [] := by
        rw [List.getLast?_map, hlast]
        exact fun e => hge (compToStr_eq_nil (hok' lastc (List.mem_of_getLast? hlast)) (Option.some.inj e))
      rw [if_neg hge, nameFromStr_join _ hstr, if_neg hne]
      exact hcomp

/-- parsing never panics, on any byte string (the only indexing `s[0]` is guarded) -/
theorem fromUri_never_panics (s : Bytes) : nameFromStr s ≠ .panic :=
  mapRes_no_panic _ compFromStr_no_panic _

theorem componentFromStr_never_panics (s : Bytes) : compFromStr s ≠ .panic := compFromStr_no_panic s

-- non-vacuity: a name with a numeric convention component, special bytes and a trailing empty
-- generic component satisfies the guard
example : nameUriOk [⟨8, [37, 255]⟩, ⟨0x32, [1, 0]⟩, ⟨300, [47]⟩, ⟨8, []⟩] = true := by decide
example : nameFromStr [47, 61, 97] = .err := by decide        -- "/=a" is an error, not a panic

/-! ## 6. tables keyed on names (engine trie, memory store) distinguish exactly the names that are not Equal

The children maps of `NameTrie` and `memoryStoreNode` are keyed by a string computed from one component
(`compKey`: its TLV encoding, after the repair of F-14b; `compKeyUri`: its URI form `Component.String()`,
on the pinned tree).  The tables conflate two names iff the key paths coincide. -/

theorem table_key_injective (a b : Component) (ha : a.typ < 2 ^ 64 ∧ a.val.length < 2 ^ 64)
    (hb : b.typ < 2 ^ 64 ∧ b.val.length < 2 ^ 64) (h : compKey a = compKey b) : a = b :=
  eq_of_decode Option.some.inj (componentFromBytes_componentBytes a ha) (componentFromBytes_componentBytes b hb) h

/-- for every insertion history, a table keyed by the TLV key puts two names into the same node
    iff they are equal: its classes are the equality classes -/
theorem table_classes_eq_equality (names : List Name)
    (h : ∀ n ∈ names, ∀ c ∈ n, c.typ < 2 ^ 64 ∧ c.val.length < 2 ^ 64) :
    classes compKey names = eqClasses names :=
  classesAux_rel compKey _ table_key_injective names [] [] 0 trivial (fun _ h => nomatch h) h

/-- `PrefixMatch` in such a trie returns the node at the depth of the longest prefix the queried name
    shares with any inserted name, as judged by component equality -/
theorem table_prefixMatch_depth (names : List Name) (q : Name)
    (h : ∀ n ∈ names, ∀ c ∈ n, c.typ < 2 ^ 64 ∧ c.val.length < 2 ^ 64)
    (hq : ∀ c ∈ q, c.typ < 2 ^ 64 ∧ c.val.length < 2 ^ 64) :
    prefixDepth compKey names q = specPrefixDepth names q :=
  foldl_depth_congr compKey _ table_key_injective q hq names 0 h

/-- the URI key is injective on exactly the components the URI round trip covers (types 1..65535,
    numeric-convention values in shortest form) -/
theorem uri_key_injective_on_uriOk (a b : Component) (ha : Bytes.WF a.val ∧ compUriOk a = true)
    (hb : Bytes.WF b.val ∧ compUriOk b = true) (h : compKeyUri a = compKeyUri b) : a = b :=
  eq_of_decode Res.ok.inj (compFromStr_compToStr a ha.1 ha.2) (compFromStr_compToStr b hb.1 hb.2) h

theorem uri_table_classes_eq_equality_on_uriOk (names : List Name)
    (h : ∀ n ∈ names, ∀ c ∈ n, Bytes.WF c.val ∧ compUriOk c = true) :
    classes compKeyUri names = eqClasses names :=
  classesAux_rel compKeyUri _ uri_key_injective_on_uriOk names [] [] 0 trivial (fun _ h => nomatch h) h

/-- ... and NOT beyond (finding F-14b on the pinned tree): the 1-byte and the 2-byte encoding of
    segment number 1 are different components (different encodings, not Equal) with one URI form, so a
    table keyed by `String()` answers a lookup for one name with the entry of the other -/
theorem uri_key_conflates :
    (⟨0x32, [0, 1]⟩ : Component) ≠ ⟨0x32, [1]⟩ ∧ compKeyUri ⟨0x32, [0, 1]⟩ = compKeyUri ⟨0x32, [1]⟩ ∧
    classes compKeyUri [[⟨8, [97]⟩, ⟨0x32, [0, 1]⟩], [⟨8, [97]⟩, ⟨0x32, [1]⟩]] = [0, 0] ∧
    eqClasses [[⟨8, [97]⟩, ⟨0x32, [0, 1]⟩], [⟨8, [97]⟩, ⟨0x32, [1]⟩]] = [0, 1] := by
  decide +kernel

-- non-vacuity / behaviour of the TLV-keyed table on the same names, and on a generic component spelling
-- the URI form of a typed one ("32=KEY" as a generic value vs. the keyword component KEY)
example : classes compKey [[⟨8, [97]⟩, ⟨0x32, [0, 1]⟩], [⟨8, [97]⟩, ⟨0x32, [1]⟩], [⟨8, [97]⟩, ⟨0x32, [0, 1]⟩]] = [0, 1, 0] := by decide
example : classes compKey [[⟨8, [51, 50, 61, 75]⟩], [⟨32, [75]⟩], [⟨8, [51, 50, 61, 75]⟩]] = [0, 1, 0] := by decide
example : prefixDepth compKey [[⟨8, [97]⟩, ⟨8, [98]⟩], [⟨8, [97]⟩, ⟨0x32, [1]⟩, ⟨8, [99]⟩]] [⟨8, [97]⟩, ⟨0x32, [1]⟩, ⟨8, [100]⟩] = 2 := by decide

/-- with insertions, removals and lookups in any order a TLV-keyed table behaves, operation by operation, like
    the set of names it was given judged by equality (so after a removal exactly the names Equal to the removed
    one are gone, and a lookup finds a name iff an Equal one is held) -/
theorem table_with_removal_agrees_with_equality (ops : List TOp)
    (h : ∀ op ∈ ops, ∀ c ∈ op.name, c.typ < 2 ^ 64 ∧ c.val.length < 2 ^ 64) :
    tabrRun compKey [] ops = tabrRun id [] ops :=
  tabrRun_map compKey _ table_key_injective ops [] (fun _ h => nomatch h) h

example : tabrRun compKey [] [.ins [⟨8, [97]⟩, ⟨8, [99]⟩], .ins [⟨8, [97]⟩, ⟨8, [98]⟩, ⟨8, [99]⟩],
    .rem [⟨8, [97]⟩, ⟨8, [98]⟩, ⟨8, [99]⟩], .has [⟨8, [97]⟩, ⟨8, [99]⟩], .has [⟨8, [97]⟩, ⟨8, [98]⟩, ⟨8, [99]⟩]]
    = ['n', 'n', 'r', '1', '0'] := by decide

/-! ## 7. name patterns: the pattern parser never panics either -/

theorem componentPatternFromStr_never_panics (s : Bytes) : compPatFromStr s ≠ .panic := by
  have hc := compFromStr_no_panic s
  unfold compPatFromStr
  have hcomp : (match compFromStr s with
      | .ok c => (Res.ok (CPat.comp c) : Res CPat) | .err => .err | .panic => .panic) ≠ .panic := by
    cases h : compFromStr s with
    | ok c => nofun
    | err => nofun
    | panic => exact absurd h hc
  cases s with
  | nil => exact hcomp
  | cons c t =>
    simp only
    split
    · exact hcomp
    · split
      · nofun
      · split
        · nofun
        · rename_i t2 tag _
          cases h : parseCompType t2 with
          | ok p => nofun
          | err => nofun
          | panic => exact absurd h (parseCompType_no_panic t2)
        · nofun

/-- `NamePatternFromStr` (the schema tree's paths come from configuration text through it) never panics, on any
    byte string -/
theorem namePatternFromStr_never_panics (s : Bytes) : namePatFromStr s ≠ .panic :=
  mapRes_no_panic compPatFromStr componentPatternFromStr_never_panics _

/-- finding F-14c on the pinned tree: `strs[len(strs)-1]` was indexed unconditionally, and for the empty string
    `strings.Split` gives `[""]`, whose only element the leading-slash rule removes -/
theorem namePatternFromStr_pinned_panics_on_empty : namePatFromStrPinned [] = .panic := by decide

example : namePatFromStr [] = .ok [] := by decide
example : namePatFromStr (asciiBytes "/a/<v=ver>/<x>") =
    .ok [.comp ⟨8, [97]⟩, .pat 0x36 (asciiBytes "ver"), .pat 8 [120]] := by decide +kernel

/-! ## 8. what the hash does NOT give: XXH64 collisions can be computed (finding F-14d) -/

def collisionX : Bytes := [43, 220, 152, 19, 166, 78, 136, 62, 59, 124, 213, 240, 70, 16, 254, 137, 95, 113, 3, 178, 64, 116, 174, 233, 156, 4, 95, 86, 102, 92, 144, 137, 193, 76, 77, 190, 23, 198, 97, 16, 240, 4, 248, 193, 57, 78, 197, 161, 94, 119]
def collisionY : Bytes := [43, 220, 152, 19, 166, 78, 136, 62, 123, 124, 213, 240, 70, 16, 254, 137, 95, 113, 3, 178, 64, 116, 174, 233, 156, 4, 95, 86, 102, 92, 144, 137, 193, 76, 77, 190, 23, 198, 97, 16, 227, 187, 233, 42, 235, 142, 146, 0, 94, 119]

theorem nameHash_singleton (c : Component) : nameHash [c] = compHash c := by
  rw [nameHash, compHash, hashInput, List.flatMap_cons, List.flatMap_nil, List.append_nil]

/-- two different 50-byte generic components whose names hash to the same XXH64 value: one 8-byte word of the
    value was changed and the word 32 bytes further on (same lane, next stripe) adjusted by the computed amount.
    Every table that identifies a component or a name by `Hash()` alone conflates the two. -/
theorem hash_collision_can_be_computed :
    collisionX ≠ collisionY ∧ nameHash [⟨8, collisionX⟩] = nameHash [⟨8, collisionY⟩] ∧
    compHash ⟨8, collisionX⟩ = compHash ⟨8, collisionY⟩ := by
  have h : compHash ⟨8, collisionX⟩ = compHash ⟨8, collisionY⟩ := by decide +kernel
  exact ⟨by decide, by rw [nameHash_singleton, nameHash_singleton, h], h⟩

/-! ## 9. the prefix relation as the tables use it -/

/-- a pending Interest (name, CanBePrefix) is matched by a token-less Data name exactly when the Data name is the
    Interest name, or extends it and the Interest allowed that -/
theorem data_matches_iff (n : Name) (cbp : Bool) (d : Name) :
    dataMatches (n, cbp) d = true ↔ ∃ sfx, d = n ++ sfx ∧ (sfx = [] ∨ cbp = true) := by
  unfold dataMatches
  simp only [Bool.or_eq_true, decide_eq_true_eq, Bool.and_eq_true]
  constructor
  · rintro (h | ⟨hc, hp⟩)
    · exact ⟨[], by simp [h], Or.inl rfl⟩
    · obtain ⟨sfx, hs⟩ := (isPrefix_iff_exists_suffix n d).mp hp
      exact ⟨sfx, hs, Or.inr hc⟩
  · rintro ⟨sfx, hd, h | h⟩
    · left; subst h; simpa using hd.symm
    · right; exact ⟨h, (isPrefix_iff_exists_suffix n d).mpr ⟨sfx, hd⟩⟩

example : pitNameMatch [([⟨8, [97]⟩], true), ([⟨8, [97]⟩, ⟨8, [98]⟩], false), ([⟨8, [97]⟩], true)] [⟨8, [97]⟩, ⟨8, [98]⟩] = [0, 1] := by decide
example : memNewest [([⟨8, [97]⟩, ⟨54, [1]⟩], 1), ([⟨8, [97]⟩, ⟨54, [1]⟩, ⟨50, [0]⟩], 9), ([⟨8, [97]⟩, ⟨54, [5]⟩], 5)] [⟨8, [97]⟩] = some 1 := by decide

end Ndn.C14
