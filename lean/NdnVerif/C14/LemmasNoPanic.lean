import NdnVerif.C14.Model
namespace Ndn.C14

theorem parseCompType_no_panic (s : Bytes) : parseCompType s ≠ .panic := by
  unfold parseCompType
  cases s with
  | nil => nofun
  | cons c rest =>
    simp only [List.length_cons, Nat.add_one_ne_zero, if_false, goIndex, List.getElem?_cons_zero]
    split <;> split <;> nofun

theorem compFromStr_no_panic (s : Bytes) : compFromStr s ≠ .panic := by
  unfold compFromStr
  split
  · nofun            -- two '='
  · split <;> nofun  -- none
  · rename_i ts v _  -- one
    split
    · rename_i h; exact absurd h (parseCompType_no_panic ts)
    · nofun
    · split
      · nofun
      · split <;> nofun

theorem mapRes_no_panic {α β : Type} (f : α → Res β) (h : ∀ a, f a ≠ .panic) (l : List α) :
    mapRes f l ≠ .panic := by
  induction l with
  | nil => nofun
  | cons a as ih =>
    unfold mapRes
    split
    · rename_i hp; exact absurd hp (h a)
    · nofun
    · split
      · nofun
      · nofun
      · rename_i hp; exact absurd hp ih

end Ndn.C14
