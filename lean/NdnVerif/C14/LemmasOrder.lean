/-
  `Name.Compare` against `List.Lex`: a three-way comparison that decides a strict order (`ThreeWay`) lifts to lists compared the
  way `Name.Compare` compares them (`ThreeWay.lex`).  Used twice, numbers → number lists and components → names; in between a
  component is compared as the list `compSeq` (type, value length, value), which makes `compLt` a `List.Lex` as well.
-/
import NdnVerif.C14.Spec
namespace Ndn.C14

/-- `cmp` says which one of `lt a b`, `a = b`, `lt b a` holds -/
structure ThreeWay {α : Type} (cmp : α → α → Int) (lt : α → α → Prop) : Prop where
  cases : ∀ a b,
    lt a b ∧ cmp a b = -1 ∧ cmp b a = 1 ∨ a = b ∧ cmp a b = 0 ∨ lt b a ∧ cmp a b = 1 ∧ cmp b a = -1
  asymm : ∀ {a b}, lt a b → ¬ lt b a

/-- `L` compares lists as `Name.Compare` does: the first pair that `cmp` tells apart decides, else the shorter is smaller -/
structure LexRec {α : Type} (cmp : α → α → Int) (L : List α → List α → Int) : Prop where
  nil_nil : L [] [] = 0
  nil_cons : ∀ y ys, L [] (y :: ys) = -1
  cons_nil : ∀ x xs, L (x :: xs) [] = 1
  cons_cons : ∀ x xs y ys, L (x :: xs) (y :: ys) = if cmp x y ≠ 0 then cmp x y else L xs ys

namespace ThreeWay
variable {α : Type} {cmp : α → α → Int} {lt : α → α → Prop}

theorem irrefl (h : ThreeWay cmp lt) (a : α) : ¬ lt a a := fun hl => h.asymm hl hl

theorem vals (h : ThreeWay cmp lt) (a b : α) : cmp a b = -1 ∨ cmp a b = 0 ∨ cmp a b = 1 := by
  rcases h.cases a b with ⟨_, e, _⟩ | ⟨_, e⟩ | ⟨_, e, _⟩
  · exact .inl e
  · exact .inr (.inl e)
  · exact .inr (.inr e)

theorem antisymm (h : ThreeWay cmp lt) (a b : α) : cmp b a = - cmp a b := by
  rcases h.cases a b with ⟨_, e, e'⟩ | ⟨rfl, e⟩ | ⟨_, e, e'⟩
  · rw [e, e']; rfl
  · rw [e]; rfl
  · rw [e, e']

theorem refl (h : ThreeWay cmp lt) (a : α) : cmp a a = 0 := by
  rcases h.cases a a with ⟨hl, _⟩ | ⟨_, e⟩ | ⟨hl, _⟩
  · exact absurd hl (h.irrefl a)
  · exact e
  · exact absurd hl (h.irrefl a)

theorem eq_zero (h : ThreeWay cmp lt) {a b : α} : cmp a b = 0 ↔ a = b := by
  refine ⟨fun z => ?_, fun e => e ▸ h.refl a⟩
  rcases h.cases a b with ⟨_, e, _⟩ | ⟨e, _⟩ | ⟨_, e, _⟩
  · exact absurd (e.symm.trans z) (by decide)
  · exact e
  · exact absurd (e.symm.trans z) (by decide)

theorem lt_iff (h : ThreeWay cmp lt) {a b : α} : cmp a b = -1 ↔ lt a b := by
  rcases h.cases a b with ⟨hl, e, _⟩ | ⟨rfl, e⟩ | ⟨hl, e, _⟩
  · exact ⟨fun _ => hl, fun _ => e⟩
  · exact ⟨fun z => absurd (e.symm.trans z) (by decide), fun hl => absurd hl (h.irrefl _)⟩
  · exact ⟨fun z => absurd (e.symm.trans z) (by decide), fun hl' => absurd hl (h.asymm hl')⟩

theorem eq_canon [DecidableRel lt] (h : ThreeWay cmp lt) (a b : α) :
    cmp a b = if lt a b then -1 else if lt b a then 1 else 0 := by
  rcases h.cases a b with ⟨hl, e, _⟩ | ⟨rfl, e⟩ | ⟨hl, e, _⟩
  · rw [if_pos hl, e]
  · rw [if_neg (h.irrefl _), if_neg (h.irrefl _), e]
  · rw [if_neg (h.asymm hl), if_pos hl, e]

theorem lex (h : ThreeWay cmp lt) {L : List α → List α → Int} (hL : LexRec cmp L) :
    ThreeWay L (List.Lex lt) where
  asymm := List.lex_asymm h.asymm
  cases := by
    intro a
    induction a with
    | nil =>
      intro b
      cases b with
      | nil => exact .inr (.inl ⟨rfl, hL.nil_nil⟩)
      | cons y ys => exact .inl ⟨.nil, hL.nil_cons y ys, hL.cons_nil y ys⟩
    | cons x xs ih =>
      intro b
      cases b with
      | nil => exact .inr (.inr ⟨.nil, hL.cons_nil x xs, hL.nil_cons x xs⟩)
      | cons y ys =>
        rw [hL.cons_cons, hL.cons_cons]
        rcases h.cases x y with ⟨hl, e, e'⟩ | ⟨rfl, e⟩ | ⟨hl, e, e'⟩
        · rw [e, e']; exact .inl ⟨.rel hl, rfl, rfl⟩
        · rw [e, if_neg (by decide)]
          rcases ih ys with ⟨hl, e⟩ | ⟨rfl, e⟩ | ⟨hl, e⟩
          · exact .inl ⟨.cons hl, e⟩
          · exact .inr (.inl ⟨rfl, e⟩)
          · exact .inr (.inr ⟨.cons hl, e⟩)
        · rw [e, e']; exact .inr (.inr ⟨.rel hl, rfl, rfl⟩)

end ThreeWay

def natCmp (x y : Nat) : Int := if x < y then -1 else if y < x then 1 else 0

theorem threeWay_nat : ThreeWay natCmp (· < ·) where
  asymm := Nat.lt_asymm
  cases x y := by
    have gt {a b : Nat} (h : a < b) : natCmp b a = 1 := by rw [natCmp, if_neg (Nat.lt_asymm h), if_pos h]
    rcases Nat.lt_trichotomy x y with h | rfl | h
    · exact .inl ⟨h, if_pos h, gt h⟩
    · exact .inr (.inl ⟨rfl, by rw [natCmp, if_neg (Nat.lt_irrefl x), if_neg (Nat.lt_irrefl x)]⟩)
    · exact .inr (.inr ⟨h, gt h, if_pos h⟩)

theorem lexRec_bytes : LexRec natCmp cmpBytes where
  nil_nil := rfl
  nil_cons _ _ := rfl
  cons_nil _ _ := rfl
  cons_cons x xs y ys := by
    simp only [cmpBytes, natCmp]
    by_cases h1 : x < y
    · simp [h1]
    · by_cases h2 : y < x <;> simp [h1, h2]

theorem threeWay_bytes : ThreeWay cmpBytes (List.Lex (· < ·)) := threeWay_nat.lex lexRec_bytes

def compSeq (c : Component) : List Nat := c.typ :: c.val.length :: c.val

theorem compSeq_inj {a b : Component} (h : compSeq a = compSeq b) : a = b := by
  cases a; cases b
  simp only [compSeq, List.cons.injEq] at h
  rw [h.1, h.2.2]

theorem ite_ne_lt (x y : Nat) (r : Int) :
    (if x ≠ y then (if x < y then -1 else 1) else r) = if x < y then -1 else if y < x then 1 else r := by
  by_cases h1 : x < y
  · rw [if_pos (Nat.ne_of_lt h1), if_pos h1, if_pos h1]
  · by_cases h2 : y < x
    · rw [if_pos (Nat.ne_of_gt h2), if_neg h1, if_neg h1, if_pos h2]
    · rw [if_neg (not_not_intro (Nat.le_antisymm (Nat.le_of_not_lt h2) (Nat.le_of_not_lt h1))), if_neg h1, if_neg h2]

theorem cmpComp_eq (a b : Component) : cmpComp a b = cmpBytes (compSeq a) (compSeq b) := by
  -- two steps of `cmpBytes`, each met by `ite_ne_lt`
  simp only [cmpComp, compSeq, cmpBytes, ite_ne_lt]

theorem compLt_iff_lex {a b : Component} : compLt a b ↔ List.Lex (· < ·) (compSeq a) (compSeq b) := by
  unfold compSeq
  rw [List.cons_lex_cons_iff, List.cons_lex_cons_iff]
  rfl

theorem threeWay_comp : ThreeWay cmpComp compLt where
  asymm h h' := threeWay_bytes.asymm (compLt_iff_lex.mp h) (compLt_iff_lex.mp h')
  cases a b := by
    rw [cmpComp_eq, cmpComp_eq, compLt_iff_lex, compLt_iff_lex]
    rcases threeWay_bytes.cases (compSeq a) (compSeq b) with h | ⟨h, e⟩ | h
    · exact .inl h
    · exact .inr (.inl ⟨compSeq_inj h, e⟩)
    · exact .inr (.inr h)

theorem compLt_trans {x y z : Component} (h1 : compLt x y) (h2 : compLt y z) : compLt x z :=
  compLt_iff_lex.mpr (List.lex_trans Nat.lt_trans (compLt_iff_lex.mp h1) (compLt_iff_lex.mp h2))

theorem threeWay_name : ThreeWay cmpName nameLt :=
  threeWay_comp.lex ⟨rfl, fun _ _ => rfl, fun _ _ => rfl, fun _ _ _ _ => rfl⟩

end Ndn.C14
