/- C19: the association lists of the model and the replay of a command stream, read one key at a time.
   `Spec.rget` / `rerase` are `pget` / `perase` keyed by pairs: the specification does not import the model. -/
import NdnVerif.C19.Model
import NdnVerif.C05.Assoc
namespace Ndn.C19
open Spec (Routes rget rerase applyCmd replay)

theorem inf_eq : inf = 16 := rfl

/-- the specification's hard-wired 16 is the regenerated `CostInfinity`: this breaks first if that changes -/
theorem infinity_eq_inf : Spec.infinity = inf := rfl

open C05 (ite_eq_comm)

/-! `pget` / `pset` / `perase` and `Spec.rget` / `rerase` are the association-list functions of C05/Assoc. -/

theorem pget_eq {α : Type} (m : List (Nat × α)) (k : Nat) : pget m k = C05.afind m k :=
  C05.afind_unique (fun _ => rfl) (fun _ _ _ _ => rfl) m k

theorem pset_eq {α : Type} (m : List (Nat × α)) (k : Nat) (v : α) : pset m k v = C05.aset m k v :=
  C05.aset_unique (fun _ _ => rfl) (fun _ _ _ _ _ => rfl) m k v

theorem perase_eq {α : Type} (m : List (Nat × α)) (k : Nat) : perase m k = C05.aerase m k :=
  C05.aerase_unique (fun _ => rfl) (fun _ _ _ _ => rfl) m k

theorem rget_eq (r : Routes) (k : Nat × Nat) : rget r k = C05.afind r k :=
  C05.afind_unique (fun _ => rfl) (fun _ _ _ _ => rfl) r k

theorem rerase_eq (r : Routes) (k : Nat × Nat) : rerase r k = C05.aerase r k :=
  C05.aerase_unique (fun _ => rfl) (fun _ _ _ _ => rfl) r k

theorem pget_pset {α : Type} (m : List (Nat × α)) (k : Nat) (v : α) (k' : Nat) :
    pget (pset m k v) k' = if k' = k then some v else pget m k' := by
  rw [pget_eq, pset_eq, pget_eq]; exact C05.afind_aset' ..

theorem pget_perase {α : Type} (m : List (Nat × α)) (k k' : Nat) :
    pget (perase m k) k' = if k' = k then none else pget m k' := by
  rw [pget_eq, perase_eq, pget_eq]; exact C05.afind_aerase' ..

theorem pget_eq_none_iff {α : Type} (m : List (Nat × α)) (k : Nat) : pget m k = none ↔ k ∉ m.map (·.1) :=
  pget_eq m k ▸ C05.afind_eq_none_iff m k

theorem keys_pset {α : Type} (m : List (Nat × α)) (k : Nat) (v : α) (nd : (m.map (·.1)).Nodup) :
    ((pset m k v).map (·.1)).Nodup :=
  pset_eq .. ▸ C05.keysNodup_aset nd k v

theorem rget_rerase (r : Routes) (k k' : Nat × Nat) : rget (rerase r k) k' = if k' = k then none else rget r k' := by
  rw [rget_eq, rerase_eq, rget_eq]; exact C05.afind_aerase' ..

def cmdKey : Cmd → Nat × Nat
  | .register n f _ => (n, f)
  | .unregister n f => (n, f)

/-- the cost it writes; `none` = delete -/
def cmdVal : Cmd → Option Nat
  | .register _ _ c => some c
  | .unregister _ _ => none

/-- effect of a command stream on the entry of one key: the last command for the key decides -/
def eff (cmds : List Cmd) (k : Nat × Nat) (r0 : Option Nat) : Option Nat :=
  cmds.foldl (fun acc c => if cmdKey c = k then cmdVal c else acc) r0

theorem rget_applyCmd (r : Routes) (c : Cmd) (k : Nat × Nat) :
    rget (applyCmd r c) k = if cmdKey c = k then cmdVal c else rget r k := by
  have hreg : ∀ key v, rget ((key, v) :: rerase r key) k = if key = k then some v else rget r k := fun key v => by
    show (if key = k then some v else rget (rerase r key) k) = _
    by_cases h : key = k
    · rw [if_pos h, if_pos h]
    · rw [if_neg h, if_neg h, rget_rerase, if_neg (Ne.symm h)]
  cases c with
  | register n f c => exact hreg (n, f) c
  | unregister n f =>
    show rget (rerase r (n, f)) k = if (n, f) = k then none else rget r k
    rw [rget_rerase]; exact ite_eq_comm ..

theorem rget_replay (cmds : List Cmd) (r : Routes) (k : Nat × Nat) :
    rget (replay r cmds) k = eff cmds k (rget r k) := by
  induction cmds generalizing r with
  | nil => rfl
  | cons c t ih => exact (ih (applyCmd r c)).trans (by rw [rget_applyCmd]; rfl)

theorem replay_append (r : Routes) (a b : List Cmd) : replay r (a ++ b) = replay (replay r a) b :=
  List.foldl_append

theorem eff_append (a b : List Cmd) (k : Nat × Nat) (r0 : Option Nat) :
    eff (a ++ b) k r0 = eff b k (eff a k r0) :=
  List.foldl_append

end Ndn.C19
