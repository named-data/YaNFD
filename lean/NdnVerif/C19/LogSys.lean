/- C19 (B): one publisher, any number of peers, any interleaving of their events. -/
import NdnVerif.C19.Model
namespace Ndn.C19

inductive LogEvent where
  /-- the RIB of peer `b` gains / loses its path to the publisher -/
  | path (b : Nat) (up : Bool)
  | announce (name : Nat)
  | withdraw (name : Nat)
  /-- a Sync Interest carrying the publisher's sequence number `high` reaches peer `b`'s SvSync -/
  | sync (b : Nat) (high : UInt64)
  /-- the outstanding Interest of peer `b` is answered from the publisher's repo -/
  | deliver (b : Nat)
  /-- the outstanding Interest of peer `b` times out -/
  | timeout (b : Nat)

structure LogSys where
  pub : Pub
  peers : List Peer

def LogSys.init (seq0 : UInt64) (k : Nat) : LogSys := { pub := Pub.init seq0, peers := List.replicate k Peer.init }

def LogSys.step (s : LogSys) : LogEvent → LogSys
  | .path b up => match s.peers[b]? with
    | some q => { s with peers := s.peers.set b (if up then q.gainPath else q.losePath) }
    | none => s
  | .announce n => { s with pub := s.pub.announce n }
  | .withdraw n => { s with pub := s.pub.withdraw n }
  | .sync b high => match s.peers[b]? with
    | some q => { s with peers := s.peers.set b (q.svsReceive high) }
    | none => s
  | .deliver b => match s.peers[b]? with
    | some q => match q.deliver s.pub with
      | some (q', _) => { s with peers := s.peers.set b q' }
      | none => s
    | none => s
  | .timeout b => match s.peers[b]? with
    | some q => match q.timeout with
      | some q' => { s with peers := s.peers.set b q' }
      | none => s
    | none => s

def LogSys.run (s : LogSys) (evs : List LogEvent) : LogSys := evs.foldl LogSys.step s

end Ndn.C19
