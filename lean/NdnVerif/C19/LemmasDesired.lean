/- C19: the collection phase of `fibUpdate` (`desired`) computes the specification's prescription. Both sides
   are an option-min over the reachable RIB entries: compared entry by entry and, within one, name by name. -/
import NdnVerif.C19.LemmasFibUpdate
namespace Ndn.C19
open Ndn.C18 (Entry)

/-- option-min of `g` over a list -/
def ofold {α : Type} (g : α → Option Nat) (l : List α) : Option Nat :=
  l.foldr (fun a acc => omin (g a) acc) none

theorem ofold_cons {α : Type} (g : α → Option Nat) (x : α) (l : List α) :
    ofold g (x :: l) = omin (g x) (ofold g l) := rfl

theorem ofold_congr {α : Type} {g g' : α → Option Nat} {l : List α} (h : ∀ a ∈ l, g a = g' a) :
    ofold g l = ofold g' l := by
  induction l with
  | nil => rfl
  | cons x t ih =>
    rw [ofold_cons, ofold_cons, h x List.mem_cons_self, ih fun a ha => h a (List.mem_cons_of_mem _ ha)]

theorem ofold_append {α : Type} (g : α → Option Nat) (a b : List α) :
    ofold g (a ++ b) = omin (ofold g a) (ofold g b) := by
  induction a with
  | nil => rfl
  | cons x t ih => rw [List.cons_append, ofold_cons, ofold_cons, ih, omin_assoc]

theorem ofold_flatMap {α β : Type} (g : β → Option Nat) (h : α → List β) (l : List α) :
    ofold g (l.flatMap h) = ofold (fun a => ofold g (h a)) l := by
  induction l with
  | nil => rfl
  | cons x t ih => rw [List.flatMap_cons, ofold_append, ih, ofold_cons]

theorem minFin_flatMap {α : Type} (h : α → List (Nat × Nat)) (l : List α) (face : Nat) :
    minFin (l.flatMap h) face = ofold (fun a => minFin (h a) face) l := by
  induction l with
  | nil => rfl
  | cons x t ih => rw [List.flatMap_cons, minFin_append, ih, ofold_cons]

/-- what one candidate triple contributes to `prescribedCost … name face` -/
def pcOne (name face : Nat) (x : Nat × Nat × Nat) : Option Nat :=
  if x.1 = name ∧ x.2.1 = face then some x.2.2 else none

theorem prescribedCost_eq (cands : List (Nat × Nat × Nat)) (name face : Nat) :
    Spec.prescribedCost cands name face = ofold (pcOne name face) cands := by
  have hstep : ∀ (l : List (Nat × Nat × Nat)) (init : Option Nat),
      l.foldl (fun best (x : Nat × Nat × Nat) =>
        if x.1 = name ∧ x.2.1 = face then
          match best with
          | none => some x.2.2
          | some b => some (min b x.2.2)
        else best) init = omin init (ofold (pcOne name face) l) := by
    intro l
    induction l with
    | nil => exact fun init => (omin_none_right init).symm
    | cons x t ih =>
      intro init
      rw [List.foldl_cons, ih, ofold_cons, ← omin_assoc]
      congr 1
      unfold pcOne
      by_cases h : x.1 = name ∧ x.2.1 = face
      · simp only [h, and_self, if_true]; cases init <;> rfl
      · simp only [h, if_false]; exact (omin_none_right init).symm
  exact hstep cands none

theorem ofold_pcOne_hops (name face n : Nat) (hops : List (Nat × Nat)) (hfin : ∀ x ∈ hops, x.2 < inf) :
    ofold (pcOne name face) (hops.map fun (f, c) => (n, f, c)) = if n = name then minFin hops face else none := by
  induction hops with
  | nil => simp only [List.map_nil, minFin_nil, ite_self]; rfl
  | cons x t ih =>
    obtain ⟨f, c⟩ := x
    have hc : c < inf := hfin (f, c) List.mem_cons_self
    rw [List.map_cons, ofold_cons, ih fun y hy => hfin y (List.mem_cons_of_mem _ hy), minFin_cons, pcOne]
    by_cases hn : n = name
    · simp only [hn, true_and, hc, and_true, if_true]
    · simp only [hn, false_and, if_false]; rfl

/-- a `foldl` whose `φ`-image grows by `g a` per step -/
theorem foldl_append_flatMap {α β γ : Type} (φ : β → List γ) (f : β → α → β) (g : α → List γ)
    (h : ∀ b a, φ (f b a) = φ b ++ g a) (l : List α) (b : β) : φ (l.foldl f b) = φ b ++ l.flatMap g := by
  induction l generalizing b with
  | nil => exact (List.append_nil _).symm
  | cons a t ih => rw [List.foldl_cons, ih, h, List.flatMap_cons, List.append_assoc]

theorem getD_addDesired (name : Nat) (fes : List (Nat × Nat)) (acc : List (Nat × List (Nat × Nat))) (n : Nat) :
    (pget (addDesired acc n fes) name).getD [] =
      (pget acc name).getD [] ++ (if n = name then fes else []) := by
  unfold addDesired
  rw [pget_pset]
  by_cases h : name = n
  · subst h; simp only [if_true, Option.getD_some]
  · simp only [h, Ne.symm h, if_false, List.append_nil]

/-- one round of the loop over the reachable entries in `desired` -/
def desiredStep (prefixOf : Nat → Nat) (t : Tables) (acc : List (Nat × List (Nat × Nat))) (e : Entry) :
    List (Nat × List (Nat × Nat)) :=
  if e.dest = t.self then acc
  else (prefixOf e.dest :: (pget t.pfx e.dest).getD []).foldl (fun acc p => addDesired acc p (fibEntriesOf t.nbrs e)) acc

theorem desired_eq (prefixOf : Nat → Nat) (t : Tables) :
    desired prefixOf t = t.rib.reachable.foldl (desiredStep prefixOf t) [] := rfl

/-- contribution of one RIB entry to the desired entries of `name` -/
def contrib (prefixOf : Nat → Nat) (t : Tables) (name : Nat) (e : Entry) : List (Nat × Nat) :=
  if e.dest = t.self then []
  else (prefixOf e.dest :: (pget t.pfx e.dest).getD []).flatMap
    (fun n => if n = name then fibEntriesOf t.nbrs e else [])

theorem desCost_desired (prefixOf : Nat → Nat) (t : Tables) (name face : Nat) :
    desCost (desired prefixOf t) name face = minFin (t.rib.reachable.flatMap (contrib prefixOf t name)) face := by
  have hd : ∀ des, desCost des name face = minFin ((pget des name).getD []) face := fun des => by
    unfold desCost; cases pget des name <;> rfl
  rw [hd, desired_eq, foldl_append_flatMap (fun acc => (pget acc name).getD []) _ (contrib prefixOf t name)]
  · rfl
  · intro acc e
    unfold desiredStep contrib
    by_cases hs : e.dest = t.self
    · simp only [hs, if_true, List.append_nil]
    · simp only [hs, if_false]
      exact foldl_append_flatMap (fun acc => (pget acc name).getD []) _ _ (getD_addDesired name _) _ acc

theorem desired_nodup (prefixOf : Nat → Nat) (t : Tables) : ((desired prefixOf t).map (·.1)).Nodup := by
  let P := fun acc : List (Nat × List (Nat × Nat)) => (acc.map (·.1)).Nodup
  rw [desired_eq]
  refine List.foldlRecOn (motive := P) _ _ List.nodup_nil fun acc h e _ => ?_
  unfold desiredStep
  split
  · exact h
  · exact List.foldlRecOn (motive := P) _ _ h fun acc h n _ => keys_pset _ _ _ h

/-- the routing table as the specification sees it -/
def obsOf (t : Tables) : List Spec.RibObs :=
  t.rib.reachable.map fun e => { dest := e.dest, nh1 := e.best.nh1, c1 := e.best.low1, nh2 := e.best.nh2, c2 := e.best.low2 }

/-- `faceOfS`, `announcedS`: the tables as the arguments `faceOf`, `announced` of `Spec.candidates` -/
def faceOfS (t : Tables) (nh : Nat) : Option Nat := (pget t.nbrs nh).map (·.face)

def announcedS (t : Tables) (d : Nat) : List Nat := (pget t.pfx d).getD []

/-- the triples the specification prescribes for the tables `t` -/
def prescription (prefixOf : Nat → Nat) (t : Tables) : List (Nat × Nat × Nat) :=
  Spec.candidates t.self prefixOf (faceOfS t) (announcedS t) (obsOf t)

/-- every next hop the installer uses has a neighbour state (invariant of the router: a neighbour is
    removed from the neighbour table and from the RIB in the same critical section) -/
def NbrOk (t : Tables) : Prop :=
  ∀ e ∈ t.rib.reachable, e.dest ≠ t.self →
    (pget t.nbrs e.best.nh1).isSome ∧ (e.best.low2 < inf → (pget t.nbrs e.best.nh2).isSome)

/-- the `hops` of `Spec.candidates` for one entry -/
def hopsS (t : Tables) (e : Entry) : List (Nat × Nat) :=
  (match faceOfS t e.best.nh1 with | some f => [(f, e.best.low1)] | none => []) ++
  (if e.best.low2 < Spec.infinity then (match faceOfS t e.best.nh2 with | some f => [(f, e.best.low2)] | none => []) else [])

/-- the triples the specification lists for one reachable entry -/
def candE (prefixOf : Nat → Nat) (t : Tables) (e : Entry) : List (Nat × Nat × Nat) :=
  if e.dest = t.self ∨ ¬ e.best.low1 < Spec.infinity then []
  else (prefixOf e.dest :: announcedS t e.dest).flatMap fun n => (hopsS t e).map fun (f, c) => (n, f, c)

theorem prescription_eq (prefixOf : Nat → Nat) (t : Tables) :
    prescription prefixOf t = t.rib.reachable.flatMap (candE prefixOf t) := by
  unfold prescription Spec.candidates obsOf
  rw [List.flatMap_map]
  rfl

theorem faceOfS_of_isSome {t : Tables} {h : Nat} (hs : (pget t.nbrs h).isSome) :
    faceOfS t h = some (faceOf t.nbrs h) := by
  unfold faceOfS faceOf
  cases hp : pget t.nbrs h with
  | none => rw [hp] at hs; cases hs
  | some nb => rfl

theorem hops_agree {t : Tables} {e : Entry} (hl1 : e.best.low1 < inf)
    (hn : (pget t.nbrs e.best.nh1).isSome ∧ (e.best.low2 < inf → (pget t.nbrs e.best.nh2).isSome)) (face : Nat) :
    (∀ x ∈ hopsS t e, x.2 < inf) ∧ minFin (hopsS t e) face = minFin (fibEntriesOf t.nbrs e) face := by
  unfold hopsS fibEntriesOf
  rw [faceOfS_of_isSome hn.1, infinity_eq_inf]
  by_cases hl2 : e.best.low2 < inf
  · rw [if_pos hl2, faceOfS_of_isSome (hn.2 hl2)]
    refine ⟨fun x hx => ?_, rfl⟩
    simp only [List.cons_append, List.nil_append, List.mem_cons, List.not_mem_nil, or_false] at hx
    rcases hx with rfl | rfl
    · exact hl1
    · exact hl2
  · rw [if_neg hl2]
    refine ⟨fun x hx => ?_, ?_⟩
    · simp only [List.append_nil, List.mem_cons, List.not_mem_nil, or_false] at hx
      rw [hx]; exact hl1
    · -- the second entry of `GetFibEntries` has an infinite cost: `minFin` skips it
      simp only [List.append_nil, minFin_cons, hl2, and_false, if_false]
      rfl

theorem contrib_eq_spec (prefixOf : Nat → Nat) (t : Tables) (ok : NbrOk t) (name face : Nat) (e : Entry)
    (he : e ∈ t.rib.reachable) :
    minFin (contrib prefixOf t name e) face = ofold (pcOne name face) (candE prefixOf t e) := by
  have hl1 : e.best.low1 < inf := of_decide_eq_true (List.mem_filter.1 he).2
  unfold contrib candE
  by_cases hs : e.dest = t.self
  · simp only [hs, true_or, if_true]; rfl
  · have hl1' : ¬ ¬ e.best.low1 < Spec.infinity := not_not_intro hl1
    obtain ⟨hfin, hmin⟩ := hops_agree hl1 (ok e he hs) face
    simp only [hs, hl1', or_self, if_false]
    rw [minFin_flatMap, ofold_flatMap]
    apply ofold_congr
    intro n _
    rw [ofold_pcOne_hops name face n _ hfin, hmin]
    by_cases hnn : n = name
    · simp only [hnn, if_true]
    · simp only [hnn, if_false]; rfl

theorem desCost_eq_prescribed (prefixOf : Nat → Nat) (t : Tables) (ok : NbrOk t) (name face : Nat) :
    desCost (desired prefixOf t) name face = Spec.prescribedCost (prescription prefixOf t) name face := by
  rw [desCost_desired, prescribedCost_eq, prescription_eq, minFin_flatMap, ofold_flatMap]
  exact ofold_congr fun e he => contrib_eq_spec prefixOf t ok name face e he

end Ndn.C19
