/- C19: the router as a whole: `fibUpdate` is started exactly when the code's dirty results say so, and the
   installed routes equal the prescription after EVERY event. -/
import NdnVerif.C19.LemmasDirty
namespace Ndn.C19
open Spec (rget replay)

theorem pfxApply_clean {pfx : List (Nat × List Nat)} {x : Nat} {reset : Bool} {adds rems : List Nat}
    (hc : (pfxApply pfx x reset adds rems).2 = false) (d : Nat) :
    (pget (pfxApply pfx x reset adds rems).1 d).getD [] = (pget pfx d).getD [] := by
  unfold pfxApply at hc ⊢
  simp only [Bool.or_eq_false_iff, Bool.not_eq_eq_eq_not, Bool.not_false, List.isEmpty_iff] at hc
  obtain ⟨⟨hr, ha⟩, hrm⟩ := hc
  subst ha; subst hrm
  simp only [hr, Bool.false_eq_true, if_false, List.foldl_nil, pget_pset]
  by_cases hd : d = x
  · subst hd; simp only [if_true, Option.getD_some]
  · simp only [hd, if_false]

theorem nbrOk_obs {t : Tables} (ok : NbrOk t) {o : Spec.RibObs} (ho : o ∈ obsOf t) (hne : o.dest ≠ t.self) :
    (pget t.nbrs o.nh1).isSome ∧ (o.c2 < Spec.infinity → (pget t.nbrs o.nh2).isSome) := by
  obtain ⟨e, he, rfl⟩ := List.mem_map.1 ho
  exact ok e he hne

theorem faceOfS_congr {t t' : Tables} {h : Nat} (e : pget t'.nbrs h = pget t.nbrs h) : faceOfS t' h = faceOfS t h := by
  unfold faceOfS; rw [e]

theorem dead_same_prescription (prefixOf : Nat → Nat) {t t' : Tables} {w : Nat} (hself : t'.self = t.self)
    (hb : bests t'.rib.entries = bests t.rib.entries) (hnb : t'.nbrs = perase t.nbrs w) (hpfx : t'.pfx = t.pfx)
    (ok' : NbrOk t') : prescription prefixOf t' = prescription prefixOf t := by
  refine prescription_congr prefixOf hself hb (fun d => by unfold announcedS; rw [hpfx]) fun o ho hne => ?_
  -- the same observation exists in `t'`, where its hops have a neighbour state, so they are not `w`
  obtain ⟨u1, u2⟩ := nbrOk_obs ok' (o := o) (obsOf_bests hb ▸ ho) (hself ▸ hne)
  have hne' : ∀ {h : Nat}, (pget t'.nbrs h).isSome → pget t'.nbrs h = pget t.nbrs h := fun {h} hs => by
    rw [hnb, pget_perase] at hs ⊢
    by_cases e : h = w
    · rw [if_pos e] at hs; cases hs
    · rw [if_neg e]
  exact ⟨faceOfS_congr (hne' u1), fun h2 => faceOfS_congr (hne' (u2 h2))⟩

/-- one traversal of the events for both facts: the invariant is kept, and an event that leaves the dirty result
    false leaves the prescription as it was (the invariant of the tables in between is what a sweep needs) -/
theorem nbr_step {t : Tables} (ev : RouterEvent) : NbrInv t → NbrInv (t.step ev) ∧
    ((t.stepDirty ev).2 = false → ∀ prefixOf, prescription prefixOf (t.step ev) = prescription prefixOf t) := by
  refine step_induction (R := fun a b d => NbrInv a → NbrInv b ∧
    (d = false → ∀ prefixOf, prescription prefixOf b = prescription prefixOf a)) ?_ ?_ ?_ ?_ ?_ ?_ t ev
  · exact fun t inv => ⟨inv, fun _ _ => rfl⟩
  · intro a b c d1 d2 h1 h2 inv
    obtain ⟨ib, e1⟩ := h1 inv
    obtain ⟨ic, e2⟩ := h2 ib
    exact ⟨ic, fun hd p => by rw [e2 (Bool.or_eq_false_iff.1 hd).2, e1 (Bool.or_eq_false_iff.1 hd).1]⟩
  · intro t w face active inv
    refine ⟨⟨inv.wf, fun d h hlt => (inv.loc d h hlt).imp (fun h1 => (pget_recvPing w face active h1).1) id⟩,
      fun hc p => prescription_congr p rfl rfl (fun _ => rfl) fun o ho hne => ?_⟩
    obtain ⟨u1, u2⟩ := nbrOk_obs (nbrOk_of_inv inv) ho hne
    exact ⟨faceOfS_congr ((pget_recvPing w face active u1).2 hc),
      fun h2 => faceOfS_congr ((pget_recvPing w face active (u2 h2)).2 hc)⟩
  · -- the costs via `w` are new, and `w` has a neighbour state
    intro t w nb entries hw inv
    obtain ⟨wf', hc⟩ := C18.ribUpdate_wf_cst t.self inv.wf w entries
    refine ⟨⟨wf', fun d h hlt => ?_⟩, fun hcl p =>
      prescription_congr p rfl (ribUpdate_clean _ _ _ _ hcl) (fun _ => rfl) fun _ _ _ => ⟨rfl, fun _ => rfl⟩⟩
    rw [hc] at hlt
    by_cases hh : h = w
    · exact Or.inl (by rw [hh]; exact Option.isSome_iff_exists.2 ⟨nb, hw⟩)
    · rw [if_neg hh] at hlt; exact inv.loc d h hlt
  · -- the costs via `w` are infinite, the other neighbour states stay
    intro t w nb hw inv
    obtain ⟨wf', hc⟩ := C18.ribDead_wf_cst inv.wf w
    have inv' : NbrInv { t with rib := (C18.ribDead t.rib w).1, nbrs := perase t.nbrs w } := by
      refine ⟨wf', fun d h hlt => ?_⟩
      rw [hc] at hlt
      by_cases hh : h = w
      · rw [if_pos hh] at hlt; exact absurd hlt (Nat.lt_irrefl _)
      · rw [if_neg hh] at hlt
        exact (inv.loc d h hlt).imp (fun h1 => by rw [pget_perase, if_neg hh]; exact h1) id
    exact ⟨inv', fun hcl p => dead_same_prescription p rfl (ribDead_clean t.rib w hcl) rfl rfl (nbrOk_of_inv inv')⟩
  · exact fun t x reset adds rems inv => ⟨⟨inv.wf, inv.loc⟩, fun hc p =>
      prescription_congr p rfl rfl (fun d => pfxApply_clean hc d) fun _ _ _ => ⟨rfl, fun _ => rfl⟩⟩

theorem nbrInv_step {t : Tables} (inv : NbrInv t) (ev : RouterEvent) : NbrInv (t.step ev) := (nbr_step ev inv).1

theorem clean_same_prescription (prefixOf : Nat → Nat) {t : Tables} (inv : NbrInv t) (ev : RouterEvent)
    (hc : (t.stepDirty ev).2 = false) : prescription prefixOf (t.step ev) = prescription prefixOf t :=
  (nbr_step ev inv).2 hc prefixOf

/-- what holds after every event: `routes` is `routes_mirror_tables_always` -/
structure RInv (prefixOf : Nat → Nat) (s : RState) : Prop where
  nbr : NbrInv s.t
  mir : Mirror s.fib s.routes
  routes : ∀ name face, rget s.routes (name, face) = Spec.prescribedCost (prescription prefixOf s.t) name face

theorem prescription_start (prefixOf : Nat → Nat) (self : Nat) : prescription prefixOf (Tables.start self) = [] := by
  rw [prescription_eq, List.flatMap_eq_nil_iff]
  intro e he
  -- the only entry is the router's own
  have hm := (List.mem_filter.1 he).1
  simp only [Tables.start, C18.Router.start, C18.Rib.set, C18.Rib.empty, C18.setEntries, List.mem_singleton] at hm
  have hd : e.dest = self := by rw [hm]; exact C18.set_dest _ _ _
  exact if_pos (Or.inl hd)

theorem rinv_start (prefixOf : Nat → Nat) (self : Nat) : RInv prefixOf (RState.start self) := by
  refine ⟨nbrInv_start self, mirror_empty, fun name face => ?_⟩
  simp only [RState.start, prescription_start]
  rfl

theorem rstep_dirty (prefixOf : Nat → Nat) {s : RState} {ev : RouterEvent} (h : (s.t.stepDirty ev).2 = true) :
    s.step prefixOf ev =
      { t := s.t.step ev, fib := (fibUpdate prefixOf (s.t.step ev) s.fib).1,
        routes := replay s.routes (fibUpdate prefixOf (s.t.step ev) s.fib).2 } := by
  rw [RState.step, RState.stepCmds, if_pos h]

theorem rstep_clean (prefixOf : Nat → Nat) {s : RState} {ev : RouterEvent} (h : (s.t.stepDirty ev).2 = false) :
    s.step prefixOf ev = { s with t := s.t.step ev } := by
  rw [RState.step, RState.stepCmds, if_neg (by rw [h]; exact Bool.false_ne_true)]

theorem rinv_step (prefixOf : Nat → Nat) {s : RState} (inv : RInv prefixOf s) (ev : RouterEvent) :
    RInv prefixOf (s.step prefixOf ev) := by
  have nbr' := nbrInv_step inv.nbr ev
  cases hd : (s.t.stepDirty ev).2 with
  | true =>
    rw [rstep_dirty prefixOf hd]
    obtain ⟨m, h⟩ := fibUpdate_spec prefixOf (s.t.step ev) inv.mir (desired_nodup prefixOf (s.t.step ev))
    -- as a variable, or `exact` unfolds `fibUpdate`
    generalize fibUpdate prefixOf (s.t.step ev) s.fib = r at m h ⊢
    exact ⟨nbr', m, fun name face => (h name face).trans (desCost_eq_prescribed prefixOf _ (nbrOk_of_inv nbr') name face)⟩
  | false =>
    rw [rstep_clean prefixOf hd]
    exact ⟨nbr', inv.mir, fun name face =>
      (inv.routes name face).trans (by rw [clean_same_prescription prefixOf inv.nbr ev hd])⟩

end Ndn.C19
