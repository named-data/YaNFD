/-
  C19 model — (A) the route installer, (B) the prefix operation log.

  (A) dv/table/fib.go        GetFibEntries, Fib.UpdateH (incremental differ with prevCost),
                             MarkH / UnmarkAll / RemoveUnmarked (mark & sweep)
      dv/dv/table_algo.go    fibUpdate (collect desired entries from RIB x prefix table)
      dv/table/neighbor_table.go  Add / Remove / RecvPing (which neighbours exist, face, active flag)
      dv/table/prefix_table.go    GetRouter / Apply (prefix table of remote routers)
      The RIB is the C18 model (`Ndn.C18.Rib`, `ribUpdate`, `ribDead`).
      The installer emits a stream of `Cmd`s (what nfdc.Exec is called with for module "rib").

  (B) dv/table/prefix_table.go    Announce / Withdraw / publishOp / publishSnap / OnDataInterest
      dv/dv/prefix_sync.go        onPfxSyncUpdate / prefixDataFetch / processPrefixData

  Names are abstract ids (`Nat`); map keys are name hashes in the code (assumed injective on the
  names of a run, checked by the harness). Router keys are the name hashes (tie-break order of the
  RIB), `prefixOf : key → name id` gives the id of "<router>/32=DV".
  Sequence arithmetic that can wrap is done in `UInt64` exactly as in the code.
  Thresholds / operand order come from `Gen/C19Consts.lean` (regenerated from the working tree).
  Core Lean only.
-/
import NdnVerif.C18.Model
import NdnVerif.C19.Spec
import NdnVerif.Gen.C19Consts
namespace Ndn.C19
open Ndn.C18 (Rib Entry)

/-- `config.CostInfinity` (regenerated) -/
abbrev inf : Nat := Ndn.Gen.C19.costInfinity

/-! ## (A) route installer -/

-- `Cmd` (a management command for module "rib": what nfdc.Exec is called with) is declared in Spec.lean

/-- `table.FibEntry` -/
structure FibEntry where
  face : Nat
  cost : Nat
  prev : Nat
deriving DecidableEq, Repr

/-- `table.Fib` (the `names` map is keyed like `prefixes` and never nil for wire names; omitted) -/
structure Fib where
  prefixes : List (Nat × List FibEntry)
  mark : List Nat
deriving Repr

def Fib.empty : Fib := { prefixes := [], mark := [] }

def pget {α : Type} : List (Nat × α) → Nat → Option α
  | [], _ => none
  | (k', v) :: t, k => if k' = k then some v else pget t k

def pset {α : Type} : List (Nat × α) → Nat → α → List (Nat × α)
  | [], k, v => [(k, v)]
  | (k', v') :: t, k, v => if k' = k then (k, v) :: t else (k', v') :: pset t k v

def perase {α : Type} : List (Nat × α) → Nat → List (Nat × α)
  | [], _ => []
  | (k', v') :: t, k => if k' = k then perase t k else (k', v') :: perase t k

/-- "Set cost of all current entries to infinite and store existing params" -/
def resetOld (old : List FibEntry) : List FibEntry :=
  old.map fun e => { e with prev := e.cost, cost := inf }

/-- the inner loop: first entry with the same face gets `min` of the costs; `none` if no such entry -/
def mergeFace : List FibEntry → Nat → Nat → Option (List FibEntry)
  | [], _, _ => none
  | e :: t, face, cost =>
    if e.face = face then some ({ e with cost := min cost e.cost } :: t)
    else (mergeFace t face cost).map (e :: ·)

/-- "Merge new entries into old entries" -/
def mergeNew (old : List FibEntry) : List (Nat × Nat) → List FibEntry
  | [] => old
  | (face, cost) :: t =>
    if cost ≥ inf then mergeNew old t
    else match mergeFace old face cost with
      | some old' => mergeNew old' t
      | none => mergeNew (old ++ [{ face := face, cost := cost, prev := inf }]) t

/-- `Fib.UpdateH`: new state, emitted commands (in order), return value -/
def Fib.updateH (fib : Fib) (name : Nat) (newEntries : List (Nat × Nat)) : Fib × List Cmd × Bool :=
  let old := mergeNew (resetOld ((pget fib.prefixes name).getD [])) newEntries
  let unregs := (old.filter fun e => e.cost ≥ inf).map fun e => Cmd.unregister name e.face
  let final := old.filter fun e => ¬ e.cost ≥ inf
  let regs := (final.filter fun e => e.cost ≠ e.prev).map fun e => Cmd.register name e.face e.cost
  if final.length > 0 then
    ({ fib with prefixes := pset fib.prefixes name final }, unregs ++ regs, true)
  else
    ({ prefixes := perase fib.prefixes name, mark := fib.mark.filter (· ≠ name) }, unregs ++ regs, false)

/-- neighbour table entry -/
structure Nbr where
  face : Nat
  active : Bool
deriving DecidableEq, Repr

/-- the tables of one router -/
structure Tables where
  self : Nat
  rib : Rib
  nbrs : List (Nat × Nbr)
  /-- prefix table: router key ↦ announced name ids -/
  pfx : List (Nat × List Nat)
deriving Repr

def faceOf (nbrs : List (Nat × Nbr)) (nh : Nat) : Nat :=
  match pget nbrs nh with
  | some n => n.face
  | none => 0

/-- `Rib.GetFibEntries` -/
def fibEntriesOf (nbrs : List (Nat × Nbr)) (e : Entry) : List (Nat × Nat) :=
  [(faceOf nbrs e.best.nh1, e.best.low1), (faceOf nbrs e.best.nh2, e.best.low2)]

/-- the `register` helper of `fibUpdate`: append to the desired entries of `name` -/
def addDesired (acc : List (Nat × List (Nat × Nat))) (name : Nat) (fes : List (Nat × Nat)) :
    List (Nat × List (Nat × Nat)) :=
  pset acc name ((pget acc name).getD [] ++ fes)

/-- first phase of `fibUpdate`: desired entries per name from RIB × prefix table -/
def desired (prefixOf : Nat → Nat) (t : Tables) : List (Nat × List (Nat × Nat)) :=
  t.rib.reachable.foldl (fun acc e =>
      if e.dest = t.self then acc
      else
        let fes := fibEntriesOf t.nbrs e
        let acc := addDesired acc (prefixOf e.dest) fes
        ((pget t.pfx e.dest).getD []).foldl (fun acc p => addDesired acc p fes) acc) []

/-- "Update all FIB entries to NFD": UpdateH + MarkH for every desired name -/
def updateAll (fib : Fib) : List (Nat × List (Nat × Nat)) → Fib × List Cmd
  | [] => (fib, [])
  | (name, fes) :: t =>
    let (fib1, cmds, ok) := fib.updateH name fes
    let fib2 := if ok then { fib1 with mark := name :: fib1.mark } else fib1
    let (fib3, cmds') := updateAll fib2 t
    (fib3, cmds ++ cmds')

/-- `Fib.RemoveUnmarked` over the names in `names` (the keys of `prefixes` when the sweep starts) -/
def sweep (fib : Fib) : List Nat → Fib × List Cmd
  | [] => (fib, [])
  | name :: t =>
    if fib.mark.contains name then sweep fib t
    else
      let (fib1, cmds, _) := fib.updateH name []
      let (fib2, cmds') := sweep fib1 t
      (fib2, cmds ++ cmds')

/-- `Router.fibUpdate` -/
def fibUpdate (prefixOf : Nat → Nat) (t : Tables) (fib : Fib) : Fib × List Cmd :=
  let des := desired prefixOf t
  let (fib1, cmds1) := updateAll { fib with mark := [] } des
  let (fib2, cmds2) := sweep fib1 (fib1.prefixes.map (·.1))
  (fib2, cmds1 ++ cmds2)

/-- `NeighborState.RecvPing` on the neighbour table (creating the state as advertSyncOnInterest does);
    returns whether the face changed -/
def recvPing (nbrs : List (Nat × Nbr)) (w face : Nat) (active : Bool) : List (Nat × Nbr) × Bool :=
  let cur := (pget nbrs w).getD { face := 0, active := false }
  if cur.face ≠ face then
    if cur.active ∧ ¬ active then (pset nbrs w cur, false)
    else (pset nbrs w { face := face, active := active }, true)
  else (pset nbrs w cur, false)

/-- `PrefixTable.Apply` for exit router `x` -/
def pfxApply (pfx : List (Nat × List Nat)) (x : Nat) (reset : Bool) (adds rems : List Nat) :
    List (Nat × List Nat) × Bool :=
  let cur := if reset then [] else (pget pfx x).getD []
  let cur := adds.foldl (fun s a => if s.contains a then s else s ++ [a]) cur
  let cur := rems.foldl (fun s a => s.filter (· ≠ a)) cur
  (pset pfx x cur, reset || !adds.isEmpty || !rems.isEmpty)

/-! ### the router as a whole: events, tables, when `fibUpdate` is started -/

/-- a router-level event -/
inductive RouterEvent where
  /-- a sync Interest of neighbour `w` arrives on `face` (advertSyncOnInterest → Add / RecvPing) -/
  | ping (w face : Nat) (active : Bool)
  /-- the advertisement of neighbour `w` is processed (advertDataHandler → ribUpdate); ignored without
      neighbour state (also when the neighbour died in between: `ns.Advert` is nil) -/
  | adv (w : Nat) (entries : List C18.AdvEntry)
  /-- checkDeadNeighbors finds `w` dead -/
  | dead (w : Nat)
  /-- ONE checkDeadNeighbors call finds all of `ws` dead (Remove + RemoveNextHop + Prune per neighbour,
      one `dirty` for the whole call) -/
  | sweep (ws : List Nat)
  /-- a prefix op list of exit router `x` is applied (processPrefixData → Apply) -/
  | papply (x : Nat) (reset : Bool) (adds rems : List Nat)

/-- `checkDeadNeighbors` for one dead neighbour `w` -/
def Tables.deadOne (t : Tables) (w : Nat) : Tables × Bool :=
  match pget t.nbrs w with
  | some _ => ({ t with rib := (C18.ribDead t.rib w).1, nbrs := perase t.nbrs w }, (C18.ribDead t.rib w).2)
  | none => (t, false)

/-- the tables after a router-level event, and whether the code starts `fibUpdate`:
    advertSyncOnInterest (`fibDirty`), ribUpdate / checkDeadNeighbors (`dirty`), processPrefixData (`Apply`) -/
def Tables.stepDirty (t : Tables) : RouterEvent → Tables × Bool
  | .sweep ws => ws.foldl (fun acc w => ((acc.1.deadOne w).1, acc.2 || (acc.1.deadOne w).2)) (t, false)
  | .ping w face active =>
    ({ t with nbrs := (recvPing t.nbrs w face active).1 }, (recvPing t.nbrs w face active).2)
  | .adv w entries =>
    match pget t.nbrs w with
    | some _ => ({ t with rib := (C18.ribUpdate t.self t.rib w entries).1 }, (C18.ribUpdate t.self t.rib w entries).2)
    | none => (t, false)
  | .dead w =>
    match pget t.nbrs w with
    | some _ => ({ t with rib := (C18.ribDead t.rib w).1, nbrs := perase t.nbrs w }, (C18.ribDead t.rib w).2)
    | none => (t, false)
  | .papply x reset adds rems =>
    ({ t with pfx := (pfxApply t.pfx x reset adds rems).1 }, (pfxApply t.pfx x reset adds rems).2)

def Tables.step (t : Tables) (ev : RouterEvent) : Tables := (t.stepDirty ev).1

/-- `NewRouter` + `Router.Start` -/
def Tables.start (self : Nat) : Tables :=
  { self := self, rib := (C18.Router.start self).rib, nbrs := [], pfx := [] }

/-- tables, installer state and the forwarder's route table (replay of every emitted command) -/
structure RState where
  t : Tables
  fib : Fib
  routes : Spec.Routes

def RState.start (self : Nat) : RState := { t := Tables.start self, fib := Fib.empty, routes := [] }

/-- one router-level event: the tables change and `fibUpdate` runs iff the code's dirty result is true;
    also returns the commands emitted -/
def RState.stepCmds (prefixOf : Nat → Nat) (s : RState) (ev : RouterEvent) : RState × List Cmd :=
  if (s.t.stepDirty ev).2 then
    let r := fibUpdate prefixOf (s.t.step ev) s.fib
    ({ t := s.t.step ev, fib := r.1, routes := Spec.replay s.routes r.2 }, r.2)
  else ({ s with t := s.t.step ev }, [])

def RState.step (prefixOf : Nat → Nat) (s : RState) (ev : RouterEvent) : RState := (s.stepCmds prefixOf ev).1

/-- an explicit `fibUpdate` -/
def RState.fibUpdateCmds (prefixOf : Nat → Nat) (s : RState) : RState × List Cmd :=
  let r := fibUpdate prefixOf s.t s.fib
  ({ s with fib := r.1, routes := Spec.replay s.routes r.2 }, r.2)

/-! ## (B) prefix operation log -/

/-- a published PrefixOpList of the publisher -/
inductive LogOp where
  | add (name : Nat)
  | remove (name : Nat)
deriving DecidableEq, Repr

/-- the publisher's prefix table with its in-memory repo -/
structure Pub where
  seq : UInt64                      -- pt.me.Latest = pt.me.Known
  set : List Nat                    -- pt.me.Prefixes
  snapAt : UInt64                   -- pt.snapshotAt
  snapSet : List Nat                -- content of the snapshot the SNAP prefix points to
  log : List (UInt64 × LogOp)       -- repo: PFX/seq=<n> ↦ op
deriving Repr

/-- `NewPrefixTable`: Known = Latest = svs seq, then `publishSnap` -/
def Pub.init (seq0 : UInt64) : Pub := { seq := seq0, set := [], snapAt := seq0, snapSet := [], log := [] }

/-- `publishSnap` -/
def Pub.publishSnap (p : Pub) : Pub := { p with snapAt := p.seq, snapSet := p.set }

/-- the snapshot rule of `publishOp` with the operand order found in the working tree -/
def snapDue (snapAt seq : UInt64) : Bool :=
  if Ndn.Gen.C19.snapshotAtMinusSeq then snapAt - seq ≥ UInt64.ofNat Ndn.Gen.C19.snapshotThreshold
  else seq - snapAt ≥ UInt64.ofNat Ndn.Gen.C19.snapshotThreshold

/-- `publishOp` -/
def Pub.publishOp (p : Pub) (op : LogOp) : Pub :=
  let seq := p.seq + 1
  let p := { p with seq := seq, log := (seq, op) :: p.log }
  if snapDue p.snapAt seq then p.publishSnap else p

/-- `Announce` -/
def Pub.announce (p : Pub) (name : Nat) : Pub :=
  if p.set.contains name then p
  else Pub.publishOp { p with set := p.set ++ [name] } (.add name)

/-- `Withdraw` -/
def Pub.withdraw (p : Pub) (name : Nat) : Pub :=
  if p.set.contains name then Pub.publishOp { p with set := p.set.filter (· ≠ name) } (.remove name)
  else p

/-- A readvertise command Interest as `readvertiseOnInterest` (dv/dv/readvertise.go) looks at it: the
    number of name components, the module and verb components, and the name carried by the
    ControlParameters component (`none`: the component does not parse or carries no Name). -/
structure RvCmd where
  comps : Nat
  module : String
  verb : String
  name : Option Nat
deriving Repr

/-- `readvertiseOnInterest`: a name of exactly six components (/localhost/nlsr/rib/<verb>/<params>/
    <digest>), module `rib`, parameters that carry a name, verb `register` → `Announce`, `unregister` →
    `Withdraw`, answered 200; anything else is answered 400 and changes nothing. -/
def Pub.readvertise (p : Pub) (c : RvCmd) : Pub × Nat :=
  if c.comps != 6 then (p, 400)
  else if c.module != "rib" then (p, 400)
  else match c.name with
    | none => (p, 400)
    | some n =>
      if c.verb == "register" then (p.announce n, 200)
      else if c.verb == "unregister" then (p.withdraw n, 200)
      else (p, 400)

/-- what a peer has outstanding -/
inductive Want where
  | snap
  | seq (n : UInt64)
deriving DecidableEq, Repr

/-- a peer's view of the publisher (`PrefixTableRouter`) plus its outstanding Interest -/
structure Peer where
  known : UInt64
  latest : UInt64
  fetching : Bool
  set : List Nat
  pend : Option Want
  /-- `rib.Has(publisher)`: the peer's RIB currently has a finite path to the publisher -/
  reach : Bool := false
  /-- the publisher's number in the peer's prefix-sync state vector (std/sync SvSync.state) -/
  svs : UInt64 := 0
deriving Repr

def Peer.init : Peer := { known := 0, latest := 0, fetching := false, set := [], pend := none, reach := false }

/-- `prefixDataFetch` (the RIB reaches the publisher) -/
def Peer.fetch (q : Peer) : Peer :=
  if ¬ q.reach ∨ q.fetching ∨ q.known ≥ q.latest then q
  else
    let isSnap := q.latest - q.known > UInt64.ofNat Ndn.Gen.C19.fetchGap
    { q with fetching := true, pend := some (if isSnap then .snap else .seq (q.known + 1)) }

/-- the RIB gains a path to the publisher: `ribUpdate` was dirty, so `prefixDataFetchAll` runs
    (`Known < Latest` ⇒ fetch); nothing happens when the path already existed -/
def Peer.gainPath (q : Peer) : Peer := if q.reach then q else Peer.fetch { q with reach := true }

/-- the RIB loses its path to the publisher -/
def Peer.losePath (q : Peer) : Peer := { q with reach := false }

/-- `onPfxSyncUpdate`: the new number is recorded even while there is no path -/
def Peer.sync (q : Peer) (high : UInt64) : Peer := Peer.fetch { q with latest := high }

/-- a Sync Interest of the prefix-sync group carrying the publisher's number reaches the peer's SvSync
    (`onReceiveStateVector`): only a strictly larger number is reported to `onPfxSyncUpdate` -/
def Peer.svsReceive (q : Peer) (high : UInt64) : Peer :=
  if high > q.svs then Peer.sync { q with svs := high } high else q

def applyOp (s : List Nat) : LogOp → List Nat
  | .add n => if s.contains n then s else s ++ [n]
  | .remove n => s.filter (· ≠ n)

def logGet : List (UInt64 × LogOp) → UInt64 → Option LogOp
  | [], _ => none
  | (k, op) :: t, n => if k = n then some op else logGet t n

/-- the Interest is answered from the publisher's repo (`OnDataInterest`), the Data is processed
    (`processPrefixData` + `Apply`), `Fetching` is cleared and the fetch is re-checked.
    `none`: nothing outstanding; `some (q, false)`: the repo has no such Data (no reply). -/
def Peer.deliver (q : Peer) (p : Pub) : Option (Peer × Bool) :=
  match q.pend with
  | none => none
  | some .snap =>
    some (Peer.fetch { q with known := p.snapAt, set := p.snapSet, fetching := false, pend := none }, true)
  | some (.seq n) =>
    match logGet p.log n with
    | some op => some (Peer.fetch { q with known := n, set := applyOp q.set op, fetching := false, pend := none }, true)
    | none => some (q, false)

/-- the Interest times out: `Fetching` is cleared and the fetch is re-checked -/
def Peer.timeout (q : Peer) : Option Peer :=
  match q.pend with
  | none => none
  | some _ => some (Peer.fetch { q with fetching := false, pend := none })

end Ndn.C19
