/- C19: how a router-level event decomposes (`step_induction`), and the invariant `NbrInv` under which every next hop
   the RIB holds at finite cost has a neighbour state, so `GetFibEntries` never falls back to face 0 (`nbrOk_of_inv`);
   that every event keeps it is `nbr_step` in LemmasRouter. -/
import NdnVerif.C19.LemmasDesired
import NdnVerif.C18.LemmasRib
namespace Ndn.C19
open Ndn.C18 (Rib)

theorem deadOne_eq (t : Tables) (w : Nat) : t.deadOne w = t.stepDirty (.dead w) := rfl

theorem sweep_fold_or (ws : List Nat) (t : Tables) (d : Bool) :
    ws.foldl (fun acc w => ((Tables.deadOne acc.1 w).1, acc.2 || (Tables.deadOne acc.1 w).2)) (t, d) =
      ((t.stepDirty (.sweep ws)).1, d || (t.stepDirty (.sweep ws)).2) := by
  simp only [Tables.stepDirty]
  induction ws generalizing t d with
  | nil => simp only [List.foldl_nil, Bool.or_false]
  | cons w r ih => simp only [List.foldl_cons]; rw [ih, ih _ (false || _), Bool.false_or, Bool.or_assoc]

theorem stepDirty_sweep_cons (t : Tables) (w : Nat) (ws : List Nat) :
    t.stepDirty (.sweep (w :: ws)) =
      (((t.step (.dead w)).stepDirty (.sweep ws)).1,
       (t.stepDirty (.dead w)).2 || ((t.step (.dead w)).stepDirty (.sweep ws)).2) :=
  (sweep_fold_or ws _ _).trans (by rw [Bool.false_or]; rfl)

theorem step_sweep_cons (t : Tables) (w : Nat) (ws : List Nat) :
    t.step (.sweep (w :: ws)) = (t.step (.dead w)).step (.sweep ws) := by
  rw [Tables.step, stepDirty_sweep_cons]; rfl

/-- an event is one of four table changes, nothing (no neighbour state), or (sweep) a sequence of deaths; `R t t' d`
    relates the tables before and after an event and its dirty result, which a sweep or-s together -/
theorem step_induction {R : Tables → Tables → Bool → Prop}
    (refl : ∀ t, R t t false)
    (trans : ∀ {a b c d1 d2}, R a b d1 → R b c d2 → R a c (d1 || d2))
    (ping : ∀ t w face active,
      R t { t with nbrs := (recvPing t.nbrs w face active).1 } (recvPing t.nbrs w face active).2)
    (adv : ∀ t w nb entries, pget t.nbrs w = some nb →
      R t { t with rib := (C18.ribUpdate t.self t.rib w entries).1 } (C18.ribUpdate t.self t.rib w entries).2)
    (dead : ∀ t w nb, pget t.nbrs w = some nb →
      R t { t with rib := (C18.ribDead t.rib w).1, nbrs := perase t.nbrs w } (C18.ribDead t.rib w).2)
    (papply : ∀ t x reset adds rems,
      R t { t with pfx := (pfxApply t.pfx x reset adds rems).1 } (pfxApply t.pfx x reset adds rems).2)
    (t : Tables) (ev : RouterEvent) : R t (t.step ev) (t.stepDirty ev).2 := by
  have hdead : ∀ t w, R t (t.step (.dead w)) (t.stepDirty (.dead w)).2 := fun t w => by
    simp only [Tables.step, Tables.stepDirty]
    cases hw : pget t.nbrs w with
    | none => exact refl t
    | some nb => exact dead t w nb hw
  cases ev with
  | ping w face active => exact ping t w face active
  | adv w entries =>
    simp only [Tables.step, Tables.stepDirty]
    cases hw : pget t.nbrs w with
    | none => exact refl t
    | some nb => exact adv t w nb entries hw
  | dead w => exact hdead t w
  | papply x reset adds rems => exact papply t x reset adds rems
  | sweep ws =>
    induction ws generalizing t with
    | nil => exact refl t
    | cons w r ih => rw [step_sweep_cons, stepDirty_sweep_cons]; exact trans (hdead t w) (ih _)

theorem step_self (t : Tables) (ev : RouterEvent) : (t.step ev).self = t.self :=
  step_induction (R := fun a b _ => b.self = a.self) (fun _ => rfl) (fun h1 h2 => h2.trans h1)
    (fun _ _ _ _ => rfl) (fun _ _ _ _ _ => rfl) (fun _ _ _ _ => rfl) (fun _ _ _ _ _ => rfl) t ev

theorem recvPing_eq_pset (nbrs : List (Nat × Nbr)) (w face : Nat) (active : Bool) :
    ∃ nb, (recvPing nbrs w face active).1 = pset nbrs w nb ∧
      ((recvPing nbrs w face active).2 = false → nb = (pget nbrs w).getD { face := 0, active := false }) := by
  rw [recvPing]
  generalize (pget nbrs w).getD { face := 0, active := false } = cur
  by_cases hf : cur.face ≠ face
  · rw [if_pos hf]
    by_cases ha : cur.active ∧ ¬ active
    · rw [if_pos ha]; exact ⟨_, rfl, fun _ => rfl⟩
    · rw [if_neg ha]; exact ⟨_, rfl, fun h => nomatch h⟩
  · rw [if_neg hf]; exact ⟨_, rfl, fun _ => rfl⟩

theorem pget_recvPing {nbrs : List (Nat × Nbr)} (w face : Nat) (active : Bool) {h : Nat}
    (hs : (pget nbrs h).isSome) :
    (pget (recvPing nbrs w face active).1 h).isSome ∧
    ((recvPing nbrs w face active).2 = false → pget (recvPing nbrs w face active).1 h = pget nbrs h) := by
  obtain ⟨nb, he, hc⟩ := recvPing_eq_pset nbrs w face active
  rw [he, pget_pset]
  by_cases hw : h = w
  · rw [if_pos hw]
    refine ⟨rfl, fun hcl => ?_⟩
    obtain ⟨cur, hcur⟩ := Option.isSome_iff_exists.1 hs
    rw [hc hcl, ← hw, hcur]; rfl
  · rw [if_neg hw]; exact ⟨hs, fun _ => rfl⟩

/-- finite costs are held only via neighbours that have a neighbour state (or the own entry) -/
structure NbrInv (t : Tables) : Prop where
  wf : t.rib.WF
  loc : ∀ d h, t.rib.cst d h < C18.inf → (pget t.nbrs h).isSome ∨ (d = t.self ∧ h = t.self)

theorem nbrInv_start (self : Nat) : NbrInv (Tables.start self) := by
  refine ⟨(C18.start_wf_cst self).1, fun d h hlt => ?_⟩
  by_cases hs : d = self ∧ h = self
  · exact Or.inr hs
  · have hlt' : (C18.Router.start self).rib.cst d h < C18.inf := hlt
    rw [(C18.start_wf_cst self).2 d h, if_neg hs] at hlt'
    exact absurd hlt' (Nat.lt_irrefl _)

theorem nbrOk_of_inv {t : Tables} (inv : NbrInv t) : NbrOk t := by
  intro e he hne
  have hmem : e ∈ t.rib.entries := (List.mem_filter.1 he).1
  have p : C18.Post t.rib.entries := inv.wf
  have ok := p.ok e hmem
  have t2 := C18.Post.top2 p hmem
  have hcst : ∀ h k, (h, k) ∈ e.costs → t.rib.cst e.dest h = k := by
    intro h k hm
    unfold Rib.cst C18.cstL C18.costsL
    rw [C18.findE_of_mem p.nd hmem]
    exact C18.cget_of_mem ok.nd hm
  have hl1 : e.best.low1 < C18.inf := p.finite e hmem
  -- the selected hops are items of the cost map at finite cost, hence located by the invariant
  have hloc : ∀ nh low, (nh, low) ∈ e.costs → low < C18.inf → (pget t.nbrs nh).isSome := fun nh low hm hl =>
    (inv.loc e.dest nh (by rw [hcst _ _ hm]; exact hl)).resolve_right fun h => hne h.1
  exact ⟨hloc _ _ (t2.mem1 hl1) hl1, fun hl2 => hloc _ _ (t2.mem2 hl2).1 hl2⟩

end Ndn.C19
