/- C19: `updateAll`, `sweep`, `fibUpdate`: afterwards the replayed routes are the desired costs. -/
import NdnVerif.C19.LemmasUpdateH
namespace Ndn.C19
open Spec (Routes rget replay)

/-- lowest finite desired cost of (name, face) -/
def desCost (des : List (Nat × List (Nat × Nat))) (name face : Nat) : Option Nat :=
  match pget des name with
  | some L => minFin L face
  | none => none

theorem desCost_cons (n : Nat) (L : List (Nat × Nat)) (t : List (Nat × List (Nat × Nat))) (name f : Nat) :
    desCost ((n, L) :: t) name f = if n = name then minFin L f else desCost t name f := by
  unfold desCost
  by_cases h : n = name
  · simp only [pget, h, if_true]
  · simp only [pget, h, if_false]

section
variable (fib : Fib) (name : Nat) (L : List (Nat × Nat))

/-- `UpdateH` followed by `MarkH` if the prefix is still stored -/
def marked : Fib :=
  if (fib.updateH name L).2.2 = true then
    { (fib.updateH name L).1 with mark := name :: (fib.updateH name L).1.mark }
  else (fib.updateH name L).1

theorem updateAll_cons (t : List (Nat × List (Nat × Nat))) :
    updateAll fib ((name, L) :: t) =
      ((updateAll (marked fib name L) t).1, (fib.updateH name L).2.1 ++ (updateAll (marked fib name L) t).2) := by
  rw [updateAll]; rfl

theorem marked_prefixes : (marked fib name L).prefixes = (fib.updateH name L).1.prefixes := by
  unfold marked; split <;> rfl

theorem mem_mark_marked (x : Nat) :
    x ∈ (marked fib name L).mark ↔
      if x = name then pget (marked fib name L).prefixes name ≠ none else x ∈ fib.mark := by
  rw [marked_prefixes, ← updateH_ok]
  unfold marked
  by_cases hx : x = name
  · cases hk : (fib.updateH name L).2.2 <;> simp [hx, hk, mem_mark_updateH]
  · cases hk : (fib.updateH name L).2.2 <;> simp [hx, mem_mark_updateH]

end

/-- mirror; desired costs; other names untouched; marks from `des` or before; stored ⇒ marked; old marks stay -/
theorem updateAll_spec (des : List (Nat × List (Nat × Nat))) : ∀ {fib : Fib} {routes : Routes},
    Mirror fib routes → (des.map (·.1)).Nodup →
    Mirror (updateAll fib des).1 (replay routes (updateAll fib des).2) ∧
    (∀ name, name ∈ des.map (·.1) → ∀ f, fibCost (updateAll fib des).1 name f = desCost des name f) ∧
    (∀ name, name ∉ des.map (·.1) → pget (updateAll fib des).1.prefixes name = pget fib.prefixes name) ∧
    (∀ name, name ∈ (updateAll fib des).1.mark → name ∈ des.map (·.1) ∨ name ∈ fib.mark) ∧
    (∀ name, name ∈ des.map (·.1) → pget (updateAll fib des).1.prefixes name ≠ none → name ∈ (updateAll fib des).1.mark) ∧
    (∀ name, name ∉ des.map (·.1) → name ∈ fib.mark → name ∈ (updateAll fib des).1.mark) := by
  induction des with
  | nil => exact fun mir _ => ⟨mir, fun _ h => (nomatch h), fun _ _ => rfl, fun _ h => .inr h, fun _ h => (nomatch h),
      fun _ _ h => h⟩
  | cons x t ih =>
    intro fib routes mir nd
    obtain ⟨n, L⟩ := x
    rw [List.map_cons, List.nodup_cons] at nd
    have hu := updateH_spec mir n L
    have mB : Mirror (marked fib n L) (replay routes (fib.updateH n L).2.1) :=
      ⟨fun a es h => hu.1.good a es (marked_prefixes fib n L ▸ h),
        fun a f => (hu.1.agree a f).trans (fibCost_congr (by rw [marked_prefixes]) f).symm⟩
    obtain ⟨m2, c2, o2, mk2, pr2, keep2⟩ := ih mB nd.2
    have hmk := mem_mark_marked fib n L
    have hn : ∀ {name}, name ∉ n :: t.map (·.1) → name ≠ n ∧ name ∉ t.map (·.1) := fun h => not_or.1 (mt List.mem_cons.2 h)
    rw [updateAll_cons, replay_append]
    refine ⟨m2, fun name hname f => ?_, fun name hname => ?_, fun name h => ?_, fun name hname hp => ?_,
      fun name hname h => keep2 name (hn hname).2 ((hmk name).2 (by rw [if_neg (hn hname).1]; exact h))⟩
    · rw [desCost_cons]
      by_cases e : n = name
      · subst e
        rw [if_pos rfl, fibCost_congr (o2 n nd.1), fibCost_congr (fib := (fib.updateH n L).1) (by rw [marked_prefixes])]
        exact hu.2.1 f
      · rw [if_neg e]; exact c2 name ((List.mem_cons.1 hname).resolve_left (Ne.symm e)) f
    · rw [o2 name (hn hname).2, marked_prefixes, pget_updateH, if_neg (hn hname).1]
    · rcases mk2 name h with h | h
      · exact .inl (List.mem_cons_of_mem _ h)
      · by_cases e : name = n
        · exact .inl (e ▸ List.mem_cons_self)
        · rw [hmk, if_neg e] at h; exact .inr h
    · by_cases e : name = n
      · subst e
        rw [o2 name nd.1] at hp
        exact keep2 name nd.1 ((hmk name).2 (by rw [if_pos rfl]; exact hp))
      · exact pr2 name ((List.mem_cons.1 hname).resolve_left e) hp

theorem sweep_cons (fib : Fib) (n : Nat) (t : List Nat) :
    sweep fib (n :: t) =
      if fib.mark.contains n = true then sweep fib t
      else ((sweep (fib.updateH n []).1 t).1, (fib.updateH n []).2.1 ++ (sweep (fib.updateH n []).1 t).2) := by
  rw [sweep]

theorem sweep_spec (ns : List Nat) : ∀ {fib : Fib} {routes : Routes}, Mirror fib routes →
    Mirror (sweep fib ns).1 (replay routes (sweep fib ns).2) ∧
    (∀ name, name ∈ ns → name ∉ fib.mark → ∀ f, fibCost (sweep fib ns).1 name f = none) ∧
    (∀ name, ¬ (name ∈ ns ∧ name ∉ fib.mark) → pget (sweep fib ns).1.prefixes name = pget fib.prefixes name) := by
  induction ns with
  | nil => exact fun mir => ⟨mir, fun _ h => (nomatch h), fun _ _ => rfl⟩
  | cons n t ih =>
    intro fib routes mir
    rw [sweep_cons]
    by_cases hmk : fib.mark.contains n = true
    · rw [if_pos hmk]
      have hmem : n ∈ fib.mark := List.contains_iff_mem.1 hmk
      obtain ⟨m2, c2, o2⟩ := ih mir
      refine ⟨m2, fun name hname hnm f => ?_, fun name hnot => o2 name fun h => hnot ⟨List.mem_cons_of_mem _ h.1, h.2⟩⟩
      rcases List.mem_cons.1 hname with rfl | h
      · exact absurd hmem hnm
      · exact c2 name h hnm f
    · rw [if_neg hmk]
      have hnmem : n ∉ fib.mark := fun h => hmk (List.contains_iff_mem.2 h)
      obtain ⟨hmir, hcost, hother, -, -⟩ := updateH_spec mir n []
      -- `n` was not marked, so the marks are as before
      have hmarks : ∀ x, x ∈ (fib.updateH n []).1.mark ↔ x ∈ fib.mark := fun x => by
        rw [mem_mark_updateH]
        exact ⟨fun h => h.1, fun h => ⟨h, fun e => absurd (e ▸ h) hnmem⟩⟩
      obtain ⟨m2, c2, o2⟩ := ih hmir
      rw [replay_append]
      refine ⟨m2, fun name hname hnm f => ?_, fun name hnot => ?_⟩
      · by_cases hin : name ∈ t
        · exact c2 name hin (fun h => hnm ((hmarks name).1 h)) f
        · have hn : name = n := (List.mem_cons.1 hname).resolve_right hin
          subst hn
          rw [fibCost_congr (o2 name fun h => hin h.1), hcost f]; rfl
      · have hne : name ≠ n := fun e => hnot ⟨e ▸ List.mem_cons_self, e ▸ hnmem⟩
        rw [o2 name fun h => hnot ⟨List.mem_cons_of_mem _ h.1, fun h' => h.2 ((hmarks name).2 h')⟩]
        exact hother name hne

theorem fibUpdate_spec (prefixOf : Nat → Nat) (t : Tables) {fib : Fib} {routes : Routes}
    (mir : Mirror fib routes) (nd : ((desired prefixOf t).map (·.1)).Nodup) :
    Mirror (fibUpdate prefixOf t fib).1 (replay routes (fibUpdate prefixOf t fib).2) ∧
    ∀ name f, rget (replay routes (fibUpdate prefixOf t fib).2) (name, f) = desCost (desired prefixOf t) name f := by
  unfold fibUpdate
  simp only
  have mir0 : Mirror { fib with mark := [] } routes := ⟨mir.good, mir.agree⟩
  obtain ⟨m1, c1, o1, mk1, pr1, _⟩ := updateAll_spec (desired prefixOf t) mir0 nd
  generalize updateAll { fib with mark := [] } (desired prefixOf t) = ua at m1 c1 o1 mk1 pr1
  obtain ⟨m2, c2, o2⟩ := sweep_spec (ua.1.prefixes.map (·.1)) m1
  refine ⟨by rw [replay_append]; exact m2, ?_⟩
  intro name f
  rw [replay_append, m2.agree]
  by_cases hin : name ∈ (desired prefixOf t).map (·.1)
  · -- desired names are never swept
    have hns : ¬ (name ∈ ua.1.prefixes.map (·.1) ∧ name ∉ ua.1.mark) := fun ⟨h1, h2⟩ =>
      h2 (pr1 name hin (mt (pget_eq_none_iff ..).1 (not_not_intro h1)))
    rw [fibCost_congr (o2 name hns), c1 name hin f]
  · have hdes : desCost (desired prefixOf t) name f = none := by
      unfold desCost; rw [(pget_eq_none_iff ..).2 hin]
    rw [hdes]
    have hnm : name ∉ ua.1.mark := fun h => (mk1 name h).elim hin (fun h => nomatch h)
    by_cases hpres : name ∈ ua.1.prefixes.map (·.1)
    · exact c2 name hpres hnm f
    · rw [fibCost_congr (o2 name (fun h => hpres h.1))]
      unfold fibCost; rw [(pget_eq_none_iff ..).2 hpres]

end Ndn.C19
