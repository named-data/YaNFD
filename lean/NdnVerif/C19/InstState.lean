/- C19 (A): the installer between arbitrary table changes. -/
import NdnVerif.C19.Model
namespace Ndn.C19
open Spec (Routes replay)

/-- what can happen between two route updates: ANY change of the tables (RIB, neighbour faces,
    prefix table — not even restricted to what the router's own algorithms produce), or a `fibUpdate` -/
inductive InstEvent where
  | tables (t : Tables)
  | fibUpdate

/-- tables, the installer's own state, and the forwarder's route table (replay of every command) -/
structure InstState where
  t : Tables
  fib : Fib
  routes : Routes

def InstState.init (t : Tables) : InstState := { t := t, fib := Fib.empty, routes := [] }

def InstState.step (prefixOf : Nat → Nat) (s : InstState) : InstEvent → InstState
  | .tables t' => { s with t := t' }
  | .fibUpdate =>
    let r := fibUpdate prefixOf s.t s.fib
    { s with fib := r.1, routes := replay s.routes r.2 }

def InstState.run (prefixOf : Nat → Nat) (s : InstState) (evs : List InstEvent) : InstState :=
  evs.foldl (InstState.step prefixOf) s

end Ndn.C19
