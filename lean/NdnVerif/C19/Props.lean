/-
  C19 — the property theorems, with the vocabulary of their statements (`specSet`, `Pub.apply`, `RvCmd.op`).
  Clauses of the property and the theorems that cover each:
    * the routes registered in the forwarder (replay of the emitted register / unregister stream) equal what the
      current tables prescribe: commands_replay_eq_prescribed (after every fibUpdate of any history of table
      changes), next_hops_have_neighbor_state (its side condition is an invariant: no command names face 0),
      routes_mirror_tables_always (the router as a whole, after EVERY event)
    * the prefix set a peer reconstructs from the published op log equals the announced set:
      log_replay_eq_announced, announced_set_is_spec, readvertise_is_the_command, readvertise_history_is_spec
    * what ties model and assumptions to the tree: consts_are_protocol, exec_never_drops_commands,
      no_lock_order_cycle
-/
import NdnVerif.C19.LemmasRouter
import NdnVerif.C19.LemmasLog
import NdnVerif.C19.InstState
import NdnVerif.Gen.C19Locks
namespace Ndn.C19
open Spec (rget replay)

/-- the regenerated constants are the protocol's: infinity 16, fetch gap 100, snapshot threshold 100 -/
theorem consts_are_protocol : inf = 16 ∧ Ndn.Gen.C19.fetchGap = 100 ∧ Ndn.Gen.C19.snapshotThreshold = 100 :=
  ⟨rfl, rfl, rfl⟩

/-- `NfdMgmtThread.Exec` queues every command with a blocking send (regenerated from dv/nfdc/nfdc.go): no
    command the installer emits is ever dropped on the way to the forwarder — the assumption under which the
    replay of the EMITTED stream (theorems below) is the forwarder's route table. -/
theorem exec_never_drops_commands : Ndn.Gen.C19.execSendBlocks = true := rfl

/-- The router and its prefix-table sync group never take their two mutexes in opposite orders (regenerated from
    std/sync/svs.go and dv/dv/readvertise.go): an announcement holds `Router.mutex` while `IncrSeqNo` takes
    `SvSync.mutex`, so SvSync must not hold its mutex while it calls `onPfxSyncUpdate` (which takes `Router.mutex`).
    With both orders present the router can dead-lock for good (F-19b), and every theorem below, which treats
    handlers as atomic steps that terminate, is void. -/
theorem no_lock_order_cycle :
    (Ndn.Gen.C19.svsUpdateUnderLock && Ndn.Gen.C19.announceUnderRouterLock) = false := by decide

theorem instStep_fibUpdate (prefixOf : Nat → Nat) (s : InstState) :
    s.step prefixOf .fibUpdate =
      { s with fib := (fibUpdate prefixOf s.t s.fib).1, routes := replay s.routes (fibUpdate prefixOf s.t s.fib).2 } := rfl

theorem mirror_step (prefixOf : Nat → Nat) {s : InstState} (m : Mirror s.fib s.routes) (ev : InstEvent) :
    Mirror (s.step prefixOf ev).fib (s.step prefixOf ev).routes ∧
    (ev = .fibUpdate → ∀ name f,
      rget (s.step prefixOf ev).routes (name, f) = desCost (desired prefixOf s.t) name f) := by
  cases ev with
  | tables t' => exact ⟨m, fun h => nomatch h⟩
  | fibUpdate =>
    obtain ⟨m', h⟩ := fibUpdate_spec prefixOf s.t m (desired_nodup prefixOf s.t)
    rw [instStep_fibUpdate]
    -- the result of `fibUpdate` as a variable: nothing below looks into it
    generalize fibUpdate prefixOf s.t s.fib = r at m' h ⊢
    exact ⟨m', fun _ => h⟩

theorem run_mirror (prefixOf : Nat → Nat) (evs : List InstEvent) (s : InstState) (m : Mirror s.fib s.routes) :
    Mirror (s.run prefixOf evs).fib (s.run prefixOf evs).routes :=
  List.foldlRecOn (motive := fun s : InstState => Mirror s.fib s.routes) evs _ m
    fun _ m ev _ => (mirror_step prefixOf m ev).1

/-- After EVERY `fibUpdate` of ANY history (arbitrary table changes and earlier updates, from an empty
    installer): the replay of the whole emitted register / unregister stream holds, for every (prefix, face),
    exactly the lowest cost the specification prescribes from the current tables — over the reachable remote
    routers announcing the prefix (and each router's own routing prefix), the faces of the best and the finite
    second-best next hop — and nothing else (`none` = no route).  Side condition `NbrOk`: an invariant of
    the router (`next_hops_have_neighbor_state`). -/
theorem commands_replay_eq_prescribed (prefixOf : Nat → Nat) (t0 : Tables) (evs : List InstEvent) :
    let s := (InstState.init t0).run prefixOf evs
    NbrOk s.t →
    ∀ name face, rget (s.step prefixOf .fibUpdate).routes (name, face) =
      Spec.prescribedCost (prescription prefixOf s.t) name face := by
  intro s ok name face
  have m : Mirror s.fib s.routes := run_mirror prefixOf evs _ mirror_empty
  rw [(mirror_step prefixOf m .fibUpdate).2 rfl, desCost_eq_prescribed prefixOf s.t ok]

/-- router 2 reaches router 7 via neighbour 5 (face 3) at cost 2 and via neighbour 6 (face 4) at cost 4;
    7 announces prefix 100 -/
def exTables : Tables :=
  { self := 2
    nbrs := [(5, { face := 3, active := true }), (6, { face := 4, active := false })]
    pfx := [(7, [100])]
    rib := (C18.ribUpdate 2 (C18.ribUpdate 2 (C18.Router.start 2).rib 5 [⟨7, 7, 1, 16⟩]).1 6 [⟨7, 9, 3, 16⟩]).1 }

/-- both faces are registered for 7's routing prefix (name 1007) and for the announced prefix 100 -/
example : (fibUpdate (· + 1000) exTables Fib.empty).2 =
    [.register 1007 3 2, .register 1007 4 4, .register 100 3 2, .register 100 4 4] := by decide +kernel

/-- Along every history of router-level events from start-up (sync Interests of neighbours on any
    faces, advertisements, dead-neighbour checks, prefix ops), every next hop the installer reads has a
    neighbour state: `GetFibEntries` never falls back to face 0 (decides F-19a: not reachable). -/
theorem next_hops_have_neighbor_state (self : Nat) (evs : List RouterEvent) :
    NbrOk (evs.foldl Tables.step (Tables.start self)) :=
  nbrOk_of_inv (List.foldlRecOn evs _ (nbrInv_start self) fun _ h ev _ => nbrInv_step h ev)

example : NbrOk (([.ping 5 3 true, .adv 5 [⟨7, 7, 1, 16⟩], .dead 5] : List RouterEvent).foldl Tables.step (Tables.start 2)) :=
  next_hops_have_neighbor_state 2 _

/-- The router as a whole, from start-up, through ANY history of router-level events: `fibUpdate` runs only
    when `RecvPing` / `ribUpdate` / `checkDeadNeighbors` / `Apply` report a change, as in advertSyncOnInterest,
    ribUpdate, checkDeadNeighbors and processPrefixData.  After EVERY event the replay of all emitted commands
    equals the prescription of the current tables — the dirty results never suppress a needed update. -/
theorem routes_mirror_tables_always (prefixOf : Nat → Nat) (self : Nat) (evs : List RouterEvent) :
    let s := evs.foldl (RState.step prefixOf) (RState.start self)
    ∀ name face, rget s.routes (name, face) = Spec.prescribedCost (prescription prefixOf s.t) name face := by
  exact (List.foldlRecOn evs _ (rinv_start prefixOf self) fun _ h ev _ => rinv_step prefixOf h ev).routes

/-- neighbour 5 comes up on face 3 and advertises router 7, which announces prefix 100; 5 moves to face 4;
    7 withdraws 100; 5 dies: the replayed table follows -/
example :
    let run := fun (evs : List RouterEvent) => (evs.foldl (RState.step (· + 1000)) (RState.start 2)).routes
    run [.ping 5 3 true, .adv 5 [⟨7, 7, 1, 16⟩], .papply 7 false [100] []] = [((100, 3), 2), ((1007, 3), 2)] ∧
    run [.ping 5 3 true, .adv 5 [⟨7, 7, 1, 16⟩, ⟨5, 5, 0, 16⟩], .papply 7 false [100] [], .ping 5 4 true, .papply 7 false [] [100]]
      = [((1005, 4), 1), ((1007, 4), 2)] ∧
    run [.ping 5 3 true, .adv 5 [⟨7, 7, 1, 16⟩, ⟨5, 5, 0, 16⟩], .papply 7 false [100] [], .ping 5 4 true, .papply 7 false [] [100], .dead 5] = [] := by
  decide +kernel

/-- For every publisher history and every interleaving with the events of any number of peers (learning any
    sequence number, also stale or future ones, also without a path to the publisher; gaining and losing the
    path; deliveries from the publisher's repo; time-outs), provided sequence numbers do not wrap around 2^64:
    every peer's prefix set is the publisher's announced set after the publication whose number the peer has
    reached (`setAtL log known`), the peer never runs ahead of the publisher, and a peer that has caught up
    holds exactly the publisher's current set. -/
theorem log_replay_eq_announced (seq0 : UInt64) (k : Nat) (evs : List LogEvent)
    (hw : seq0.toNat + evs.length < 2 ^ 64) :
    let s := (LogSys.init seq0 k).run evs
    ∀ q ∈ s.peers, q.set = setAtL s.pub.log q.known ∧ q.known ≤ s.pub.seq ∧
      (q.known = s.pub.seq → q.set = s.pub.set) := by
  intro s q hq
  have inv : SysInv s := sysInv_run evs (sysInv_init seq0 k) hw
  have pi := inv.peers q hq
  refine ⟨pi.set, pi.le, ?_⟩
  intro he
  rw [pi.set, he, inv.pub.cur]

/-- a late peer starts from a snapshot, an up-to-date peer follows op by op; both end with the
    publisher's set (the outcome does not depend on how often the publisher takes snapshots) -/
example :
    let s := (LogSys.init 1000 2).run [.path 0 true, .announce 7, .sync 0 1001, .deliver 0, .deliver 0, .announce 8, .withdraw 7,
      .sync 0 1003, .deliver 0, .deliver 0, .deliver 0, .sync 1 1003, .path 1 true, .deliver 1, .deliver 1, .deliver 1, .deliver 1]
    (s.peers.map fun q => (q.known, q.set)) = [(1003, [8]), (1003, [8])] ∧ s.pub.set = [8] := by decide +kernel

/-- the announced set by the operations issued (specification side) -/
def specSet (ops : List Spec.PubOp) : List Nat := ops.foldl (fun s op => (Spec.announce s op).1) []

def Pub.apply (p : Pub) : Spec.PubOp → Pub
  | .announce n => p.announce n
  | .withdraw n => p.withdraw n

theorem pub_set_mem (p : Pub) (s : List Nat) (h : ∀ n, n ∈ p.set ↔ n ∈ s) (op : Spec.PubOp) :
    ∀ n, n ∈ (p.apply op).set ↔ n ∈ (Spec.announce s op).1 := by
  intro n
  cases op with
  | announce a =>
    rw [Pub.apply, mem_announce_set, h, Spec.announce]
    split
    · next hc => exact ⟨fun h => h.elim id fun e => e ▸ List.contains_iff_mem.1 hc, Or.inl⟩
    · rw [List.mem_cons, or_comm]
  | withdraw a =>
    rw [Pub.apply, mem_withdraw_set, h, Spec.announce]
    split
    · rw [List.mem_filter, decide_eq_true_eq]
    · next hc => exact ⟨And.left, fun h => ⟨h, fun e => hc (List.contains_iff_mem.2 (e ▸ h))⟩⟩

/-- the publisher's table holds exactly the prefixes announced and not withdrawn since -/
theorem announced_set_is_spec (seq0 : UInt64) (ops : List Spec.PubOp) :
    ∀ n, n ∈ (ops.foldl Pub.apply (Pub.init seq0)).set ↔ n ∈ specSet ops := by
  have : ∀ (ops : List Spec.PubOp) (p : Pub) (s : List Nat), (∀ n, n ∈ p.set ↔ n ∈ s) →
      ∀ n, n ∈ (ops.foldl Pub.apply p).set ↔ n ∈ ops.foldl (fun s op => (Spec.announce s op).1) s := by
    intro ops
    induction ops with
    | nil => exact fun p s h => h
    | cons op r ih => exact fun p s h => ih _ _ (pub_set_mem p s h op)
  exact this ops _ [] fun n => Iff.rfl

example : (([.announce 3, .announce 5, .withdraw 3, .withdraw 9] : List Spec.PubOp).foldl Pub.apply (Pub.init 77)).set = [5] := by
  decide

/-- the abstract operation a readvertise command stands for, if it is one -/
def RvCmd.op (c : RvCmd) : Option Spec.PubOp :=
  if c.comps = 6 ∧ c.module = "rib" then
    match c.name with
    | none => none
    | some n => if c.verb = "register" then some (.announce n)
                else if c.verb = "unregister" then some (.withdraw n) else none
  else none

/-- **C19, the entry point of announcements.**  `readvertiseOnInterest` answers 200 exactly for the
    well-formed commands, and then has performed exactly the operation the command stands for; every
    other command is answered 400 and leaves the prefix table (set, log, sequence number, snapshot)
    untouched. -/
theorem readvertise_is_the_command (p : Pub) (c : RvCmd) :
    (p.readvertise c) = (match c.op with | some op => (p.apply op, 200) | none => (p, 400)) := by
  unfold Pub.readvertise RvCmd.op
  by_cases h6 : c.comps = 6
  · by_cases hm : c.module = "rib"
    · cases hn : c.name with
      | none => simp [h6, hm]
      | some n =>
        by_cases hr : c.verb = "register"
        · simp [h6, hm, hr, Pub.apply]
        · by_cases hu : c.verb = "unregister"
          · simp [h6, hm, hu, Pub.apply]
          · simp [h6, hm, hr, hu]
    · simp [h6, hm]
  · simp [h6]

/-- a history of readvertise commands, well-formed or not, leaves exactly the prefixes announced and not
    withdrawn since by the well-formed ones -/
theorem readvertise_history_is_spec (seq0 : UInt64) (cs : List RvCmd) :
    ∀ n, n ∈ (cs.foldl (fun p c => (p.readvertise c).1) (Pub.init seq0)).set ↔
         n ∈ specSet (cs.filterMap RvCmd.op) := by
  have hfold : ∀ (cs : List RvCmd) (p : Pub),
      cs.foldl (fun p c => (p.readvertise c).1) p = (cs.filterMap RvCmd.op).foldl Pub.apply p := by
    intro cs
    induction cs with
    | nil => intro p; rfl
    | cons c r ih =>
      intro p
      simp only [List.foldl_cons, List.filterMap_cons]
      rw [readvertise_is_the_command]
      cases hop : c.op with
      | none => simpa using ih p
      | some op => simpa using ih (p.apply op)
  rw [hfold]
  exact announced_set_is_spec seq0 _

example : ((([⟨6, "rib", "register", some 3⟩, ⟨5, "rib", "register", some 4⟩, ⟨6, "fib", "register", some 5⟩,
             ⟨6, "rib", "unregister", none⟩, ⟨6, "rib", "announce", some 6⟩, ⟨6, "rib", "register", some 7⟩,
             ⟨6, "rib", "unregister", some 3⟩] : List RvCmd).foldl (fun p c => (p.readvertise c).1) (Pub.init 9)).set) = [7] := by
  decide +kernel

end Ndn.C19
