/- C19 (B): the prefix operation log: replays `setAtL`, invariants of the publisher, of a peer, of the system. -/
import NdnVerif.C19.LogSys
import NdnVerif.C05.Assoc
namespace Ndn.C19

/-- the announced set after the publication with sequence number `k` (log is newest first) -/
def setAtL : List (UInt64 × LogOp) → UInt64 → List Nat
  | [], _ => []
  | (s, op) :: t, k => if s ≤ k then applyOp (setAtL t k) op else setAtL t k

/-- strictly decreasing sequence numbers -/
def LogSorted : List (UInt64 × LogOp) → Prop
  | [] => True
  | (s, _) :: t => (∀ x ∈ t, x.1 < s) ∧ LogSorted t

theorem u64_toNat_succ {s : UInt64} (h : s.toNat + 1 < 2 ^ 64) : (s + 1).toNat = s.toNat + 1 := by
  rw [UInt64.toNat_add, UInt64.toNat_one]
  exact Nat.mod_eq_of_lt h

theorem u64_succ_order {k n : UInt64} (hn : n.toNat = k.toNat + 1) : k < n ∧ ∀ y : UInt64, y < n → y ≤ k := by
  refine ⟨UInt64.lt_iff_toNat_lt.2 (by omega), fun y hy => ?_⟩
  have := UInt64.lt_iff_toNat_lt.1 hy
  exact UInt64.le_iff_toNat_le.2 (by omega)

theorem setAtL_cons_le {s k : UInt64} (h : s ≤ k) (op : LogOp) (t : List (UInt64 × LogOp)) :
    setAtL ((s, op) :: t) k = applyOp (setAtL t k) op := if_pos h

theorem setAtL_cons_gt {s k : UInt64} (h : k < s) (op : LogOp) (t : List (UInt64 × LogOp)) :
    setAtL ((s, op) :: t) k = setAtL t k := if_neg (UInt64.not_le.2 h)

theorem setAtL_stable {log : List (UInt64 × LogOp)} {k k' : UInt64}
    (h : ∀ x ∈ log, x.1 ≤ k) (hk : k ≤ k') : setAtL log k' = setAtL log k := by
  induction log with
  | nil => rfl
  | cons x t ih =>
    have hs : x.1 ≤ k := h x List.mem_cons_self
    rw [setAtL_cons_le hs, setAtL_cons_le (UInt64.le_trans hs hk), ih fun y hy => h y (List.mem_cons_of_mem _ hy)]

theorem logGet_mem {log : List (UInt64 × LogOp)} {n : UInt64} {op : LogOp} (h : logGet log n = some op) :
    (n, op) ∈ log :=
  C05.afind_some_mem ((C05.afind_unique (f := logGet) (fun _ => rfl) (fun _ _ _ _ => rfl) log n).symm.trans h)

theorem setAtL_next {log : List (UInt64 × LogOp)} (srt : LogSorted log) {known n : UInt64} {op : LogOp}
    (hn : n.toNat = known.toNat + 1) (hg : logGet log n = some op) :
    setAtL log n = applyOp (setAtL log known) op := by
  obtain ⟨hkn, hbelow⟩ := u64_succ_order hn
  induction log with
  | nil => cases hg
  | cons x t ih =>
    obtain ⟨s, o⟩ := x
    obtain ⟨hlt, srt'⟩ := srt
    rw [logGet] at hg
    by_cases hs : s = n
    · -- the operation itself: everything older has a number up to `known`
      rw [if_pos hs] at hg
      cases hg; subst hs
      rw [setAtL_cons_le (UInt64.le_refl s), setAtL_cons_gt hkn,
        setAtL_stable (fun y hy => hbelow _ (hlt y hy)) (UInt64.le_of_lt hkn)]
    · -- a newer operation: skipped by both replays
      rw [if_neg hs] at hg
      have hns : n < s := hlt (n, op) (logGet_mem hg)
      rw [setAtL_cons_gt hns, setAtL_cons_gt (UInt64.lt_trans hkn hns)]
      exact ih srt' hg

structure PubInv (p : Pub) : Prop where
  sorted : LogSorted p.log
  top : ∀ x ∈ p.log, x.1 ≤ p.seq
  cur : p.set = setAtL p.log p.seq
  snapLe : p.snapAt ≤ p.seq
  snap : p.snapSet = setAtL p.log p.snapAt

theorem pubInv_init (seq0 : UInt64) : PubInv (Pub.init seq0) :=
  ⟨trivial, fun _ hx => (nomatch hx), rfl, UInt64.le_refl _, rfl⟩

/-- what a publisher operation may do to the log -/
structure PubStep (p p' : Pub) : Prop where
  inv : PubInv p'
  le : p.seq ≤ p'.seq
  le1 : p'.seq.toNat ≤ p.seq.toNat + 1
  old : ∀ k, k ≤ p.seq → setAtL p'.log k = setAtL p.log k

theorem pubStep_refl {p : Pub} (inv : PubInv p) : PubStep p p :=
  ⟨inv, UInt64.le_refl _, Nat.le_succ _, fun _ _ => rfl⟩

theorem pubStep_publishOp {p : Pub} (inv : PubInv p) (op : LogOp) (hw : p.seq.toNat + 1 < 2 ^ 64) :
    PubStep p (Pub.publishOp { p with set := applyOp p.set op } op) := by
  obtain ⟨hlt, hbelow⟩ := u64_succ_order (u64_toNat_succ hw)
  have hle : p.seq ≤ p.seq + 1 := UInt64.le_of_lt hlt
  have hold : ∀ k, k ≤ p.seq → setAtL ((p.seq + 1, op) :: p.log) k = setAtL p.log k := fun k hk =>
    setAtL_cons_gt (UInt64.lt_of_le_of_lt hk hlt) op p.log
  have hnew : applyOp p.set op = setAtL ((p.seq + 1, op) :: p.log) (p.seq + 1) := by
    rw [setAtL_cons_le (UInt64.le_refl _), setAtL_stable inv.top hle, ← inv.cur]
  have srt : LogSorted ((p.seq + 1, op) :: p.log) :=
    ⟨fun x hx => UInt64.lt_of_le_of_lt (inv.top x hx) hlt, inv.sorted⟩
  have top : ∀ x ∈ (p.seq + 1, op) :: p.log, x.1 ≤ p.seq + 1 := fun x hx => by
    rcases List.mem_cons.1 hx with rfl | hx
    · exact UInt64.le_refl _
    · exact UInt64.le_trans (inv.top x hx) hle
  have hseq : ∀ p' : Pub, p'.seq = p.seq + 1 → p'.seq.toNat ≤ p.seq.toNat + 1 := fun p' h => by
    rw [h, u64_toNat_succ hw]; exact Nat.le_refl _
  unfold Pub.publishOp
  dsimp only
  split
  · exact ⟨⟨srt, top, hnew, UInt64.le_refl _, hnew⟩, hle, hseq _ rfl, hold⟩
  · exact ⟨⟨srt, top, hnew, UInt64.le_trans inv.snapLe hle, (hold _ inv.snapLe).symm ▸ inv.snap⟩, hle, hseq _ rfl, hold⟩

theorem pubStep_announce {p : Pub} (inv : PubInv p) (name : Nat) (hw : p.seq.toNat + 1 < 2 ^ 64) :
    PubStep p (p.announce name) := by
  unfold Pub.announce
  split
  · exact pubStep_refl inv
  · next hc =>
    have hset : p.set ++ [name] = applyOp p.set (.add name) := by rw [applyOp, if_neg hc]
    rw [hset]; exact pubStep_publishOp inv _ hw

theorem pubStep_withdraw {p : Pub} (inv : PubInv p) (name : Nat) (hw : p.seq.toNat + 1 < 2 ^ 64) :
    PubStep p (p.withdraw name) := by
  unfold Pub.withdraw
  split
  · exact pubStep_publishOp inv (.remove name) hw
  · exact pubStep_refl inv

theorem publishOp_set (p : Pub) (op : LogOp) : (p.publishOp op).set = p.set := by
  unfold Pub.publishOp
  dsimp only
  split <;> rfl

theorem mem_announce_set (p : Pub) (a n : Nat) : n ∈ (p.announce a).set ↔ n ∈ p.set ∨ n = a := by
  unfold Pub.announce
  split
  · next hc => exact ⟨Or.inl, fun h => h.elim id fun e => e ▸ List.contains_iff_mem.1 hc⟩
  · rw [publishOp_set, List.mem_append, List.mem_singleton]

theorem mem_withdraw_set (p : Pub) (a n : Nat) : n ∈ (p.withdraw a).set ↔ n ∈ p.set ∧ n ≠ a := by
  unfold Pub.withdraw
  split
  · rw [publishOp_set, List.mem_filter, decide_eq_true_eq]
  · next hc => exact ⟨fun h => ⟨h, fun e => hc (List.contains_iff_mem.2 (e ▸ h))⟩, And.left⟩

/-- the peer's set is the replay up to its `known`; an outstanding op Interest asks for `known + 1` -/
structure PeerInv (p : Pub) (q : Peer) : Prop where
  le : q.known ≤ p.seq
  set : q.set = setAtL p.log q.known
  next : ∀ n, q.pend = some (.seq n) → n.toNat = q.known.toNat + 1

theorem peerInv_init (seq0 : UInt64) : PeerInv (Pub.init seq0) Peer.init :=
  ⟨UInt64.le_iff_toNat_le.2 (Nat.zero_le _), rfl, fun _ hn => nomatch hn⟩

theorem peerInv_pub {p p' : Pub} {q : Peer} (inv : PeerInv p q) (st : PubStep p p') : PeerInv p' q :=
  ⟨UInt64.le_trans inv.le st.le, by rw [st.old _ inv.le]; exact inv.set, inv.next⟩

theorem fetch_inv {p : Pub} {q : Peer} (inv : PeerInv p q) : PeerInv p q.fetch := by
  unfold Peer.fetch
  split
  · exact inv
  · next hc =>
    refine ⟨inv.le, inv.set, fun n hn => ?_⟩
    -- an op Interest asks for `known + 1`, which does not wrap because `known < latest`
    have hlt : q.known < q.latest := UInt64.not_le.1 fun h => hc (Or.inr (Or.inr h))
    have h1 := UInt64.lt_iff_toNat_lt.1 hlt
    have h2 := UInt64.toNat_lt q.latest
    dsimp only at hn
    split at hn
    · cases hn
    · cases hn; exact u64_toNat_succ (Nat.lt_of_le_of_lt h1 h2)

theorem fetch_inv_of {p : Pub} {q : Peer} (le : q.known ≤ p.seq) (set : q.set = setAtL p.log q.known)
    (hp : q.pend = none) : PeerInv p q.fetch :=
  fetch_inv ⟨le, set, fun n hn => by rw [hp] at hn; cases hn⟩

theorem deliver_inv {p : Pub} {q q' : Peer} {ok : Bool} (pinv : PubInv p) (inv : PeerInv p q)
    (hd : q.deliver p = some (q', ok)) : PeerInv p q' := by
  unfold Peer.deliver at hd
  cases hp : q.pend with
  | none => rw [hp] at hd; cases hd
  | some want =>
    rw [hp] at hd
    cases want with
    | snap => cases hd; exact fetch_inv_of pinv.snapLe pinv.snap rfl
    | seq n =>
      dsimp only at hd
      cases hg : logGet p.log n with
      | none => rw [hg] at hd; cases hd; exact inv
      | some op =>
        rw [hg] at hd; cases hd
        exact fetch_inv_of (pinv.top _ (logGet_mem hg))
          (by dsimp only; rw [inv.set]; exact (setAtL_next pinv.sorted (inv.next n hp) hg).symm) rfl

theorem timeout_inv {p : Pub} {q q' : Peer} (inv : PeerInv p q) (hd : q.timeout = some q') : PeerInv p q' := by
  unfold Peer.timeout at hd
  cases hp : q.pend with
  | none => rw [hp] at hd; cases hd
  | some want => rw [hp] at hd; cases hd; exact fetch_inv_of inv.le inv.set rfl

theorem path_inv {p : Pub} {q : Peer} (inv : PeerInv p q) (up : Bool) :
    PeerInv p (if up then q.gainPath else q.losePath) := by
  cases up with
  | false => exact ⟨inv.le, inv.set, inv.next⟩
  | true =>
    rw [if_pos rfl, Peer.gainPath]
    split
    · exact inv
    · exact fetch_inv ⟨inv.le, inv.set, inv.next⟩

theorem svsReceive_inv {p : Pub} {q : Peer} (inv : PeerInv p q) (high : UInt64) : PeerInv p (q.svsReceive high) := by
  unfold Peer.svsReceive
  split
  · exact fetch_inv ⟨inv.le, inv.set, inv.next⟩
  · exact inv

/-- every peer's invariant is relative to the one publisher -/
structure SysInv (s : LogSys) : Prop where
  pub : PubInv s.pub
  peers : ∀ q ∈ s.peers, PeerInv s.pub q

theorem sysInv_init (seq0 : UInt64) (k : Nat) : SysInv (LogSys.init seq0 k) :=
  ⟨pubInv_init seq0, fun _ hq => List.eq_of_mem_replicate hq ▸ peerInv_init seq0⟩

def updPeer (s : LogSys) (b : Nat) (f : Peer → Option Peer) : LogSys :=
  match s.peers[b]? with
  | some q => match f q with
    | some q' => { s with peers := s.peers.set b q' }
    | none => s
  | none => s

theorem logStep_path (s : LogSys) (b : Nat) (up : Bool) :
    s.step (.path b up) = updPeer s b fun q => some (if up then q.gainPath else q.losePath) := by
  simp only [LogSys.step, updPeer]; rfl

theorem logStep_sync (s : LogSys) (b : Nat) (high : UInt64) :
    s.step (.sync b high) = updPeer s b fun q => some (q.svsReceive high) := by
  simp only [LogSys.step, updPeer]; rfl

theorem logStep_deliver (s : LogSys) (b : Nat) :
    s.step (.deliver b) = updPeer s b fun q => (q.deliver s.pub).map (·.1) := by
  simp only [LogSys.step, updPeer]
  cases s.peers[b]? with
  | none => rfl
  | some q => dsimp only; cases q.deliver s.pub <;> rfl

theorem logStep_timeout (s : LogSys) (b : Nat) : s.step (.timeout b) = updPeer s b Peer.timeout := by
  simp only [LogSys.step, updPeer]; rfl

theorem sysInv_updPeer {s : LogSys} (inv : SysInv s) (b : Nat) {f : Peer → Option Peer}
    (h : ∀ q ∈ s.peers, ∀ q', f q = some q' → PeerInv s.pub q') :
    SysInv (updPeer s b f) ∧ (updPeer s b f).pub.seq.toNat ≤ s.pub.seq.toNat + 1 := by
  unfold updPeer
  cases hq : s.peers[b]? with
  | none => exact ⟨inv, Nat.le_succ _⟩
  | some q =>
    dsimp only
    cases hf : f q with
    | none => exact ⟨inv, Nat.le_succ _⟩
    | some q' =>
      refine ⟨⟨inv.pub, fun r hr => ?_⟩, Nat.le_succ _⟩
      rcases List.mem_or_eq_of_mem_set hr with hr | rfl
      · exact inv.peers r hr
      · exact h q (List.mem_of_getElem? hq) r hf

theorem sysInv_step {s : LogSys} (inv : SysInv s) (ev : LogEvent) (hw : s.pub.seq.toNat + 1 < 2 ^ 64) :
    SysInv (s.step ev) ∧ (s.step ev).pub.seq.toNat ≤ s.pub.seq.toNat + 1 := by
  have pubEv : ∀ {p' : Pub}, PubStep s.pub p' →
      SysInv { s with pub := p' } ∧ p'.seq.toNat ≤ s.pub.seq.toNat + 1 := fun st =>
    ⟨⟨st.inv, fun q hq => peerInv_pub (inv.peers q hq) st⟩, st.le1⟩
  cases ev with
  | announce n => exact pubEv (pubStep_announce inv.pub n hw)
  | withdraw n => exact pubEv (pubStep_withdraw inv.pub n hw)
  | path b up => rw [logStep_path]; exact sysInv_updPeer inv b fun q hq q' e => Option.some.inj e ▸ path_inv (inv.peers q hq) up
  | sync b high => rw [logStep_sync]; exact sysInv_updPeer inv b fun q hq q' e => Option.some.inj e ▸ svsReceive_inv (inv.peers q hq) high
  | deliver b =>
    rw [logStep_deliver]
    refine sysInv_updPeer inv b fun q hq q' e => ?_
    cases hd : q.deliver s.pub with
    | none => rw [hd] at e; cases e
    | some r => rw [hd] at e; cases e; exact deliver_inv inv.pub (inv.peers q hq) hd
  | timeout b => rw [logStep_timeout]; exact sysInv_updPeer inv b fun q hq q' e => timeout_inv (inv.peers q hq) e

theorem sysInv_run (evs : List LogEvent) : ∀ {s : LogSys}, SysInv s → s.pub.seq.toNat + evs.length < 2 ^ 64 →
    SysInv (s.run evs) := by
  induction evs with
  | nil => exact fun inv _ => inv
  | cons ev t ih =>
    intro s inv hw
    rw [List.length_cons, ← Nat.add_assoc, Nat.add_right_comm] at hw
    obtain ⟨inv', hle⟩ := sysInv_step inv ev (Nat.lt_of_le_of_lt (Nat.le_add_right _ _) hw)
    exact ih inv' (Nat.lt_of_le_of_lt (Nat.add_le_add_right hle _) hw)

end Ndn.C19
