/- C19: the merge loop of `Fib.UpdateH`, per face. -/
import NdnVerif.C19.LemmasAssoc
namespace Ndn.C19

/-- minimum with `none` as infinity -/
def omin : Option Nat → Option Nat → Option Nat
  | none, b => b
  | some a, none => some a
  | some a, some b => some (min a b)

theorem omin_none_right (a : Option Nat) : omin a none = a := by cases a <;> rfl

theorem omin_assoc (a b c : Option Nat) : omin (omin a b) c = omin a (omin b c) := by
  cases a <;> cases b <;> cases c <;> simp only [omin, Nat.min_assoc]

def eget : List FibEntry → Nat → Option FibEntry
  | [], _ => none
  | e :: t, f => if e.face = f then some e else eget t f

theorem eget_cons (e : FibEntry) (t : List FibEntry) (f : Nat) :
    eget (e :: t) f = if e.face = f then some e else eget t f := rfl

/-- lowest finite cost of `face` among the new entries -/
def minFin : List (Nat × Nat) → Nat → Option Nat
  | [], _ => none
  | (f, c) :: t, face =>
    if f = face ∧ c < inf then
      match minFin t face with
      | none => some c
      | some m => some (min c m)
    else minFin t face

theorem minFin_nil (f : Nat) : minFin [] f = none := rfl

theorem minFin_cons (f c : Nat) (t : List (Nat × Nat)) (face : Nat) :
    minFin ((f, c) :: t) face = omin (if f = face ∧ c < inf then some c else none) (minFin t face) := by
  rw [minFin]
  by_cases h : f = face ∧ c < inf
  · rw [if_pos h, if_pos h]; cases minFin t face <;> rfl
  · rw [if_neg h, if_neg h]; rfl

theorem minFin_append (a b : List (Nat × Nat)) (face : Nat) :
    minFin (a ++ b) face = omin (minFin a face) (minFin b face) := by
  induction a with
  | nil => rfl
  | cons x t ih => rw [List.cons_append, minFin_cons, minFin_cons, ih, omin_assoc]

theorem minFin_lt {l : List (Nat × Nat)} {face m : Nat} (h : minFin l face = some m) : m < inf := by
  induction l generalizing m with
  | nil => cases h
  | cons x t ih =>
    rw [minFin_cons] at h
    by_cases hc : x.1 = face ∧ x.2 < inf
    · rw [if_pos hc] at h
      cases hm : minFin t face with
      | none => rw [hm] at h; cases h; exact hc.2
      | some m' => rw [hm] at h; cases h; exact Nat.lt_of_le_of_lt (Nat.min_le_left ..) hc.2
    · rw [if_neg hc] at h; exact ih h

theorem eget_mem {es : List FibEntry} {f : Nat} {e : FibEntry} (h : eget es f = some e) : e ∈ es ∧ e.face = f := by
  induction es with
  | nil => cases h
  | cons x t ih =>
    rw [eget_cons] at h
    by_cases hx : x.face = f
    · rw [if_pos hx] at h; cases h; exact ⟨List.mem_cons_self, hx⟩
    · rw [if_neg hx] at h; exact ⟨List.mem_cons_of_mem _ (ih h).1, (ih h).2⟩

theorem eget_eq_none_iff (es : List FibEntry) (f : Nat) : eget es f = none ↔ f ∉ es.map (·.face) := by
  induction es with
  | nil => exact ⟨fun _ h => (nomatch h), fun _ => rfl⟩
  | cons x t ih =>
    rw [eget_cons, List.map_cons, List.mem_cons, not_or]
    by_cases hx : x.face = f
    · rw [if_pos hx]; exact ⟨fun h => (nomatch h), fun h => absurd hx.symm h.1⟩
    · rw [if_neg hx, ih]; exact ⟨fun h => ⟨Ne.symm hx, h⟩, And.right⟩

theorem eget_filter {es : List FibEntry} (nd : (es.map (·.face)).Nodup) (p : FibEntry → Bool) (f : Nat) :
    eget (es.filter p) f = (eget es f).filter p := by
  induction es with
  | nil => rfl
  | cons x t ih =>
    simp only [List.map_cons, List.nodup_cons] at nd
    rw [eget_cons]
    by_cases hx : x.face = f
    · -- the entry of `f` is `x`; the tail has none, filtered or not
      have ht : eget (t.filter p) f = none := by rw [ih nd.2, (eget_eq_none_iff t f).2 (hx ▸ nd.1)]; rfl
      rw [if_pos hx, Option.filter_some]
      cases hp : p x
      · rw [List.filter_cons_of_neg (by rw [hp]; exact Bool.false_ne_true), ht]; rfl
      · rw [List.filter_cons_of_pos hp, eget_cons, if_pos hx]; rfl
    · rw [if_neg hx, ← ih nd.2]
      cases hp : p x
      · rw [List.filter_cons_of_neg (by rw [hp]; exact Bool.false_ne_true)]
      · rw [List.filter_cons_of_pos hp, eget_cons, if_neg hx]

/-- one round of the merge loop for a finite cost -/
def mergeOne (old : List FibEntry) (face cost : Nat) : List FibEntry :=
  (mergeFace old face cost).getD (old ++ [{ face := face, cost := cost, prev := inf }])

theorem mergeNew_cons (old : List FibEntry) (face cost : Nat) (t : List (Nat × Nat)) :
    mergeNew old ((face, cost) :: t) = if cost ≥ inf then mergeNew old t else mergeNew (mergeOne old face cost) t := by
  unfold mergeOne
  rw [mergeNew]
  cases mergeFace old face cost <;> rfl

theorem mergeOne_cons (x : FibEntry) (t : List FibEntry) (face cost : Nat) :
    mergeOne (x :: t) face cost =
      if x.face = face then { x with cost := min cost x.cost } :: t else x :: mergeOne t face cost := by
  unfold mergeOne
  rw [mergeFace]
  by_cases hx : x.face = face
  · simp only [hx, if_true, Option.getD_some]
  · simp only [hx, if_false]
    cases mergeFace t face cost <;> rfl

theorem eget_mergeOne (old : List FibEntry) (face cost f : Nat) :
    eget (mergeOne old face cost) f =
      if f = face then
        some (match eget old face with
          | some e => { e with cost := min cost e.cost }
          | none => { face := face, cost := cost, prev := inf })
      else eget old f := by
  induction old with
  | nil => exact C05.ite_eq_comm ..
  | cons x t ih =>
    rw [mergeOne_cons]
    by_cases hx : x.face = face
    · by_cases hf : f = face
      · simp only [hx, hf, if_true, eget_cons]
      · simp only [hx, hf, Ne.symm hf, if_true, if_false, eget_cons]
    · by_cases hxf : x.face = f
      · subst hxf; simp only [hx, if_true, if_false, eget_cons]
      · simp only [hx, hxf, if_false, eget_cons, ih]

theorem mergeOne_nodup {old : List FibEntry} (nd : (old.map (·.face)).Nodup) (face cost : Nat) :
    ((mergeOne old face cost).map (·.face)).Nodup := by
  induction old with
  | nil => exact List.nodup_cons.2 ⟨List.not_mem_nil, List.nodup_nil⟩
  | cons x t ih =>
    simp only [List.map_cons, List.nodup_cons] at nd
    rw [mergeOne_cons]
    by_cases hx : x.face = face
    · simp only [hx, if_true, List.map_cons, List.nodup_cons]; exact hx ▸ nd
    · simp only [hx, if_false, List.map_cons, List.nodup_cons]
      refine ⟨?_, ih nd.2⟩
      rw [← eget_eq_none_iff, eget_mergeOne, if_neg hx, eget_eq_none_iff]
      exact nd.1

/-- what an entry looks like after the merge loop -/
structure Merged (old : List FibEntry) (L : List (Nat × Nat)) (M : List FibEntry) : Prop where
  nd : (M.map (·.face)).Nodup
  /-- an old face keeps `prev`; its cost is capped by the lowest finite new cost -/
  oldFace : ∀ f eo, eget old f = some eo → ∃ e, eget M f = some e ∧ e.prev = eo.prev ∧
      e.cost = match minFin L f with | some m => min eo.cost m | none => eo.cost
  /-- a new face appears iff it has a finite new cost, with `prev = inf` -/
  newFace : ∀ f, eget old f = none →
      match minFin L f with
      | some m => ∃ e, eget M f = some e ∧ e.prev = inf ∧ e.cost = m
      | none => eget M f = none

/-- the entry of face `f` after the merge loop, from the old entry of `f` and the lowest finite new cost -/
def mergeAt (f : Nat) : Option FibEntry → Option Nat → Option FibEntry
  | some e, none => some e
  | some e, some m => some { e with cost := min e.cost m }
  | none, m => m.map fun c => { face := f, cost := c, prev := inf }

theorem eget_mergeNew (L : List (Nat × Nat)) : ∀ (old : List FibEntry) (f : Nat),
    eget (mergeNew old L) f = mergeAt f (eget old f) (minFin L f) := by
  induction L with
  | nil => intro old f; show eget old f = _; cases eget old f <;> rfl
  | cons x t ih =>
    intro old f
    obtain ⟨f0, c0⟩ := x
    rw [mergeNew_cons, minFin_cons]
    by_cases hc : c0 ≥ inf
    · -- an infinite cost is skipped by the loop and by `minFin`
      rw [if_pos hc, if_neg (fun h => Nat.not_lt.2 hc h.2), ih]; rfl
    · rw [if_neg hc, ih, eget_mergeOne]
      by_cases hf : f = f0
      · subst hf
        rw [if_pos rfl, if_pos ⟨rfl, Nat.not_le.1 hc⟩]
        cases eget old f <;> cases minFin t f <;>
          simp only [mergeAt, omin, Option.map_some, Nat.min_comm c0, Nat.min_assoc]
      · rw [if_neg hf, if_neg (fun h => hf h.1.symm)]; rfl

theorem mergeNew_nodup (L : List (Nat × Nat)) : ∀ {old : List FibEntry}, (old.map (·.face)).Nodup →
    ((mergeNew old L).map (·.face)).Nodup := by
  induction L with
  | nil => exact fun nd => nd
  | cons x t ih =>
    intro old nd
    rw [mergeNew_cons]
    split
    · exact ih nd
    · exact ih (mergeOne_nodup nd ..)

theorem mergeNew_spec (L : List (Nat × Nat)) : ∀ (old : List FibEntry), (old.map (·.face)).Nodup →
    Merged old L (mergeNew old L) := by
  intro old nd
  refine ⟨mergeNew_nodup L nd, fun f eo h => ?_, fun f h => ?_⟩
  · rw [eget_mergeNew, h]; cases minFin L f <;> exact ⟨_, rfl, rfl, rfl⟩
  · rw [eget_mergeNew, h]; cases minFin L f
    · rfl
    · exact ⟨_, rfl, rfl, rfl⟩

end Ndn.C19
