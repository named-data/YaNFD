/- C19: `Fib.updateH` against the mirror invariant "installed entries = replayed routes". -/
import NdnVerif.C19.LemmasMerge
namespace Ndn.C19
open Spec (Routes rget replay)

/-- a cost as the route table holds it: from `inf` on there is no route -/
def finCost (c : Nat) : Option Nat := if c < inf then some c else none

theorem finCost_of_lt {c : Nat} (h : c < inf) : finCost c = some c := if_pos h

theorem finCost_inf : finCost inf = none := if_neg (Nat.lt_irrefl _)

/-- installed cost of (name, face) according to the installer's own table -/
def fibCost (fib : Fib) (name face : Nat) : Option Nat :=
  match pget fib.prefixes name with
  | some es => (eget es face).map (·.cost)
  | none => none

/-- a stored entry list: one entry per face, finite costs only -/
structure Good (es : List FibEntry) : Prop where
  nd : (es.map (·.face)).Nodup
  fin : ∀ e ∈ es, e.cost < inf

/-- the installer's table mirrors the replayed command stream -/
structure Mirror (fib : Fib) (routes : Routes) : Prop where
  good : ∀ name es, pget fib.prefixes name = some es → Good es
  agree : ∀ name face, rget routes (name, face) = fibCost fib name face

theorem mirror_empty : Mirror Fib.empty [] := ⟨fun _ _ h => (nomatch h), fun _ _ => rfl⟩

theorem fibCost_congr {fib fib' : Fib} {n : Nat} (h : pget fib'.prefixes n = pget fib.prefixes n) (f : Nat) :
    fibCost fib' n f = fibCost fib n f := by unfold fibCost; rw [h]

theorem mirror_old {fib : Fib} {routes : Routes} (mir : Mirror fib routes) (name : Nat) :
    Good ((pget fib.prefixes name).getD []) ∧
    ∀ f, rget routes (name, f) = (eget ((pget fib.prefixes name).getD []) f).map (·.cost) := by
  refine ⟨?_, fun f => ?_⟩
  · cases h : pget fib.prefixes name with
    | none => exact ⟨List.nodup_nil, fun _ h => nomatch h⟩
    | some es => exact mir.good name es h
  · rw [mir.agree, fibCost]
    cases pget fib.prefixes name <;> rfl

theorem eget_resetOld (old : List FibEntry) (f : Nat) :
    eget (resetOld old) f = (eget old f).map fun e => { e with prev := e.cost, cost := inf } := by
  induction old with
  | nil => rfl
  | cons x t ih =>
    by_cases hx : x.face = f
    · simp only [resetOld, List.map_cons, eget, hx, if_true, Option.map_some]
    · simp only [resetOld, List.map_cons, eget, hx, if_false]; exact ih

theorem faces_resetOld (old : List FibEntry) : (resetOld old).map (·.face) = old.map (·.face) := by
  simp only [resetOld, List.map_map, Function.comp_def]

theorem nodup_filter_faces {es : List FibEntry} (nd : (es.map (·.face)).Nodup) (p : FibEntry → Bool) :
    ((es.filter p).map (·.face)).Nodup :=
  List.Nodup.sublist (List.Sublist.map _ List.filter_sublist) nd

theorem eff_map (name : Nat) {M : List FibEntry} (nd : (M.map (·.face)).Nodup)
    (mk : FibEntry → Cmd) (hk : ∀ e, cmdKey (mk e) = (name, e.face)) (f : Nat) (r0 : Option Nat) :
    eff (M.map mk) (name, f) r0 = match eget M f with
      | some e => cmdVal (mk e)
      | none => r0 := by
  induction M generalizing r0 with
  | nil => rfl
  | cons x t ih =>
    rw [List.map_cons, List.nodup_cons] at nd
    rw [List.map_cons, eff, List.foldl_cons, hk, eget_cons]
    by_cases hx : x.face = f
    · -- no later command touches the face
      have ht := ih nd.2 (cmdVal (mk x))
      rw [(eget_eq_none_iff t f).2 (hx ▸ nd.1)] at ht
      rw [if_pos hx, hx, if_pos rfl]; exact ht
    · rw [if_neg hx, if_neg fun e => hx (Prod.mk.inj e).2]; exact ih nd.2 r0

theorem eff_other_name {name name' : Nat} (hne : name' ≠ name) (M : List FibEntry)
    (mk : FibEntry → Cmd) (hk : ∀ e, cmdKey (mk e) = (name, e.face)) (f : Nat) (r0 : Option Nat) :
    eff (M.map mk) (name', f) r0 = r0 := by
  induction M with
  | nil => rfl
  | cons x t ih =>
    rw [List.map_cons, eff, List.foldl_cons, hk, if_neg fun e => hne (Prod.mk.inj e).1.symm]
    exact ih

section
variable (fib : Fib) (name : Nat) (L : List (Nat × Nat))

/-- `merged`, `kept`, `cmdsOf`: the `old`, `final` and `unregs ++ regs` of `Fib.updateH` -/
def merged : List FibEntry := mergeNew (resetOld ((pget fib.prefixes name).getD [])) L

def kept : List FibEntry := (merged fib name L).filter fun e => ¬ e.cost ≥ inf

def cmdsOf : List Cmd :=
  ((merged fib name L).filter fun e => e.cost ≥ inf).map (fun e => Cmd.unregister name e.face) ++
  ((kept fib name L).filter fun e => e.cost ≠ e.prev).map (fun e => Cmd.register name e.face e.cost)

variable {fib name L}

theorem updateH_kept (h : kept fib name L ≠ []) :
    fib.updateH name L =
      ({ fib with prefixes := pset fib.prefixes name (kept fib name L) }, cmdsOf fib name L, true) :=
  if_pos (List.length_pos_iff.2 h)

theorem updateH_gone (h : kept fib name L = []) :
    fib.updateH name L =
      ({ prefixes := perase fib.prefixes name, mark := fib.mark.filter (· ≠ name) }, cmdsOf fib name L, false) :=
  if_neg (fun hl => List.length_pos_iff.1 hl h)

variable (fib name L)

theorem pget_updateH (n : Nat) :
    pget (fib.updateH name L).1.prefixes n =
      if n = name then (if kept fib name L = [] then none else some (kept fib name L)) else pget fib.prefixes n := by
  by_cases h : kept fib name L = []
  · rw [updateH_gone h, if_pos h, pget_perase]
  · rw [updateH_kept h, if_neg h, pget_pset]

theorem updateH_ok : (fib.updateH name L).2.2 = true ↔ pget (fib.updateH name L).1.prefixes name ≠ none := by
  rw [pget_updateH, if_pos rfl]
  by_cases h : kept fib name L = []
  · rw [updateH_gone h, if_pos h]; exact ⟨fun h' => (nomatch h'), fun h' => absurd rfl h'⟩
  · rw [updateH_kept h, if_neg h]; exact ⟨fun _ h' => (nomatch h'), fun _ => rfl⟩

theorem mem_mark_updateH (x : Nat) :
    x ∈ (fib.updateH name L).1.mark ↔ x ∈ fib.mark ∧ (x = name → (fib.updateH name L).2.2 = true) := by
  by_cases h : kept fib name L = []
  · rw [updateH_gone h]
    simp only [List.mem_filter, decide_eq_true_eq, ne_eq, Bool.false_eq_true, imp_false]
  · rw [updateH_kept h]
    simp only [implies_true, and_true]

theorem fibCost_updateH (n f : Nat) :
    fibCost (fib.updateH name L).1 n f =
      if n = name then (eget (kept fib name L) f).map (·.cost) else fibCost fib n f := by
  unfold fibCost
  rw [pget_updateH]
  by_cases hn : n = name
  · by_cases hk : kept fib name L = []
    · simp only [hn, hk, if_true]; rfl
    · simp only [hn, hk, if_true, if_false]
  · simp only [hn, if_false]

variable {fib} {routes : Routes} (mir : Mirror fib routes)
include mir

theorem merged_nodup : ((merged fib name L).map (·.face)).Nodup :=
  mergeNew_nodup L (by rw [faces_resetOld]; exact (mirror_old mir name).1.nd)

/-- per face after the merge loop: `prev` is the installed cost, `cost` the lowest finite new cost, `inf` = none -/
theorem merged_face (f : Nat) :
    match eget (merged fib name L) f with
    | some e => finCost e.prev = rget routes (name, f) ∧ finCost e.cost = minFin L f
    | none => rget routes (name, f) = none ∧ minFin L f = none := by
  obtain ⟨hg, hr⟩ := mirror_old mir name
  rw [hr f, merged, eget_mergeNew, eget_resetOld]
  cases ho : eget ((pget fib.prefixes name).getD []) f with
  | none =>
    cases hm : minFin L f with
    | none => exact ⟨rfl, rfl⟩
    | some m => exact ⟨finCost_inf, finCost_of_lt (minFin_lt hm)⟩
  | some eo =>
    have hp := finCost_of_lt (hg.fin eo (eget_mem ho).1)
    cases hm : minFin L f with
    | none => exact ⟨hp, finCost_inf⟩
    | some m =>
      have hlt := minFin_lt hm
      exact ⟨hp, (congrArg finCost (Nat.min_eq_right (Nat.le_of_lt hlt))).trans (finCost_of_lt hlt)⟩

theorem kept_cost (f : Nat) : (eget (kept fib name L) f).map (·.cost) = minFin L f := by
  have hm := merged_face name L mir f
  rw [kept, eget_filter (merged_nodup name L mir)]
  cases he : eget (merged fib name L) f with
  | none => rw [he] at hm; exact hm.2.symm
  | some e =>
    rw [he] at hm
    rw [← hm.2, finCost, Option.filter_some]
    by_cases hc : e.cost < inf
    · simp [hc, Nat.not_le.2 hc]
    · simp [hc, Nat.not_lt.1 hc]

theorem replay_updateH (n f : Nat) :
    rget (replay routes (fib.updateH name L).2.1) (n, f) = if n = name then minFin L f else rget routes (n, f) := by
  have hkU : ∀ e : FibEntry, cmdKey (Cmd.unregister name e.face) = (name, e.face) := fun _ => rfl
  have hkR : ∀ e : FibEntry, cmdKey (Cmd.register name e.face e.cost) = (name, e.face) := fun _ => rfl
  have hc : (fib.updateH name L).2.1 = cmdsOf fib name L := by
    by_cases h : kept fib name L = []
    · rw [updateH_gone h]
    · rw [updateH_kept h]
  rw [rget_replay, hc, cmdsOf, eff_append]
  by_cases hn : n = name
  · subst hn
    have nd := merged_nodup n L mir
    have hm := merged_face n L mir f
    rw [if_pos rfl, eff_map n (nodup_filter_faces nd _) _ hkU, kept, List.filter_filter,
      eff_map n (nodup_filter_faces nd _) _ hkR, eget_filter nd, eget_filter nd]
    cases he : eget (merged fib n L) f with
    | none => rw [he] at hm; exact hm.1.trans hm.2.symm
    | some e =>
      -- unregistered if the new cost is infinite, registered if it is finite and differs from the installed one
      rw [he] at hm
      rw [← hm.1, ← hm.2, finCost, finCost, Option.filter_some, Option.filter_some]
      by_cases hc : e.cost < inf
      · by_cases hp : e.cost = e.prev
        · rw [hp] at hc; simp [hp, hc, Nat.not_le.2 hc]
        · simp [hp, hc, Nat.not_le.2 hc, cmdVal]
      · simp [hc, Nat.not_lt.1 hc, cmdVal]
  · rw [if_neg hn, eff_other_name hn _ _ hkU, eff_other_name hn _ _ hkR]

end

theorem updateH_spec {fib : Fib} {routes : Routes} (mir : Mirror fib routes) (name : Nat) (L : List (Nat × Nat)) :
    Mirror (fib.updateH name L).1 (replay routes (fib.updateH name L).2.1) ∧
    (∀ face, fibCost (fib.updateH name L).1 name face = minFin L face) ∧
    (∀ name', name' ≠ name → pget (fib.updateH name L).1.prefixes name' = pget fib.prefixes name') ∧
    ((fib.updateH name L).2.2 = true → pget (fib.updateH name L).1.prefixes name ≠ none ∧
        (fib.updateH name L).1.mark = fib.mark) ∧
    ((fib.updateH name L).2.2 = false → pget (fib.updateH name L).1.prefixes name = none ∧
        (fib.updateH name L).1.mark = fib.mark.filter (· ≠ name)) := by
  refine ⟨⟨fun n es h => ?_, fun n f => ?_⟩, fun f => ?_, fun n hn => ?_, ?_⟩
  · rw [pget_updateH] at h
    by_cases hn : n = name
    · rw [if_pos hn] at h
      by_cases hk : kept fib name L = []
      · rw [if_pos hk] at h; cases h
      · rw [if_neg hk] at h; cases h
        refine ⟨nodup_filter_faces (merged_nodup name L mir) _, fun e he => ?_⟩
        exact Nat.not_le.1 (of_decide_eq_true (List.mem_filter.1 he).2)
    · rw [if_neg hn] at h; exact mir.good n es h
  · rw [replay_updateH name L mir, fibCost_updateH, kept_cost name L mir, mir.agree]
  · rw [fibCost_updateH, if_pos rfl, kept_cost name L mir]
  · rw [pget_updateH, if_neg hn]
  · by_cases hk : kept fib name L = []
    · rw [updateH_gone hk]
      exact ⟨fun h => (nomatch h), fun _ => ⟨by rw [pget_perase, if_pos rfl], rfl⟩⟩
    · rw [updateH_kept hk]
      exact ⟨fun _ => ⟨by rw [pget_pset, if_pos rfl]; exact fun h => (nomatch h), rfl⟩, fun h => (nomatch h)⟩

end Ndn.C19
