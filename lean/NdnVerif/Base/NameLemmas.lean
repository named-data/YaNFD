/- Base/NameLemmas.lean — the derived `==` on name components is equality (used by C01/C02/C09 and C17), and so
   `Name.isPrefixOf` is core's `<+:` (C01, C17). -/
import NdnVerif.Base.Name
namespace Ndn

instance : LawfulBEq Component where
  eq_of_beq := by
    intro a b h
    cases a; cases b
    simp only [BEq.beq] at h
    unfold instBEqComponent.beq at h; simp_all
  rfl := by
    intro a
    cases a
    simp only [BEq.beq]
    unfold instBEqComponent.beq; simp

/-- the length test of `Name.isPrefixOf` is implied by the comparison -/
theorem isPrefixOf_iff_prefix {a b : Name} : a.isPrefixOf b = true ↔ a <+: b := by
  rw [Name.isPrefixOf, Bool.and_eq_true, decide_eq_true_eq, beq_iff_eq, List.prefix_iff_eq_take]
  exact ⟨fun h => h.2.symm, fun h => ⟨(List.prefix_iff_eq_take.mpr h).length_le, h.symm⟩⟩

theorem head_of_isPrefixOf {c : Component} {t name : Name} (h : Name.isPrefixOf (c :: t) name = true) :
    ∃ rest, name = c :: rest :=
  have ⟨r, e⟩ := isPrefixOf_iff_prefix.mp h
  ⟨t ++ r, e.symm⟩

end Ndn
