/-
  Base/Num.lean — byte strings and the two NDN number encodings
  (std/encoding/primitives.go: TLNum 1/3/5/9 bytes, Nat 1/2/4/8 bytes).
  Core Lean only (no Mathlib) so that drivers can be linked as executables.
-/
namespace Ndn

abbrev Bytes := List Nat   -- every element is < 256 in well-formed byte strings

def Bytes.WF (b : Bytes) : Prop := ∀ x ∈ b, x < 256

instance (b : Bytes) : Decidable (Bytes.WF b) := by unfold Bytes.WF; exact inferInstance

/-- big-endian encoding of `n` in exactly `k` bytes (value reduced mod 256^k, like Go's
    `binary.BigEndian.PutUintN(uintN(x))`). -/
def be : Nat → Nat → Bytes
  | 0,     _ => []
  | k + 1, n => (n / 256 ^ k % 256) :: be k n

def beDec : Bytes → Nat
  | [] => 0
  | x :: t => x * 256 ^ t.length + beDec t

@[simp] theorem be_length (k n : Nat) : (be k n).length = k := by
  induction k with
  | zero => simp [be]
  | succ k ih => simp [be, ih]

theorem Bytes.wf_nil : Bytes.WF [] := fun _ h => nomatch h

theorem Bytes.wf_cons {x : Nat} {b : Bytes} (hx : x < 256) (hb : Bytes.WF b) : Bytes.WF (x :: b) := by
  intro y hy
  rcases List.mem_cons.mp hy with rfl | hy
  · exact hx
  · exact hb y hy

theorem be_wf (k n : Nat) : Bytes.WF (be k n) := by
  induction k with
  | zero => exact Bytes.wf_nil
  | succ k ih => exact Bytes.wf_cons (Nat.mod_lt _ (by decide)) ih

theorem beDec_be_mod (k n : Nat) : beDec (be k n) = n % 256 ^ k := by
  induction k with
  | zero => simp [be, beDec, Nat.mod_one]
  | succ k ih =>
    simp only [be, beDec, be_length, ih]
    rw [Nat.mod_pow_succ]; rw [Nat.mul_comm]; omega

theorem beDec_be (k n : Nat) (h : n < 256 ^ k) : beDec (be k n) = n := by
  rw [beDec_be_mod, Nat.mod_eq_of_lt h]

theorem beDec_lt (b : Bytes) (h : Bytes.WF b) : beDec b < 256 ^ b.length := by
  induction b with
  | nil => simp [beDec]
  | cons x t ih =>
    have ht : Bytes.WF t := fun y hy => h y (by simp [hy])
    have hx : x < 256 := h x (by simp)
    have := ih ht
    simp only [beDec, List.length_cons, Nat.pow_succ]
    have : x * 256 ^ t.length ≤ 255 * 256 ^ t.length := Nat.mul_le_mul_right _ (by omega)
    omega

theorem be_beDec (b : Bytes) (h : Bytes.WF b) : be b.length (beDec b) = b := by
  induction b with
  | nil => simp [be]
  | cons x t ih =>
    have ht : Bytes.WF t := fun y hy => h y (by simp [hy])
    have hx : x < 256 := h x (by simp)
    have hlt := beDec_lt t ht
    simp only [List.length_cons, be, beDec]
    have hpos : 0 < 256 ^ t.length := Nat.pow_pos (by omega)
    have h1 : (x * 256 ^ t.length + beDec t) / 256 ^ t.length = x := by
      rw [Nat.mul_comm, Nat.mul_add_div hpos, Nat.div_eq_of_lt hlt]; simp
    rw [h1, Nat.mod_eq_of_lt hx]
    congr 1
    have key : ∀ k a c, be k (a * 256 ^ k + c) = be k c := by
      intro k
      induction k with
      | zero => intros; simp [be]
      | succ k ihk =>
        intro a c
        simp only [be]
        have e : a * 256 ^ (k + 1) + c = (a * 256) * 256 ^ k + c := by
          rw [Nat.pow_succ]; rw [Nat.mul_assoc, Nat.mul_comm 256]
        rw [e, ihk]
        congr 1
        have hp : 0 < 256 ^ k := Nat.pow_pos (by omega)
        rw [Nat.mul_comm (a*256), Nat.mul_add_div hp]
        omega
    rw [key]; exact ih ht

theorem mod_mul_add (a p b m : Nat) : (a % m * p + b) % m = (a * p + b) % m := by
  rw [Nat.add_mod, Nat.mod_mul_mod, ← Nat.add_mod]

/-- the byte loops of the Go readers accumulate `v = v<<8 | x` in a fixed-width unsigned (`% m` at every step): the result
    is the big-endian value reduced once -/
theorem foldl_be_mod (m : Nat) (t : Bytes) : ∀ acc : Nat,
    t.foldl (fun a x => (a * 256 + x) % m) (acc % m) = (acc * 256 ^ t.length + beDec t) % m := by
  induction t with
  | nil => intro acc; simp [beDec]
  | cons x t ih =>
    intro acc
    have e : acc * 256 ^ (t.length + 1) + (x * 256 ^ t.length + beDec t)
        = (acc * 256 + x) * 256 ^ t.length + beDec t := by
      rw [Nat.pow_succ, Nat.add_mul, Nat.mul_assoc, Nat.mul_comm (256 ^ t.length) 256]; omega
    rw [List.foldl_cons, ih, beDec, List.length_cons, e, ← mod_mul_add (acc % m * 256 + x), mod_mul_add acc 256 x,
      mod_mul_add]

/-- `TLNum.EncodingLength` -/
def tlLen (x : Nat) : Nat :=
  if x ≤ 0xfc then 1 else if x ≤ 0xffff then 3 else if x ≤ 0xffffffff then 5 else 9

/-- `TLNum.EncodeInto` (x < 2^64 in Go; larger values are reduced like uint64 would be) -/
def encTL (x : Nat) : Bytes :=
  if x ≤ 0xfc then [x]
  else if x ≤ 0xffff then 0xfd :: be 2 x
  else if x ≤ 0xffffffff then 0xfe :: be 4 x
  else 0xff :: be 8 x

/-- number of bytes following the first byte of a TL number -/
def tlExtra (x : Nat) : Nat :=
  if x ≤ 0xfc then 0 else if x = 0xfd then 2 else if x = 0xfe then 4 else 8

/-- `ParseTLNum`/`ReadTLNum` as a total function: `none` when the buffer is too short
    (Go: index panic in `ParseTLNum`, `io.ErrUnexpectedEOF` in the reader variants). Returns the
    value and the remaining bytes. Non-minimal encodings are accepted, as in the Go code. -/
def decTL : Bytes → Option (Nat × Bytes)
  | [] => none
  | x :: rest =>
    if x ≤ 0xfc then some (x, rest)
    else if rest.length < tlExtra x then none
    else some (beDec (rest.take (tlExtra x)), rest.drop (tlExtra x))

theorem tlExtra_small {y : Nat} (h : y ≤ 0xfc) : tlExtra y = 0 := if_pos h

theorem tlExtra_cases (x : Nat) : tlExtra x = 0 ∨ tlExtra x = 2 ∨ tlExtra x = 4 ∨ tlExtra x = 8 := by
  unfold tlExtra; repeat' split
  all_goals simp

theorem tlExtra_of_gt {x : Nat} (h : ¬ x ≤ 0xfc) : tlExtra x = 2 ∨ tlExtra x = 4 ∨ tlExtra x = 8 := by
  unfold tlExtra; rw [if_neg h]; repeat' split
  all_goals simp

/-- the shape of a TL number: a head byte `y`, then `x` in `tlExtra y` bytes; `decTL_cons` is the decoder's side of the
    same shape.  With the two, a proof about `encTL`, `tlLen`, `decTL` needs no case split on the four ranges (the round
    trip, `decTL_split`, `decTL_append` below; reader lemmas of C03 and C04). -/
theorem encTL_form (x : Nat) :
    ∃ y, encTL x = y :: be (tlExtra y) x ∧ tlLen x = 1 + tlExtra y ∧ y < 256 ∧ (y ≤ 0xfc → x = y)
      ∧ (¬ y ≤ 0xfc → x < 2 ^ 64 → x < 256 ^ tlExtra y) := by
  unfold encTL tlLen
  by_cases h1 : x ≤ 0xfc
  · rw [if_pos h1, if_pos h1]
    exact ⟨x, by rw [tlExtra_small h1]; rfl, by rw [tlExtra_small h1], Nat.lt_of_le_of_lt h1 (by decide), fun _ => rfl,
      fun hn => absurd h1 hn⟩
  · rw [if_neg h1, if_neg h1]
    by_cases h2 : x ≤ 0xffff
    · rw [if_pos h2, if_pos h2]
      exact ⟨0xfd, rfl, rfl, by decide, fun hn => absurd hn (by decide), fun _ _ => Nat.lt_succ_of_le h2⟩
    · rw [if_neg h2, if_neg h2]
      by_cases h3 : x ≤ 0xffffffff
      · rw [if_pos h3, if_pos h3]
        exact ⟨0xfe, rfl, rfl, by decide, fun hn => absurd hn (by decide), fun _ _ => Nat.lt_succ_of_le h3⟩
      · rw [if_neg h3, if_neg h3]
        exact ⟨0xff, rfl, rfl, by decide, fun hn => absurd hn (by decide), fun _ hx => hx⟩

theorem decTL_cons (x : Nat) (t : Bytes) :
    decTL (x :: t) =
      if t.length < tlExtra x then none
      else some (if x ≤ 0xfc then x else beDec (t.take (tlExtra x)), t.drop (tlExtra x)) := by
  rw [decTL]
  by_cases hx : x ≤ 0xfc
  · rw [if_pos hx, if_pos hx, tlExtra_small hx, if_neg (Nat.not_lt_zero _), List.drop_zero]
  · rw [if_neg hx, if_neg hx]

theorem encTL_length (x : Nat) : (encTL x).length = tlLen x := by
  obtain ⟨y, he, hl, _⟩ := encTL_form x
  rw [he, hl, List.length_cons, be_length, Nat.add_comm]

theorem tlLen_pos (x : Nat) : 0 < tlLen x := by
  obtain ⟨y, _, hl, _⟩ := encTL_form x
  rw [hl, Nat.add_comm]; exact Nat.succ_pos _

theorem tlLen_le9 (x : Nat) : tlLen x ≤ 9 := by
  obtain ⟨y, _, hl, _⟩ := encTL_form x
  have := tlExtra_cases y
  omega

theorem tlLen_small {x : Nat} (h : x ≤ 0xfc) : tlLen x = 1 := if_pos h

theorem tlLen_le3 {x : Nat} (h : x ≤ 0xffff) : tlLen x ≤ 3 := by
  unfold tlLen; repeat' split
  all_goals omega

theorem tlLen_le5 {x : Nat} (h : x ≤ 0xffffffff) : tlLen x ≤ 5 := by
  unfold tlLen; repeat' split
  all_goals omega

/-- by the range of `b`: `tlLen b` is then known and `a`, being smaller, is in the same range or below -/
theorem tlLen_mono {a b : Nat} (h : a ≤ b) : tlLen a ≤ tlLen b := by
  by_cases h1 : b ≤ 0xfc
  · rw [tlLen_small h1, tlLen_small (Nat.le_trans h h1)]; exact Nat.le_refl 1
  by_cases h2 : b ≤ 0xffff
  · have hb : tlLen b = 3 := by rw [tlLen, if_neg h1, if_pos h2]
    rw [hb]; exact tlLen_le3 (Nat.le_trans h h2)
  by_cases h3 : b ≤ 0xffffffff
  · have hb : tlLen b = 5 := by rw [tlLen, if_neg h1, if_neg h2, if_pos h3]
    rw [hb]; exact tlLen_le5 (Nat.le_trans h h3)
  · have hb : tlLen b = 9 := by rw [tlLen, if_neg h1, if_neg h2, if_neg h3]
    rw [hb]; exact tlLen_le9 a

theorem encTL_small {x : Nat} (h : x ≤ 0xfc) : encTL x = [x] := if_pos h

theorem encTL_ne_nil (x : Nat) : encTL x ≠ [] := by
  intro h
  have := encTL_length x ▸ congrArg List.length h
  exact absurd this (Nat.ne_of_gt (tlLen_pos x))

theorem encTL_wf (x : Nat) : Bytes.WF (encTL x) := by
  obtain ⟨y, he, _, hy, _⟩ := encTL_form x
  rw [he]; exact Bytes.wf_cons hy (be_wf _ _)

theorem decTL_encTL (x : Nat) (hx : x < 2 ^ 64) (rest : Bytes) :
    decTL (encTL x ++ rest) = some (x, rest) := by
  obtain ⟨y, he, _, _, hs, hb⟩ := encTL_form x
  rw [he, List.cons_append, decTL_cons, List.length_append, be_length, if_neg (Nat.not_lt.mpr (Nat.le_add_right ..)),
    List.take_left' (be_length ..), List.drop_left' (be_length ..)]
  by_cases hy : y ≤ 0xfc
  · rw [if_pos hy, ← hs hy]
  · rw [if_neg hy, beDec_be _ _ (hb hy hx)]

theorem decTL_split {b rest : Bytes} {v : Nat} (h : decTL b = some (v, rest)) :
    ∃ hd, b = hd ++ rest ∧ (hd.length = 1 ∨ hd.length = 3 ∨ hd.length = 5 ∨ hd.length = 9) := by
  cases b with
  | nil => cases h
  | cons x t =>
    rw [decTL_cons] at h
    by_cases hl : t.length < tlExtra x
    · rw [if_pos hl] at h; cases h
    · rw [if_neg hl] at h; cases h
      refine ⟨x :: t.take (tlExtra x), by rw [List.cons_append, List.take_append_drop], ?_⟩
      rw [List.length_cons, List.length_take, Nat.min_eq_left (Nat.le_of_not_lt hl)]
      rcases tlExtra_cases x with e | e | e | e <;> rw [e]
      · exact .inl rfl
      · exact .inr (.inl rfl)
      · exact .inr (.inr (.inl rfl))
      · exact .inr (.inr (.inr rfl))

theorem decTL_append {p r : Bytes} {v : Nat} (h : decTL p = some (v, r)) (z : Bytes) :
    decTL (p ++ z) = some (v, r ++ z) := by
  cases p with
  | nil => cases h
  | cons x t =>
    rw [decTL_cons] at h
    rw [List.cons_append, decTL_cons]
    by_cases hl : t.length < tlExtra x
    · rw [if_pos hl] at h; cases h
    · rw [if_neg hl] at h; cases h
      have hle : tlExtra x ≤ t.length := Nat.le_of_not_lt hl
      rw [if_neg (Nat.not_lt.mpr (List.length_append ▸ Nat.le_trans hle (Nat.le_add_right ..))),
        List.take_append_of_le_length hle, List.drop_append_of_le_length hle]

/-- decoding consumes at least one byte (used for termination arguments) -/
theorem decTL_rest_lt {b rest : Bytes} {v : Nat} (h : decTL b = some (v, rest)) :
    rest.length < b.length := by
  obtain ⟨hd, rfl, hl⟩ := decTL_split h
  simp; omega

/-- `Nat.EncodingLength` -/
def natLen (x : Nat) : Nat :=
  if x ≤ 0xff then 1 else if x ≤ 0xffff then 2 else if x ≤ 0xffffffff then 4 else 8

def encNat (x : Nat) : Bytes := be (natLen x) x

/-- `ParseNat`: `none` = ErrFormat (length not 1, 2, 4 or 8) -/
def decNat (b : Bytes) : Option Nat :=
  if b.length = 1 ∨ b.length = 2 ∨ b.length = 4 ∨ b.length = 8 then some (beDec b) else none

theorem encNat_length (x : Nat) : (encNat x).length = natLen x := by simp [encNat]

theorem natLen_cases (x : Nat) : natLen x = 1 ∨ natLen x = 2 ∨ natLen x = 4 ∨ natLen x = 8 := by
  unfold natLen; repeat' split
  all_goals simp

theorem natLen_pos (x : Nat) : 0 < natLen x := by have := natLen_cases x; omega

theorem natLen_le8 (x : Nat) : natLen x ≤ 8 := by have := natLen_cases x; omega

theorem natLen_le2 {x : Nat} (h : x ≤ 0xffff) : natLen x ≤ 2 := by
  unfold natLen; repeat' split
  all_goals omega

theorem lt_pow_natLen {x : Nat} (hx : x < 2 ^ 64) : x < 256 ^ natLen x := by
  unfold natLen; repeat' split
  all_goals omega

theorem beDec_encNat {x : Nat} (hx : x < 2 ^ 64) : beDec (encNat x) = x :=
  beDec_be _ _ (lt_pow_natLen hx)

theorem decNat_encNat (x : Nat) (hx : x < 2 ^ 64) : decNat (encNat x) = some x := by
  unfold decNat
  rw [encNat_length, if_pos (natLen_cases x), beDec_encNat hx]

end Ndn
