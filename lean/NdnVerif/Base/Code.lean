/-
  Base/Code.lean — self-delimiting codes.  A code word that, followed by anything, determines both the
  value and what follows (TLV headers, fixed-width fields, a component framed by two of them) can be
  concatenated: the concatenation is injective and a byte prefix of it is a prefix of the list.
  At the end, list facts that several properties use (`prefix_test`, `inj_of_nodup_map`, `nodup_of_nodup_map`, `length_filter_one`, `sum_map_set`).
-/
import NdnVerif.Base.Name
namespace Ndn

def SelfDelim {α : Type} (P : α → Prop) (enc : α → Bytes) : Prop :=
  ∀ ⦃a b : α⦄ ⦃r s : Bytes⦄, P a → P b → enc a ++ r = enc b ++ s → a = b ∧ r = s

namespace SelfDelim
variable {α : Type} {P : α → Prop} {enc : α → Bytes}

theorem of_decode {dec : Bytes → Option (α × Bytes)} (h : ∀ a, P a → ∀ r, dec (enc a ++ r) = some (a, r)) :
    SelfDelim P enc := fun a b r s ha hb e =>
  Prod.mk.inj (Option.some.inj ((h a ha r).symm.trans ((congrArg dec e).trans (h b hb s))))

theorem of_length {n : Nat} (hl : ∀ a, (enc a).length = n) (hi : ∀ a b, P a → P b → enc a = enc b → a = b) :
    SelfDelim P enc := fun a b _ _ ha hb e =>
  have := List.append_inj e ((hl a).trans (hl b).symm)
  ⟨hi a b ha hb this.1, this.2⟩

theorem frame {B : Nat → Prop} {hT hL : Nat → Bytes} (h1 : SelfDelim B hT) (h2 : SelfDelim B hL) :
    SelfDelim (fun c : Component => B c.typ ∧ B c.val.length) fun c => hT c.typ ++ hL c.val.length ++ c.val := by
  intro ⟨ta, va⟩ ⟨tb, vb⟩ r s ha hb e
  simp only [List.append_assoc] at e
  obtain ⟨ht, e⟩ := h1 ha.1 hb.1 e
  obtain ⟨hl, e⟩ := h2 ha.2 hb.2 e
  have := List.append_inj e hl
  exact ⟨congr (congrArg _ ht) this.1, this.2⟩

variable (h : SelfDelim P enc) (hne : ∀ a, enc a ≠ [])
include h hne

theorem flatMap_prefix {x y : List α} (hx : ∀ a ∈ x, P a) (hy : ∀ a ∈ y, P a) :
    x.flatMap enc <+: y.flatMap enc ↔ x <+: y := by
  refine ⟨fun hp => ?_, fun ⟨t, e⟩ => ⟨t.flatMap enc, by rw [← e, List.flatMap_append]⟩⟩
  induction x generalizing y with
  | nil => exact List.nil_prefix
  | cons a x ih =>
    obtain ⟨t, e⟩ := hp
    rw [List.forall_mem_cons] at hx
    cases y with
    | nil => exact absurd (List.append_eq_nil_iff.mp (List.append_eq_nil_iff.mp e).1).1 (hne a)
    | cons b y =>
      rw [List.forall_mem_cons] at hy
      rw [List.flatMap_cons, List.flatMap_cons, List.append_assoc] at e
      have := h hx.1 hy.1 e
      exact List.cons_prefix_cons.mpr ⟨this.1, ih hx.2 hy.2 ⟨t, this.2⟩⟩

theorem flatMap_inj {x y : List α} (hx : ∀ a ∈ x, P a) (hy : ∀ a ∈ y, P a)
    (e : x.flatMap enc = y.flatMap enc) : x = y :=
  List.IsPrefix.eq_of_length_le ((flatMap_prefix h hne hx hy).mp (e ▸ List.prefix_rfl))
    ((flatMap_prefix h hne hy hx).mp (e ▸ List.prefix_rfl)).length_le

end SelfDelim

theorem selfDelim_encTL : SelfDelim (· < 2 ^ 64) encTL := .of_decode (dec := decTL) decTL_encTL

theorem selfDelim_be8 : SelfDelim (· < 2 ^ 64) (be 8) :=
  .of_length (be_length 8) fun a b ha hb e => by
    rw [← beDec_be 8 a ha, ← beDec_be 8 b hb, e]

/-- a Boolean test with the equations of "is a prefix", over an equality test `eq`, decides `<+:`
    (`C14.isPrefix` over `eqComp`; `C15.pfxOf` and `C20.Spec.isPre` over `decide (· = ·)`) -/
theorem prefix_test {α : Type} {eq : α → α → Bool} (heq : ∀ a b, eq a b = true ↔ a = b) {f : List α → List α → Bool}
    (h0 : ∀ b, f [] b = true) (h1 : ∀ a as, f (a :: as) [] = false)
    (h2 : ∀ a as b bs, f (a :: as) (b :: bs) = (eq a b && f as bs)) {a b : List α} : f a b = true ↔ a <+: b := by
  induction a generalizing b with
  | nil => exact iff_of_true (h0 b) List.nil_prefix
  | cons x xs ih =>
    cases b with
    | nil => exact iff_of_false (by rw [h1]; exact Bool.false_ne_true) (fun h => nomatch List.prefix_nil.mp h)
    | cons y ys => rw [h2, Bool.and_eq_true, heq, ih, List.cons_prefix_cons]

theorem inj_of_nodup_map {α β : Type} (f : α → β) {l : List α} (nd : (l.map f).Nodup) {a b : α}
    (ha : a ∈ l) (hb : b ∈ l) (hab : f a = f b) : a = b := by
  have h := (List.pairwise_map.mp nd).imp (S := fun a b => f a = f b → a = b) fun h e => absurd e h
  exact h.forall_of_forall_of_flip (fun _ _ _ => rfl) (h.imp fun h e => (h e.symm).symm) ha hb hab

theorem nodup_of_nodup_map {α β : Type} (f : α → β) {l : List α} (nd : (l.map f).Nodup) : l.Nodup :=
  List.Pairwise.of_map f (fun _ _ hne e => hne (congrArg f e)) nd

/-- a filter that drops exactly one element of a duplicate-free list (C07 `rem`, C08 PIT tokens, C15 `pending`) -/
theorem length_filter_one {α : Type} {p : α → Bool} {l : List α} {a : α} (hl : l.Nodup) (ha : a ∈ l)
    (hp : ∀ x ∈ l, p x = false ↔ x = a) : (l.filter p).length + 1 = l.length := by
  -- bring `a` to the front: the filter drops it and keeps all of the rest
  obtain ⟨s, t, rfl⟩ := List.append_of_mem ha
  have hperm := List.perm_middle (a := a) (l₁ := s) (l₂ := t)
  have hn := (List.nodup_cons.mp (hperm.nodup hl)).1
  have hall : ∀ x ∈ s ++ t, p x = true := fun x hx =>
    (Bool.not_eq_false _).mp fun h => hn ((hp x (hperm.mem_iff.mpr (List.mem_cons_of_mem _ hx))).mp h ▸ hx)
  rw [(hperm.filter p).length_eq, List.filter_cons_of_neg (by rw [(hp a ha).mpr rfl]; exact Bool.false_ne_true),
    List.filter_eq_self.mpr hall, hperm.length_eq]; rfl

theorem sum_map_set {α : Type} (f : α → Nat) : ∀ (l : List α) (i : Nat) (a : α) (h : i < l.length),
    ((l.set i a).map f).sum + f (l[i]) = (l.map f).sum + f a := by
  intro l i a h
  rw [List.set_eq_take_append_cons_drop, if_pos h]
  conv => rhs; rw [← List.take_append_drop i l, List.drop_eq_getElem_cons h]
  simp only [List.map_append, List.map_cons, List.sum_append_nat, List.sum_cons]
  omega

end Ndn
