/- C16 — one reader/writer mutex: the invariant `Inv` of reachable configurations.  `Ran`, `Excl` and `forall_upd` also serve the
   two-lock invariant (Lemmas2.lean), from which `Inv` itself is obtained (OneLock.lean). -/
import NdnVerif.C16.Conc
namespace Ndn.C16

variable {σ L Res Op : Type}

theorem runSteps_append (a b : List (L → σ → L × σ)) (l : L) (s : σ) :
    runSteps (a ++ b) l s = runSteps b (runSteps a l s).1 (runSteps a l s).2 := by
  induction a generalizing l s with
  | nil => rfl
  | cons f fs ih => exact ih _ _

theorem runSteps_snoc {done : List (L → σ → L × σ)} {i l : L} {b s : σ} (h : runSteps done i b = (l, s))
    (f : L → σ → L × σ) : runSteps (done ++ [f]) i b = ((f l s).1, (f l s).2) := by
  rw [runSteps_append, h]; rfl

theorem runSteps_eq_nil {steps : List (L → σ → L × σ)} (h : steps = []) (l : L) (s : σ) : runSteps steps l s = (l, s) :=
  h ▸ rfl

/-- a thread inside a critical section: it started `steps` from `(init, b)` and has `rest` left, at `(l, s)` -/
def Ran (steps : List (L → σ → L × σ)) (init : L) (b : σ) (rest : List (L → σ → L × σ)) (l : L) (s : σ) : Prop :=
  ∃ done, steps = done ++ rest ∧ runSteps done init b = (l, s)

namespace Ran
variable {steps rest : List (L → σ → L × σ)} {f : L → σ → L × σ} {init l : L} {b s : σ}

theorem start (h : s = b) : Ran steps init b steps init s := ⟨[], rfl, congrArg (Prod.mk init) h.symm⟩

theorem step (h : Ran steps init b (f :: rest) l s) : Ran steps init b rest (f l s).1 (f l s).2 :=
  h.elim fun done h => ⟨done ++ [f], h.1.trans (List.append_cons ..), runSteps_snoc h.2 f⟩

theorem next_mem (h : Ran steps init b (f :: rest) l s) : f ∈ steps :=
  h.elim fun _ h => h.1 ▸ List.mem_append_right _ List.mem_cons_self

theorem finish (h : Ran steps init b [] l s) : runSteps steps init b = (l, s) :=
  h.elim fun done h => (congrArg (runSteps · init b) (h.1.trans (List.append_nil done))).trans h.2

end Ran

theorem seqRun_append (body : Op → Body σ L Res) (s : σ) (a b : List Op) :
    seqRun body s (a ++ b) =
      ((seqRun body (seqRun body s a).1 b).1, (seqRun body s a).2 ++ (seqRun body (seqRun body s a).1 b).2) := by
  induction a generalizing s with
  | nil => rfl
  | cons op ops ih =>
    simp only [List.cons_append, seqRun]
    rw [ih]

theorem seqRun_results_getElem? (body : Op → Body σ L Res) (s : σ) (ops : List Op) (i : Nat) :
    (seqRun body s ops).2[i]? = ops[i]?.map fun op => ((body op).atomic (seqRun body s (ops.take i)).1).2 := by
  induction ops generalizing s i with
  | nil => rfl
  | cons o os ih =>
    cases i with
    | zero => rfl
    | succ i => exact ih _ i

/-- a thread in `w` excludes every other thread from `r`: a writer inside a reader/writer mutex; `w = r` for a plain mutex -/
def Excl {α : Type} (w r : α → Bool) (th : Nat → α) : Prop :=
  ∀ t, w (th t) = true → ∀ t', t' ≠ t → r (th t') = false

def base (body : Op → Body σ L Res) (s0 : σ) (c : Conf σ L Res Op) : σ :=
  (seqRun body s0 (c.log.map (·.1))).1

structure Inv (body : Op → Body σ L Res) (s0 : σ) (c : Conf σ L Res Op) : Prop where
  results : (seqRun body s0 (c.log.map (·.1))).2 = c.log.map (·.2)
  /-- `Ran (body op).steps (body op).init (base body s0 c) rest l c.shared`, spelled out -/
  runok : ∀ t op l rest ti, c.th t = .running op l rest ti →
    ∃ done, (body op).steps = done ++ rest ∧ runSteps done (body op).init (base body s0 c) = (l, c.shared)
  nowriter : (∀ t, isRunningWrite body (c.th t) = false) → c.shared = base body s0 c
  /-- a writer inside excludes everybody else: `Excl (isRunningWrite body) isRunning c.th` -/
  excl : ∀ t, isRunningWrite body (c.th t) = true → ∀ t', t' ≠ t → isRunning (c.th t') = false

theorem upd_same {α : Type} (f : Nat → α) (t : Nat) (a : α) : upd f t a t = a := by simp [upd]
theorem upd_other {α : Type} (f : Nat → α) (t t' : Nat) (a : α) (h : t' ≠ t) : upd f t a t' = f t' := by
  simp [upd, h]

theorem forall_of_ne {Q : Nat → Prop} {t : Nat} (ht : Q t) (ho : ∀ a, a ≠ t → Q a) : ∀ a, Q a :=
  fun a => if e : a = t then e ▸ ht else ho a e

theorem forall_upd {α : Type} {Q : α → Prop} (f : Nat → α) (t : Nat) (a : α) :
    (∀ t', Q (upd f t a t')) ↔ Q a ∧ ∀ t', t' ≠ t → Q (f t') := by
  constructor
  · intro h
    exact ⟨upd_same f t a ▸ h t, fun t' ne => upd_other f t t' a ne ▸ h t'⟩
  · intro h
    exact forall_of_ne ((upd_same f t a).symm ▸ h.1) fun t' ne => (upd_other f t t' a ne).symm ▸ h.2 t' ne

/-- thread `t` takes a side of the lock only if it had it or the other side was free -/
theorem Excl.upd {α : Type} {w r : α → Bool} {th : Nat → α} (h : Excl w r th) {t : Nat} {new : α}
    (hw : w new = false ∨ w (th t) = true ∨ ∀ a, r (th a) = false)
    (hr : r new = false ∨ r (th t) = true ∨ ∀ a, w (th a) = false) : Excl w r (upd th t new) := by
  intro a ha b hb
  by_cases ea : a = t
  · subst ea
    rw [upd_same] at ha
    rw [upd_other _ _ _ _ hb]
    rcases hw with h0 | h1 | h1
    · exact absurd (h0.symm.trans ha) Bool.false_ne_true
    · exact h a h1 b hb
    · exact h1 b
  · rw [upd_other _ _ _ _ ea] at ha
    by_cases eb : b = t
    · subst eb
      rw [upd_same]
      rcases hr with h0 | h1 | h1
      · exact h0
      · exact absurd ((h a ha b hb).symm.trans h1) Bool.false_ne_true
      · exact absurd ((h1 a).symm.trans ha) Bool.false_ne_true
    · rw [upd_other _ _ _ _ eb]; exact h a ha b hb

theorem Excl.unique {α : Type} {h : α → Bool} {th : Nat → α} (he : Excl h h th) {t t' : Nat}
    (ht : h (th t) = true) (ht' : h (th t') = true) : t = t' :=
  Decidable.byContradiction fun ne => absurd ((he t ht t' fun e => ne e.symm).symm.trans ht') Bool.false_ne_true

/-- a reader inside: no writer anywhere -/
theorem Excl.no_writer {α : Type} {w r : α → Bool} {th : Nat → α} (he : Excl w r th) {t : Nat} (hr : r (th t) = true)
    (hw : w (th t) = false) (a : Nat) : w (th a) = false :=
  Bool.eq_false_iff.mpr fun ha =>
    if e : t = a then Bool.false_ne_true (hw.symm.trans (e ▸ ha)) else Bool.false_ne_true ((he a ha t e).symm.trans hr)

theorem exec_induction {body : Op → Body σ L Res} {s0 : σ} {P : Conf σ L Res Op → Prop} (h0 : P (initConf s0))
    (hs : ∀ c e c', P c → Step body c e c' → P c') {c : Conf σ L Res Op} {evs : List (Ev Op)}
    (h : Exec body (initConf s0) evs c) : P c := by
  generalize hc0 : initConf s0 = c0 at h
  induction h with
  | nil => rw [← hc0]; exact h0
  | snoc _ hstep ih => exact hs _ _ _ ih hstep

end Ndn.C16
