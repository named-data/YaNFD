/- C16 — timing invariant `TInv` of the one-mutex system. -/
import NdnVerif.C16.Lemmas
namespace Ndn.C16

variable {σ L Res Op : Type}

def entries (c : Conf σ L Res Op) : List ((Op × Res) × Nat) := c.log.zip c.logt

structure TInv (c : Conf σ L Res Op) : Prop where
  len : c.logt.length = c.log.length
  lt_clock : ∀ x ∈ c.logt, x < c.clock
  sorted : c.logt.Pairwise (· < ·)
  hist : ∀ d ∈ c.hist, d.tinv < d.trel ∧ d.trel < d.tret ∧ d.tret < c.clock ∧ ((d.op, d.res), d.trel) ∈ entries c
  waiting : ∀ t op ti, c.th t = .waiting op ti → ti < c.clock
  running : ∀ t op l rest ti, c.th t = .running op l rest ti → ti < c.clock
  finished : ∀ t op r ti tr, c.th t = .finished op r ti tr → ti < tr ∧ tr < c.clock ∧ ((op, r), tr) ∈ entries c

def Timed (clock : Nat) (es : List ((Op × Res) × Nat)) : Status σ L Res Op → Prop
  | .idle => True
  | .waiting _ ti => ti < clock
  | .running _ _ _ ti => ti < clock
  | .finished op r ti tr => ti < tr ∧ tr < clock ∧ ((op, r), tr) ∈ es

theorem Timed.mono {k k' : Nat} {es es' : List ((Op × Res) × Nat)} {st : Status σ L Res Op}
    (h : Timed k es st) (hk : k ≤ k') (hes : ∀ e ∈ es, e ∈ es') : Timed k' es' st := by
  cases st with
  | idle => trivial
  | waiting op ti => exact Nat.lt_of_lt_of_le h hk
  | running op l rest ti => exact Nat.lt_of_lt_of_le h hk
  | finished op r ti tr => exact ⟨h.1, Nat.lt_of_lt_of_le h.2.1 hk, hes _ h.2.2⟩

theorem TInv.timed {c : Conf σ L Res Op} (hi : TInv c) (t : Nat) : Timed c.clock (entries c) (c.th t) := by
  cases h : c.th t with
  | idle => trivial
  | waiting op ti => exact hi.waiting t op ti h
  | running op l rest ti => exact hi.running t op l rest ti h
  | finished op r ti tr => exact hi.finished t op r ti tr h

theorem TInv.of_timed {c : Conf σ L Res Op} (len : c.logt.length = c.log.length) (lt_clock : ∀ x ∈ c.logt, x < c.clock)
    (sorted : c.logt.Pairwise (· < ·))
    (hist : ∀ d ∈ c.hist, d.tinv < d.trel ∧ d.trel < d.tret ∧ d.tret < c.clock ∧ ((d.op, d.res), d.trel) ∈ entries c)
    (timed : ∀ t, Timed c.clock (entries c) (c.th t)) : TInv c :=
  ⟨len, lt_clock, sorted, hist, fun t _ _ h => (h ▸ timed t :), fun t _ _ _ _ h => (h ▸ timed t :),
    fun t _ _ _ _ h => (h ▸ timed t :)⟩

theorem tinv_init (s0 : σ) : TInv (initConf s0 : Conf σ L Res Op) :=
  .of_timed rfl nofun .nil nofun fun _ => trivial

/-- for the four events that leave log and history alone -/
theorem TInv.tick {c : Conf σ L Res Op} (hi : TInv c) (s : σ) {t : Nat} {new : Status σ L Res Op}
    (hnew : Timed (c.clock + 1) (entries c) new) :
    TInv { c with shared := s, th := upd c.th t new, clock := c.clock + 1 } :=
  .of_timed hi.len (fun x hx => Nat.lt_succ_of_lt (hi.lt_clock x hx)) hi.sorted
    (fun d hd => have h := hi.hist d hd; ⟨h.1, h.2.1, Nat.lt_succ_of_lt h.2.2.1, h.2.2.2⟩)
    ((forall_upd c.th t new).mpr ⟨hnew, fun a _ => (hi.timed a).mono (Nat.le_succ _) fun _ h => h⟩)

theorem tinv_step (body : Op → Body σ L Res) {c c' : Conf σ L Res Op} {e : Ev Op}
    (hi : TInv c) (hs : Step body c e c') : TInv c' := by
  cases hs with
  | @inv t op hidle => exact hi.tick c.shared (Nat.lt_succ_self _ : c.clock < c.clock + 1)
  | @acqW t op ti hwait hmode hnone => exact hi.tick c.shared (Nat.lt_succ_of_lt (hi.waiting _ _ _ hwait) : ti < c.clock + 1)
  | @acqR t op ti hwait hmode hnw => exact hi.tick c.shared (Nat.lt_succ_of_lt (hi.waiting _ _ _ hwait) : ti < c.clock + 1)
  | @micro t op l f rest ti hrun => exact hi.tick _ (Nat.lt_succ_of_lt (hi.running _ _ _ _ _ hrun) : ti < c.clock + 1)
  | @rel t op l ti hrun =>
    have hent : (c.log ++ [(op, (body op).result l)]).zip (c.logt ++ [c.clock]) =
        entries c ++ [((op, (body op).result l), c.clock)] := List.zip_append hi.len.symm
    have hmono : ∀ e ∈ entries c, e ∈ (c.log ++ [(op, (body op).result l)]).zip (c.logt ++ [c.clock]) :=
      fun e he => hent ▸ List.mem_append_left _ he
    have hnew : ((op, (body op).result l), c.clock) ∈ (c.log ++ [(op, (body op).result l)]).zip (c.logt ++ [c.clock]) :=
      hent ▸ List.mem_append_right _ (List.mem_singleton.mpr rfl)
    refine .of_timed ?_ ?_ ?_ ?_ ((forall_upd c.th t _).mpr ⟨?_, fun a _ => (hi.timed a).mono (Nat.le_succ _) hmono⟩)
    · simp [hi.len]
    · intro x hx
      rcases List.mem_append.mp hx with hx | hx
      · exact Nat.lt_succ_of_lt (hi.lt_clock x hx)
      · rw [List.mem_singleton.mp hx]; exact Nat.lt_succ_self _
    · exact List.pairwise_append.mpr ⟨hi.sorted, List.pairwise_singleton _ _,
        fun a ha b hb => List.mem_singleton.mp hb ▸ hi.lt_clock a ha⟩
    · intro d hd
      have h := hi.hist d hd
      exact ⟨h.1, h.2.1, Nat.lt_succ_of_lt h.2.2.1, hmono _ h.2.2.2⟩
    · exact ⟨hi.running _ _ _ _ _ hrun, Nat.lt_succ_self _, hnew⟩
  | @ret t op r ti tr hfin =>
    have hf := hi.finished _ _ _ _ _ hfin
    refine .of_timed hi.len (fun x hx => Nat.lt_succ_of_lt (hi.lt_clock x hx)) hi.sorted ?_
      ((forall_upd c.th t _).mpr ⟨trivial, fun a _ => (hi.timed a).mono (Nat.le_succ _) fun _ h => h⟩)
    intro d hd
    rcases List.mem_append.mp hd with hd | hd
    · have h := hi.hist d hd
      exact ⟨h.1, h.2.1, Nat.lt_succ_of_lt h.2.2.1, h.2.2.2⟩
    · rw [List.mem_singleton.mp hd]
      exact ⟨hf.1, hf.2.1, Nat.lt_succ_self _, hf.2.2⟩

theorem tinv_exec (body : Op → Body σ L Res) (s0 : σ)
    {c : Conf σ L Res Op} {evs : List (Ev Op)} (h : Exec body (initConf s0) evs c) : TInv c :=
  exec_induction (tinv_init s0) (fun _ _ _ hi hs => tinv_step body hi hs) h

end Ndn.C16
