/-
  C16/Readv.lean — the NLSR readvertiser (fw/mgmt/nlsr_readvertiser.go) as the RIB drives it.

  `Announce`/`Withdraw` run INSIDE the RIB critical section (rib.go: AddEncRoute announces a NEW
  route, RemoveRouteEnc withdraws the removed route, CleanUpFace withdraws every removed route), under
  the readvertiser's own mutex.  State: the advertised counts (`map[uint64]int`, keyed by name hash;
  modelled keyed by name, C14/C07 cover the hashing) and the commands queued on the internal face.
-/
import NdnVerif.C06.LemmasHist
namespace Ndn.C16
open Ndn.C05 Ndn.C06

/-- `RouteOriginClient` -/
def originClient : Nat := 65

structure Rv where
  adv : List (Name × Int) := []        -- advertised counts (Go `int`; absent = 0)
  log : List (Bool × Name) := []       -- commands sent, oldest first; true = rib/register, false = rib/unregister
deriving Repr

def Rv.count (r : Rv) (n : Name) : Int := (afind r.adv n).getD 0

/-- `Announce(name, route)` for a route of origin client -/
def Rv.announce (r : Rv) (n : Name) : Rv := ⟨aset r.adv n (r.count n + 1), r.log ++ [(true, n)]⟩

/-- `Withdraw(name, route)` for a route of origin client: the command is skipped while the prefix is
    still advertised by another route -/
def Rv.withdraw (r : Rv) (n : Name) : Rv :=
  ⟨aset r.adv n (r.count n - 1), if r.count n - 1 > 0 then r.log else r.log ++ [(false, n)]⟩

inductive Call where
  | announce (n : Name)
  | withdraw (n : Name)
deriving Repr

def Rv.call (r : Rv) : Call → Rv
  | .announce n => r.announce n
  | .withdraw n => r.withdraw n

def Rv.run (r : Rv) (cs : List Call) : Rv := cs.foldl Rv.call r

/-- what NLSR believes after receiving the commands in order: a prefix is advertised iff the last
    command naming it was a register -/
def viewOf (log : List (Bool × Name)) (n : Name) : Bool :=
  log.foldl (fun v c => if c.2 = n then c.1 else v) false

def isClient (r : Route) : Bool := r.origin == originClient

def clientAt (s : C06.Spec) (n : Name) : Nat := ((s.routesAt n).filter isClient).length

/-- the calls a RIB operation makes into the readvertiser (call sites of rib.go) -/
def ribCalls (s : C06.Spec) : C06.Op → List Call
  | .reg n r => if isClient r && !(s.routesAt n).any (·.sameKey r.face r.origin) then [.announce n] else []
  | .unreg n f o => if o == originClient && (s.routesAt n).any (·.sameKey f o) then [.withdraw n] else []
  | .cleanup f => s.routes.flatMap fun p => (p.2.filter fun r => r.face == f && isClient r).map fun _ => Call.withdraw p.1

theorem count_announce (r : Rv) (n m : Name) :
    (r.announce n).count m = if n = m then r.count n + 1 else r.count m := by
  simp only [Rv.announce, Rv.count, afind_aset]; split <;> rfl

theorem count_withdraw (r : Rv) (n m : Name) :
    (r.withdraw n).count m = if n = m then r.count n - 1 else r.count m := by
  simp only [Rv.withdraw, Rv.count, afind_aset]; split <;> rfl

theorem viewOf_append (l : List (Bool × Name)) (b : Bool) (n m : Name) :
    viewOf (l ++ [(b, n)]) m = if n = m then b else viewOf l m := by
  simp only [viewOf, List.foldl_append, List.foldl_cons, List.foldl_nil]

def RvInv (r : Rv) : Prop := ∀ n, 0 ≤ r.count n ∧ (viewOf r.log n = true ↔ 0 < r.count n)

theorem rvInv_init : RvInv {} := by
  intro n; simp [Rv.count, afind, viewOf]

theorem rvInv_announce {r : Rv} (h : RvInv r) (n : Name) : RvInv (r.announce n) := by
  intro m
  rw [count_announce, show (r.announce n).log = r.log ++ [(true, n)] from rfl, viewOf_append]
  have := h n
  split
  · exact ⟨by omega, ⟨fun _ => by omega, fun _ => rfl⟩⟩
  · exact h m

theorem rvInv_withdraw {r : Rv} (h : RvInv r) (n : Name) (hpos : 1 ≤ r.count n) : RvInv (r.withdraw n) := by
  intro m
  have hn := h n
  rw [count_withdraw]
  by_cases hc : r.count n - 1 > 0
  · -- still advertised by another route: no command
    rw [show (r.withdraw n).log = r.log from if_pos hc]
    split
    next e => subst e; exact ⟨by omega, ⟨fun _ => hc, fun _ => hn.2.mpr (by omega)⟩⟩
    next => exact h m
  · rw [show (r.withdraw n).log = r.log ++ [(false, n)] from if_neg hc, viewOf_append]
    split
    · exact ⟨by omega, ⟨nofun, fun _ => by omega⟩⟩
    · exact h m

def wdCount (cs : List Call) (n : Name) : Nat :=
  (cs.filter fun c => match c with | .withdraw m => m = n | _ => false).length

theorem wdCount_withdraw_cons (m : Name) (cs : List Call) (n : Name) :
    wdCount (.withdraw m :: cs) n = (if m = n then 1 else 0) + wdCount cs n := by
  simp only [wdCount, List.filter_cons, decide_eq_true_eq]
  split
  · rw [List.length_cons, Nat.add_comm]
  · exact (Nat.zero_add _).symm

theorem wdCount_append (x y : List Call) (n : Name) : wdCount (x ++ y) n = wdCount x n + wdCount y n := by
  simp only [wdCount, List.filter_append, List.length_append]

def allWithdraw (cs : List Call) : Prop := ∀ c ∈ cs, ∃ m, c = Call.withdraw m

theorem wd_step {c : Int} {W : Nat} (h : ((1 + W : Nat) : Int) ≤ c) :
    1 ≤ c ∧ (W : Int) ≤ c - 1 ∧ c - 1 - W = c - ((1 + W : Nat) : Int) := by
  omega

/-- a batch of withdrawals (CleanUpFace) that never takes more than is advertised -/
theorem run_withdraws (cs : List Call) : ∀ (r : Rv), RvInv r → allWithdraw cs →
    (∀ n, (wdCount cs n : Int) ≤ r.count n) →
    RvInv (r.run cs) ∧ ∀ n, (r.run cs).count n = r.count n - wdCount cs n := by
  induction cs with
  | nil => intro r h _ _; exact ⟨h, fun n => (Int.sub_zero _).symm⟩
  | cons c cs ih =>
    intro r h hw hle
    obtain ⟨m, rfl⟩ := hw c List.mem_cons_self
    -- what the first withdrawal leaves at each name still covers the rest
    have hstep : ∀ n, (wdCount cs n : Int) ≤ (r.withdraw m).count n ∧
        (r.withdraw m).count n - wdCount cs n = r.count n - wdCount (.withdraw m :: cs) n := by
      intro n
      have := hle n
      rw [wdCount_withdraw_cons] at this ⊢
      rw [count_withdraw]
      by_cases e : m = n
      · subst e; rw [if_pos rfl] at this ⊢; rw [if_pos rfl]; exact (wd_step this).2
      · rw [if_neg e, Nat.zero_add] at this; rw [if_neg e, if_neg e, Nat.zero_add]; exact ⟨this, rfl⟩
    have hm := hle m
    rw [wdCount_withdraw_cons, if_pos rfl] at hm
    obtain ⟨hi, hc⟩ := ih (r.withdraw m) (rvInv_withdraw h m (wd_step hm).1) (fun c hc => hw c (List.mem_cons_of_mem _ hc))
      fun n => (hstep n).1
    exact ⟨hi, fun n => (hc n).trans (hstep n).2⟩

def RKInv (s : C06.Spec) : Prop := ∀ n, RouteKeysNodup (s.routesAt n)

theorem rkInv_init : RKInv C06.Spec.init := fun _ => List.nodup_nil

theorem rkInv_apply {s : C06.Spec} (hi : SpecInv6 s) (hk : RKInv s) (op : C06.Op) : RKInv (s.apply op) := by
  intro x
  rw [Spec.routesAt_apply hi op x]
  cases op with
  | reg n rt =>
    simp only [routeStep]
    split
    · exact routeKeys_upsert (hk n) rt
    · exact hk x
  | unreg n f o =>
    simp only [routeStep]
    split
    · exact routeKeys_filter (hk n) _
    · exact hk x
  | cleanup f => exact routeKeys_filter (hk x) _

theorem isClient_of_sameKey {a : Route} {f o : Nat} (h : a.sameKey f o = true) : isClient a = (o == originClient) := by
  simp only [Route.sameKey, Bool.and_eq_true, beq_iff_eq] at h
  simp only [isClient, h.2]

theorem client_upsert (rs : List Route) (rt : Route) :
    ((upsertRoute rs rt).filter isClient).length =
      (rs.filter isClient).length + (if isClient rt && !rs.any (·.sameKey rt.face rt.origin) then 1 else 0) := by
  induction rs with
  | nil => simp only [upsertRoute, List.filter_cons, List.any_nil, Bool.not_false, Bool.and_true]; split <;> rfl
  | cons a t ih =>
    simp only [upsertRoute, List.any_cons]
    rcases Bool.eq_false_or_eq_true (a.sameKey rt.face rt.origin) with e | e
    · have : isClient rt = isClient a := by rw [isClient_of_sameKey e]; rfl
      simp only [e, if_true, List.filter_cons, this, Bool.true_or, Bool.not_true, Bool.and_false, Bool.false_eq_true,
        if_false, Nat.add_zero]
      split <;> rfl
    · simp only [e, Bool.false_eq_true, if_false, List.filter_cons, Bool.false_or]
      split
      · rw [List.length_cons, List.length_cons, ih, Nat.add_right_comm]
      · exact ih

theorem client_split (q : Route → Bool) (rs : List Route) :
    ((rs.filter fun r => !q r).filter isClient).length + (rs.filter fun r => q r && isClient r).length =
      (rs.filter isClient).length := by
  have := List.countP_eq_countP_filter_add rs isClient q
  simp only [List.countP_eq_length_filter, List.filter_filter] at this
  rw [this, List.filter_filter, Nat.add_comm]
  simp only [Bool.and_comm]

/-- with unique keys at most one route has a given key -/
theorem client_sameKey_count (rs : List Route) (hk : RouteKeysNodup rs) (f o : Nat) :
    (rs.filter fun r => r.sameKey f o && isClient r).length =
      if o == originClient && rs.any (·.sameKey f o) then 1 else 0 := by
  induction rs with
  | nil => simp
  | cons a t ih =>
    obtain ⟨hk1, hk2⟩ := List.nodup_cons.mp hk
    simp only [List.filter_cons, List.any_cons]
    by_cases e : a.sameKey f o = true
    · -- no other route of `t` has this key
      have hno : t.any (·.sameKey f o) = false := by
        rw [List.any_eq_false]
        intro b hb hs
        refine hk1 (List.mem_map.mpr ⟨b, hb, ?_⟩)
        simp only [Route.sameKey, Bool.and_eq_true, beq_iff_eq] at e hs
        show (b.face, b.origin) = (a.face, a.origin)
        rw [hs.1, hs.2, e.1, e.2]
      simp only [e, Bool.true_and, Bool.true_or, Bool.and_true, isClient_of_sameKey e]
      split <;> simp only [List.length_cons, ih hk2, hno, Bool.and_false, Bool.false_eq_true, if_false]
    · simp only [e, Bool.false_and, Bool.false_eq_true, if_false, Bool.false_or]
      exact ih hk2

theorem wdCount_const {α : Type} (l : List α) (k n : Name) :
    wdCount (l.map fun _ => Call.withdraw k) n = if k = n then l.length else 0 := by
  induction l with
  | nil => simp [wdCount]
  | cons a t ih => rw [List.map_cons, wdCount_withdraw_cons, ih]; split <;> simp [Nat.add_comm]

/-- the withdraw calls of CleanUpFace naming `n` are exactly the client routes of the face on `n` -/
theorem wdCount_cleanup (l : List (Name × List Route)) (hn : KeysNodup l) (f : Nat) (n : Name) :
    wdCount (l.flatMap fun p => (p.2.filter fun r => r.face == f && isClient r).map fun _ => Call.withdraw p.1) n =
      (((afind l n).getD []).filter fun r => r.face == f && isClient r).length := by
  induction l with
  | nil => rfl
  | cons a t ih =>
    obtain ⟨k, v⟩ := a
    obtain ⟨hn1, hn2⟩ := List.nodup_cons.mp hn
    rw [List.flatMap_cons, wdCount_append, ih hn2, wdCount_const]
    simp only [afind]
    split
    next e => subst e; rw [(afind_eq_none_iff t k).mpr hn1]; rfl
    next => exact Nat.zero_add _

/-- the RIB together with its readvertiser -/
structure RR where
  spec : C06.Spec := C06.Spec.init
  rv : Rv := {}

def RR.step (x : RR) (op : C06.Op) : RR := ⟨x.spec.apply op, x.rv.run (ribCalls x.spec op)⟩
def RR.runOps (x : RR) (ops : List C06.Op) : RR := ops.foldl RR.step x

structure RRInv (x : RR) : Prop where
  spec : SpecInv6 x.spec
  rk : RKInv x.spec
  rv : RvInv x.rv
  counts : ∀ n, x.rv.count n = (clientAt x.spec n : Int)

theorem rrInv_init : RRInv {} :=
  ⟨⟨List.nodup_nil, nofun⟩, rkInv_init, rvInv_init, fun _ => rfl⟩

theorem count_sub {c : Int} {a w b : Nat} (hn : c = (b : Int)) (h : a + w = b) : (w : Int) ≤ c ∧ c - w = (a : Int) := by
  omega

theorem rr_calls {x : RR} (h : RRInv x) (op : C06.Op) :
    RvInv (x.step op).rv ∧ ∀ m, (x.step op).rv.count m = (clientAt (x.step op).spec m : Int) := by
  have hroutes := Spec.routesAt_apply h.spec op
  cases op with
  | reg n rt =>
    simp only [RR.step, ribCalls, clientAt, hroutes, routeStep]
    have hcl := client_upsert (x.spec.routesAt n) rt
    have hn := h.counts n
    simp only [clientAt] at hn
    split at hcl
    next hnew =>
      rw [if_pos hnew]
      refine ⟨rvInv_announce h.rv n, fun m => ?_⟩
      show (x.rv.announce n).count m = _
      rw [count_announce]
      split
      · rw [hcl, hn]; rfl
      · exact h.counts m
    next hnew =>
      rw [if_neg hnew]
      refine ⟨h.rv, fun m => ?_⟩
      show x.rv.count m = _
      split
      next e => rw [hcl, ← e]; exact hn
      next => exact h.counts m
  | unreg n f o =>
    simp only [RR.step, ribCalls, clientAt, hroutes, routeStep]
    have hsplit := client_split (·.sameKey f o) (x.spec.routesAt n)
    rw [client_sameKey_count _ (h.rk n) f o] at hsplit
    have hn := h.counts n
    simp only [clientAt] at hn
    by_cases hc : (o == originClient && (x.spec.routesAt n).any fun r => r.sameKey f o) = true
    · rw [if_pos hc] at hsplit ⊢
      obtain ⟨h1, h2⟩ := count_sub hn hsplit
      refine ⟨rvInv_withdraw h.rv n h1, fun m => ?_⟩
      show (x.rv.withdraw n).count m = _
      rw [count_withdraw]
      by_cases e : n = m
      · rw [if_pos e, if_pos e]; exact h2
      · rw [if_neg e, if_neg e]; exact h.counts m
    · rw [if_neg hc] at hsplit ⊢
      refine ⟨h.rv, fun m => ?_⟩
      show x.rv.count m = _
      by_cases e : n = m
      · rw [if_pos e, ← e]; exact (Int.sub_zero _).symm.trans (count_sub hn hsplit).2
      · rw [if_neg e]; exact h.counts m
  | cleanup f =>
    simp only [RR.step, clientAt, hroutes, routeStep]
    have hsplit := fun m => client_split (·.face == f) (x.spec.routesAt m)
    have hwd : ∀ m, wdCount (ribCalls x.spec (.cleanup f)) m = _ := fun m => wdCount_cleanup _ h.spec.keys f m
    have hall : allWithdraw (ribCalls x.spec (.cleanup f)) := by
      intro c hc
      obtain ⟨p, _, hp⟩ := List.mem_flatMap.mp hc
      obtain ⟨_, _, hq⟩ := List.mem_map.mp hp
      exact ⟨p.1, hq.symm⟩
    have hcs := fun m => count_sub (h.counts m) (hsplit m)
    have hr := run_withdraws _ x.rv h.rv hall fun m => by rw [hwd m]; exact (hcs m).1
    exact ⟨hr.1, fun m => by rw [hr.2 m, hwd m]; exact (hcs m).2⟩

theorem rrInv_step {x : RR} (h : RRInv x) (op : C06.Op) : RRInv (x.step op) :=
  ⟨Spec.inv_apply h.spec op, rkInv_apply h.spec h.rk op, (rr_calls h op).1, (rr_calls h op).2⟩

end Ndn.C16
