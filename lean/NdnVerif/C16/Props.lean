/-
  C16 — property theorems.  "Shared tables tolerate concurrent updates, teardown and lookups."

  What is proved (for EVERY number of threads, every operation set, every schedule the RWMutex
  admits, every interleaving of micro-steps):  if every table operation runs entirely inside one
  critical section of the table's reader/writer mutex (writers exclusive; read-lock holders never
  modify shared state), then every execution is linearizable to the sequential specification, the
  linearization point of each operation lies strictly inside its invocation/return interval, every
  lookup returns the result of the state between two operations, and at quiescence the tables
  equal the sequential replay.  The hypothesis is tied to the current source by the regenerated
  lock-fact table (`tables_follow_lock_discipline`, re-evaluated on every run) and by race-detector
  runs of the real tables whose histories the Lean linearizability checker validates.

  PARTIAL BY NATURE: the Go memory model, the scheduler and `sync.RWMutex` itself are assumed
  (modelled by the `acq` enabling conditions); a theorem cannot exhibit a data race.
-/
import NdnVerif.C16.LemmasTime
import NdnVerif.C16.OneLock
import NdnVerif.Gen.C16LockFacts
import NdnVerif.C16.Readv
import NdnVerif.C16.Teardown
namespace Ndn.C16

variable {σ σ2 L Res Op : Type}

/-- **Linearizability under the lock discipline.**  After any execution: replaying the log of
    critical sections sequentially (atomic semantics) yields exactly the results the operations
    returned; when nobody is inside a critical section the shared state is the sequential state. -/
theorem rwmutex_linearizable (body : Op → Body σ L Res) (hd : Disciplined body) (s0 : σ)
    {c : Conf σ L Res Op} {evs : List (Ev Op)} (h : Exec body (initConf s0) evs c) :
    (seqRun body s0 (c.log.map (·.1))).2 = c.log.map (·.2) ∧
    ((∀ t, isRunningWrite body (c.th t) = false) → c.shared = (seqRun body s0 (c.log.map (·.1))).1) := by
  have hi := inv_exec body hd s0 h
  exact ⟨hi.results, hi.nowriter⟩

/-- **Linearization points.**  Every returned operation is in the log with the result it returned,
    at a release time strictly between its invocation and its return; log times strictly increase. -/
theorem linearization_points (body : Op → Body σ L Res) (s0 : σ)
    {c : Conf σ L Res Op} {evs : List (Ev Op)} (h : Exec body (initConf s0) evs c) :
    c.logt.length = c.log.length ∧ c.logt.Pairwise (· < ·) ∧
    ∀ d ∈ c.hist, d.tinv < d.trel ∧ d.trel < d.tret ∧ ((d.op, d.res), d.trel) ∈ c.log.zip c.logt := by
  have ht := tinv_exec body s0 h
  refine ⟨ht.len, ht.sorted, ?_⟩
  intro d hd
  have := ht.hist d hd
  exact ⟨this.1, this.2.1, this.2.2.2⟩

/-- **Real-time order is respected**: an operation that returned before another was invoked is
    linearized before it. -/
theorem realtime_order_respected (body : Op → Body σ L Res) (s0 : σ)
    {c : Conf σ L Res Op} {evs : List (Ev Op)} (h : Exec body (initConf s0) evs c)
    (a b : Done Res Op) (ha : a ∈ c.hist) (hb : b ∈ c.hist) (hab : a.tret < b.tinv) : a.trel < b.trel := by
  have ht := tinv_exec body s0 h
  have h1 := ht.hist a ha
  have h2 := ht.hist b hb
  omega

/-- **Every operation sees a state lying between two operations**: the i-th logged result is the
    atomic result on the state reached by the first i logged operations — never a torn or partially
    updated view. -/
theorem result_is_of_state_between_operations (body : Op → Body σ L Res) (hd : Disciplined body) (s0 : σ)
    {c : Conf σ L Res Op} {evs : List (Ev Op)} (h : Exec body (initConf s0) evs c)
    (i : Nat) (op : Op) (r : Res) (hi : c.log[i]? = some (op, r)) :
    r = ((body op).atomic (seqRun body s0 ((c.log.take i).map (·.1))).1).2 := by
  have h1 := seqRun_results_getElem? body s0 (c.log.map (·.1)) i
  rw [(inv_exec body hd s0 h).results, List.getElem?_map, List.getElem?_map, hi, ← List.map_take] at h1
  exact Option.some.inj h1

open Ndn.C16.Two in
/-- **Linearizability of the two-lock system.**  Outer operations (route registration / removal /
    face clean-up / RIB listing) hold the RIB mutex for their work on the RIB state σ1 and — still
    holding it — install their FIB changes in ONE write critical section of the FIB RWMutex; inner
    operations (lookups, listings, direct FIB and strategy commands) take only the FIB RWMutex.
    For every number of threads and every schedule the two locks admit: replaying the log
    (appended when an operation releases the lock that publishes its last effect) sequentially
    with the ATOMIC semantics on (σ1, σ2) yields exactly the results returned; whenever no thread
    is inside phase 1 / waiting for the FIB lock / inside the FIB write section the RIB state is the
    sequential one, and whenever no writer is inside the FIB lock the FIB state is the sequential
    one.  In particular a lookup never sees the FIB between two sub-steps of a RIB operation, and a
    RIB listing never sees a RIB whose FIB changes are not installed yet. -/
theorem two_lock_linearizable (body : Op → Body2 σ σ2 L Res) (wf : WF body) (a : σ) (b : σ2)
    {c : Conf2 σ σ2 L Res Op} {evs : List (Ev2 Op)} (h : Exec2 body (init2 a b) evs c) :
    (seqRun2 body (a, b) (c.log.map (·.1))).2 = c.log.map (·.2) ∧
    ((∀ t, dirty1 (c.th t) = false) → c.s1 = (seqRun2 body (a, b) (c.log.map (·.1))).1.1) ∧
    ((∀ t, holdsM2w body (c.th t) = false) → c.s2 = (seqRun2 body (a, b) (c.log.map (·.1))).1.2) := by
  have hi := inv2_exec body wf a b h
  exact ⟨hi.res, hi.s1free, hi.s2free⟩

open Ndn.C16.Two in
/-- at quiescence (every thread idle) both tables equal the sequential replay of the operations -/
theorem two_lock_quiescent (body : Op → Body2 σ σ2 L Res) (wf : WF body) (a : σ) (b : σ2)
    {c : Conf2 σ σ2 L Res Op} {evs : List (Ev2 Op)} (h : Exec2 body (init2 a b) evs c)
    (hq : ∀ t, c.th t = .idle) :
    (c.s1, c.s2) = (seqRun2 body (a, b) (c.log.map (·.1))).1 := by
  have hl := two_lock_linearizable body wf a b h
  have h1 := hl.2.1 (fun t => by rw [hq t]; rfl)
  have h2 := hl.2.2 (fun t => by rw [hq t]; rfl)
  rw [h1, h2]

open Ndn.C16.Two in
/-- mutual exclusion as the two locks provide it: at most one thread holds the RIB mutex, and a
    writer inside the FIB lock excludes every other thread from it -/
theorem two_lock_exclusion (body : Op → Body2 σ σ2 L Res) (wf : WF body) (a : σ) (b : σ2)
    {c : Conf2 σ σ2 L Res Op} {evs : List (Ev2 Op)} (h : Exec2 body (init2 a b) evs c) :
    (∀ t t', holdsM1 (c.th t) = true → holdsM1 (c.th t') = true → t = t') ∧
    (∀ t, holdsM2w body (c.th t) = true → ∀ t', t' ≠ t → holdsM2 (c.th t') = false) := by
  have hi := inv2_exec body wf a b h
  exact ⟨fun _ _ => hi.m1excl.unique, hi.m2excl⟩

open Ndn.Gen.C16 in
/-- a method is disciplined: it takes its table's mutex as its first statement and releases it by a
    deferred unlock; a read-lock holder performs no write to shared state; nothing hands out live
    table state; the FIB never calls back into the RIB (lock order RIB → FIB, no cycle) -/
def disciplinedFact (m : MethodFact) : Bool :=
  m.ptrRecv &&       -- a value receiver would copy the table and lock the copy's mutex
  (m.lock == "Lock" || m.lock == "RLock") && m.deferUnlock &&
  (m.lock != "RLock" || m.sharedWrites == 0) && m.returnsLive == 0 &&
  m.lockOps == 2 &&   -- the lock and its deferred unlock only: the critical section is never left early
  m.reentrant == 0 && -- no call back into a locking method of the same table (RWMutex is not re-entrant)
  (m.typ == "RibTable" || !m.callsRib) &&
  -- a RIB operation installs its FIB changes through at most ONE call outside any loop (one inner
  -- critical section while the RIB mutex is still held); a FIB operation makes none
  m.fibCallsInLoop == 0 && (if m.typ == "RibTable" then m.fibCalls ≤ 1 else m.fibCalls == 0)

/-- the operations the property names must all be present in the table (a renamed or removed
    method would silently escape the check otherwise) -/
def requiredMethods : List (String × String) :=
  [("RibTable", "AddEncRoute"), ("RibTable", "RemoveRouteEnc"), ("RibTable", "CleanUpFace"), ("RibTable", "GetAllEntries")] ++
  (["FibStrategyTree", "FibStrategyHashTable"].flatMap fun t =>
    ["FindNextHopsEnc", "FindStrategyEnc", "InsertNextHopEnc", "ClearNextHopsEnc", "RemoveNextHopEnc",
     "ReplaceNextHopsEnc", "SetStrategyEnc", "UnSetStrategyEnc", "GetAllFIBEntries", "GetAllForwardingStrategies"].map fun n => (t, n))

/-- **Every exported operation of the three shared tables follows the lock discipline** in the
    current working tree (facts regenerated by harness/cmd/lockfacts on every run). -/
theorem tables_follow_lock_discipline :
    Ndn.Gen.C16.methods.all disciplinedFact = true ∧
    requiredMethods.all (fun p => Ndn.Gen.C16.methods.any fun m => m.typ == p.1 && m.name == p.2) = true := by
  decide +kernel

/-- lookups take the read lock, every mutator the write lock -/
theorem lookups_are_readers_mutators_are_writers :
    (Ndn.Gen.C16.methods.filter fun m => m.name == "FindNextHopsEnc" || m.name == "FindStrategyEnc").all (·.lock == "RLock") = true ∧
    (Ndn.Gen.C16.methods.filter fun m => m.sharedWrites != 0).all (·.lock == "Lock") = true := by
  decide +kernel

/-! The NLSR readvertiser: a third mutex, taken inside the RIB critical section.
`NlsrReadvertiser.Announce/Withdraw` are called by the RIB while it holds its own mutex
(`two_lock_exclusion`: at most one thread at a time), so the readvertiser's mutex is never contended; what
matters is that no path leaves it locked (the next RIB operation would then block for ever *while holding the
RIB mutex*, wedging registrations, listings and face teardown), and that the calls keep NLSR's view right. -/

open Ndn.Gen.C16 in
/-- `Announce` and `Withdraw` take the readvertiser's mutex before touching the advertised counts, release
    it by a deferred unlock right after (no path can leave with it held: exactly these two lock operations),
    and never call back into the RIB / FIB (whose mutex the caller holds) -/
def rvDisciplinedFact (m : MethodFact) : Bool :=
  m.ptrRecv && m.lock == "Lock" && m.deferUnlock && m.lockOps == 2 && m.fibCalls == 0 && !m.callsRib && m.reentrant == 0

theorem readvertiser_follows_lock_discipline :
    Ndn.Gen.C16.readvertiser.all rvDisciplinedFact = true ∧
    ["Announce", "Withdraw"].all (fun n => Ndn.Gen.C16.readvertiser.any fun m => m.name == n) = true := by
  decide +kernel

/-- **One management command is one table operation.**  Every command handler of the management modules that
    touch the shared tables (rib/register, rib/unregister, fib/add-nexthop, fib/remove-nexthop,
    strategy-choice/set, /unset) makes at most ONE mutating call into the RIB / FIB-strategy table, outside any
    loop, and the dataset handlers make none (facts regenerated on every run).  A command implemented as two
    table operations - e.g. re-registration as remove + add - is two critical sections, and by
    `split_update_allows_torn_lookup` a lookup can see the state between them.

    Not counted: `table.Rib.CleanUpFace(x)` under `if face.FaceTable.Get(x) == nil` (at most one per handler, only
    in rib/register).  `FaceTable.Remove` deletes the face from the face table before it cleans the RIB, so a
    handler that finds its face gone after the insertion repeats that face's (idempotent) teardown clean-up: the
    state between the two calls is that of the order "command, teardown", not a torn one. -/
theorem one_command_is_one_table_operation :
    Ndn.Gen.C16.mgmtHandlers.all (fun m => m.fibCalls ≤ 1 && m.fibCallsInLoop == 0 && (m.name != "list" || m.fibCalls == 0)) = true ∧
    Ndn.Gen.C16.mgmtGuardedCleanups.all (fun c => c.1 == "RIBModule" && c.2.1 == "register" && c.2.2 ≤ 1) = true ∧
    [("RIBModule", "register"), ("RIBModule", "unregister"), ("FIBModule", "add"), ("FIBModule", "remove"),
     ("StrategyChoiceModule", "set"), ("StrategyChoiceModule", "unset")].all
      (fun p => Ndn.Gen.C16.mgmtHandlers.any fun m => m.typ == p.1 && m.name == p.2 && m.fibCalls == 1) = true := by
  decide +kernel

/-- what one call into the readvertiser does with its mutex -/
inductive RvPath | lockUnlock | lockLeak | noLock
deriving DecidableEq

/-- the calls made by successive RIB operations (serialized by the RIB mutex), starting with the
    readvertiser's mutex `held` or free; `none` = a call blocks for ever, its caller holding the RIB mutex -/
def runRvPaths : Bool → List RvPath → Option Bool
  | held, [] => some held
  | held, .noLock :: ps => runRvPaths held ps
  | true, .lockUnlock :: _ => none
  | true, .lockLeak :: _ => none
  | false, .lockUnlock :: ps => runRvPaths false ps
  | false, .lockLeak :: ps => runRvPaths true ps

/-- calls that do not leak the mutex leave it free: what follows them runs as from the start -/
theorem runRvPaths_append (ps qs : List RvPath) (h : ∀ p ∈ ps, p ≠ RvPath.lockLeak) :
    runRvPaths false (ps ++ qs) = runRvPaths false qs := by
  induction ps with
  | nil => rfl
  | cons p ps ih =>
    have ht := ih fun q hq => h q (List.mem_cons_of_mem _ hq)
    cases p with
    | lockUnlock => exact ht
    | lockLeak => exact absurd rfl (h _ List.mem_cons_self)
    | noLock => exact ht

/-- if no path leaks the mutex, no call ever blocks and the mutex is free after every operation -/
theorem disciplined_readvertiser_never_blocks (ps : List RvPath) (h : ∀ p ∈ ps, p ≠ RvPath.lockLeak) :
    runRvPaths false ps = some false := by
  have := runRvPaths_append ps [] h
  rwa [List.append_nil] at this

/-- ... and one leaking path (an early `return` between Lock and Unlock) wedges the next call that locks -/
theorem leaked_readvertiser_mutex_deadlocks (ps qs : List RvPath) (h : ∀ p ∈ ps, p ≠ RvPath.lockLeak) :
    runRvPaths false (ps ++ RvPath.lockLeak :: RvPath.lockUnlock :: qs) = none :=
  runRvPaths_append ps _ h

/-- **The readvertiser keeps NLSR's view equal to the RIB**, for every history of RIB operations: the
    advertised count of a prefix is its number of client-origin routes, counts never go negative, and after
    the commands sent so far NLSR believes a prefix advertised iff the RIB holds a client route for it. -/
theorem nlsr_view_matches_rib (ops : List C06.Op) (n : Name) :
    let x := (({} : RR).runOps ops)
    x.rv.count n = (clientAt x.spec n : Int) ∧ (viewOf x.rv.log n = true ↔ 0 < clientAt x.spec n) := by
  have hi : RRInv (({} : RR).runOps ops) := List.foldlRecOn ops _ rrInv_init fun _ h o _ => rrInv_step h o
  refine ⟨hi.counts n, ?_⟩
  have := (hi.rv n).2
  rw [hi.counts n] at this
  simpa using this

-- non-vacuity: two faces register the same prefix (client origin), one leaves: still advertised, one
-- register command each, no unregister; then the other leaves: one unregister
example : let x := (({} : RR).runOps [.reg [⟨8, [97]⟩] ⟨5, 65, 1, 0⟩, .reg [⟨8, [97]⟩] ⟨6, 65, 1, 0⟩, .cleanup 5])
    x.rv.log = [(true, [⟨8, [97]⟩]), (true, [⟨8, [97]⟩])] ∧ x.rv.count [⟨8, [97]⟩] = 1 := by decide
example : let x := (({} : RR).runOps [.reg [⟨8, [97]⟩] ⟨5, 65, 1, 0⟩, .reg [⟨8, [97]⟩] ⟨6, 65, 1, 0⟩, .cleanup 5, .unreg [⟨8, [97]⟩] 6 65])
    x.rv.log = [(true, [⟨8, [97]⟩]), (true, [⟨8, [97]⟩]), (false, [⟨8, [97]⟩])] ∧ viewOf x.rv.log [⟨8, [97]⟩] = false := by decide

/-- a tiny instance: the shared state is one next-hop list; `0`, `1` = the RIB-style update performed as
    TWO operations (clear, then insert both hops), any other number = lookup -/
def tornBody : Nat → Body (List Nat) (List Nat) (List Nat)
  | 0 => ⟨.write, [], [fun l _ => (l, [])], fun _ => []⟩                      -- clear (own critical section)
  | 1 => ⟨.write, [], [fun l _ => (l, [5, 6])], fun _ => []⟩                  -- insert the new list
  | _ => ⟨.read, [], [fun _ s => (s, s)], fun l => l⟩                         -- lookup

/-- Sequentially the prefix holds `[5]` before the update and `[5, 6]` after it.  If the update is
    issued as two separate critical sections (operations `0` and `1`), then `clear · lookup · insert`
    is a legal order of critical sections — by `rwmutex_linearizable` a real execution can produce it
    — and the lookup returns `[]`, which is neither the state before nor the state after the
    update.  This is defect F-16c (one ClearNextHopsEnc and one InsertNextHopEnc
    per hop, each under its own lock), repaired by installing the whole update in one critical
    section (ReplaceNextHopsEnc). -/
theorem split_update_allows_torn_lookup :
    (seqRun tornBody [5] [0, 2, 1]).2 = [[], [], []] ∧ (seqRun tornBody [5] [0, 2, 1]).1 = [5, 6] ∧
    ([] : List Nat) ≠ [5] ∧ ([] : List Nat) ≠ [5, 6] := by
  decide

-- non-vacuity of the main theorem's hypothesis: a disciplined two-operation system
example : Disciplined tornBody := by
  intro op hm
  match op with
  | 0 => simp [tornBody] at hm
  | 1 => simp [tornBody] at hm
  | n + 2 => intro f hf l s; simp [tornBody] at hf; subst hf; rfl

/-- **A registration that races the teardown of its face leaves nothing behind.**  For any number of `rib/register`
    commands for a face (naming it in FaceId or registering their own incoming face), the teardown of that face, and
    EVERY interleaving of their table operations: once all of them have completed, RIB and FIB hold no route of the
    face — the outcome of the sequential order "commands, then teardown" (or of "teardown, then commands", which are
    all refused). -/
theorem register_racing_teardown_leaves_no_route (n : Nat) (explicit : Nat → Bool) (sched : List Teardown.Step)
    (hd : Teardown.Done (Teardown.run ⟨true, true⟩ explicit (Teardown.init n) sched)) :
    (Teardown.run ⟨true, true⟩ explicit (Teardown.init n) sched).routes = [] :=
  Teardown.done_no_routes _ (List.foldlRecOn sched _ (Teardown.inv_init n) fun s h st _ => Teardown.inv_step explicit s h st) hd

/-- the premise is satisfiable in a non-trivial way: two commands interleaved with the teardown, one route inserted
    after the face left the face table and removed by its own re-check, one removed by the teardown's clean-up -/
example :
    let sched := [Teardown.Step.c 0, .c 1, .c 1, .t, .c 0, .t, .c 0, .c 1]
    Teardown.Done (Teardown.run ⟨true, true⟩ (fun i => i == 0) (Teardown.init 2) sched) ∧
    (Teardown.run ⟨true, true⟩ (fun i => i == 0) (Teardown.init 2) [Teardown.Step.c 0, .c 1, .c 1, .t, .c 0]).routes = [0, 1] := by decide

/-- **Both facts are needed.**  Without the re-check after the insertion (the tree before F-16d) a command handled
    after the teardown — or one whose check passed just before it — leaves its route for good; and with the re-check
    but a teardown that cleaned the RIB BEFORE deleting the face from the face table, a command that runs between
    the two steps passes the re-check and its route stays. -/
theorem register_teardown_needs_both_facts :
    (∃ sched, Teardown.Done (Teardown.run ⟨false, true⟩ (fun _ => false) (Teardown.init 1) sched) ∧ (Teardown.run ⟨false, true⟩ (fun _ => false) (Teardown.init 1) sched).routes ≠ []) ∧
    (∃ sched, Teardown.Done (Teardown.run ⟨false, true⟩ (fun _ => true) (Teardown.init 1) sched) ∧ (Teardown.run ⟨false, true⟩ (fun _ => true) (Teardown.init 1) sched).routes ≠ []) ∧
    (∃ sched, Teardown.Done (Teardown.run ⟨true, false⟩ (fun _ => true) (Teardown.init 1) sched) ∧ (Teardown.run ⟨true, false⟩ (fun _ => true) (Teardown.init 1) sched).routes ≠ []) :=
  ⟨⟨[.t, .t, .c 0, .c 0, .c 0], by decide⟩, ⟨[.c 0, .t, .t, .c 0, .c 0], by decide⟩, ⟨[.t, .c 0, .c 0, .c 0, .t], by decide⟩⟩

/-- the working tree has both (facts regenerated by harness/cmd/lockfacts on every run): `FaceTable.Remove` deletes
    the face before it cleans the RIB, and `register` re-checks the face after its insertion, cleans up and returns
    when it is gone; that clean-up is the only second table call of any command handler
    (`one_command_is_one_table_operation`) -/
theorem register_teardown_model_matches_source :
    Ndn.Gen.C16.faceRemoveDeletesBeforeCleanup = true ∧ Ndn.Gen.C16.registerRechecksFace = true ∧
    Ndn.Gen.C16.mgmtGuardedCleanups = [("RIBModule", "register", 1)] := by decide +kernel

end Ndn.C16
