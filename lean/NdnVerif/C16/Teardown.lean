/-
  C16 — `rib/register` commands racing the teardown of the face they register (fw/mgmt/rib.go `register`,
  fw/face/table.go `Remove`), at the granularity of the table operations (each of which is one critical section,
  `rwmutex_linearizable`).

    teardown of face f        T1  `t.faces.Delete(f)`           (face table)
                              T2  `table.Rib.CleanUpFace(f)`    (RIB + FIB, one critical section)
    command i for face f      R0  explicit FaceId only: `if FaceTable.Get(f) == nil { 410 }`
                              R1  `table.Rib.AddEncRoute(.., f)`
                              R2  `if FaceTable.Get(f) == nil { table.Rib.CleanUpFace(f); 410 }`      (F-16d)

  Any number of commands (management thread, one after the other, or any other order) and the one teardown (the
  face's own goroutine) interleave in any way.  The model is parametrised by the two facts the proof needs, so that
  the theorem can also say that BOTH are needed: `recheck` (R2 exists) and `deleteFirst` (T1 before T2).  Which of
  them hold in the working tree is a regenerated fact (Gen/C16LockFacts: `registerRechecksFace`,
  `faceRemoveDeletesBeforeCleanup`).
  Core Lean only.
-/
namespace Ndn.C16.Teardown

structure Cfg where
  /-- the handler re-checks the face after the insertion and cleans up when it is gone -/
  recheck : Bool
  /-- `FaceTable.Remove` deletes the face from the face table before it cleans the RIB -/
  deleteFirst : Bool
deriving DecidableEq, Repr

structure St where
  /-- the face is in the face table -/
  inTable : Bool
  /-- teardown: number of its two steps done -/
  tpc : Nat
  /-- per command: 0 = not started, 1 = checked, 2 = inserted, 3 = answered -/
  pcs : List Nat
  /-- the commands whose route for the face is in the RIB -/
  routes : List Nat
deriving DecidableEq, Repr

def init (n : Nat) : St := { inTable := true, tpc := 0, pcs := List.replicate n 0, routes := [] }

inductive Step where
  | t              -- the teardown goroutine takes its next step
  | c (i : Nat)    -- command i takes its next step
deriving DecidableEq, Repr

def pcOf (s : St) (i : Nat) : Nat := s.pcs.getD i 3

def teardownStep (cfg : Cfg) (s : St) : St :=
  match s.tpc with
  | 0 => if cfg.deleteFirst then { s with inTable := false, tpc := 1 } else { s with routes := [], tpc := 1 }
  | 1 => if cfg.deleteFirst then { s with routes := [], tpc := 2 } else { s with inTable := false, tpc := 2 }
  | _ => s

/-- `explicit i`: command i names the face in its FaceId (R0 applies); otherwise it registers its incoming face -/
def commandStep (cfg : Cfg) (explicit : Nat → Bool) (s : St) (i : Nat) : St :=
  if i < s.pcs.length then
    match pcOf s i with
    | 0 => if explicit i && !s.inTable then { s with pcs := s.pcs.set i 3 } else { s with pcs := s.pcs.set i 1 }
    | 1 => { s with pcs := s.pcs.set i 2, routes := i :: s.routes }
    | 2 => if cfg.recheck && !s.inTable then { s with pcs := s.pcs.set i 3, routes := [] }
           else { s with pcs := s.pcs.set i 3 }
    | _ => s
  else s

def step (cfg : Cfg) (explicit : Nat → Bool) (s : St) : Step → St
  | .t => teardownStep cfg s
  | .c i => commandStep cfg explicit s i

def run (cfg : Cfg) (explicit : Nat → Bool) (s : St) (sched : List Step) : St := sched.foldl (step cfg explicit) s

/-- the teardown and every command have run to completion -/
def Done (s : St) : Prop := s.tpc = 2 ∧ ∀ pc ∈ s.pcs, pc = 3

instance (s : St) : Decidable (Done s) := by unfold Done; infer_instance

/-- the invariant (for `recheck` and `deleteFirst`): once the teardown has started the face is out of the table,
    and every route of the face still has someone who will remove it — the teardown's clean-up is still ahead,
    or the command that inserted it has its re-check ahead (which then finds the face gone). -/
def Inv (s : St) : Prop :=
  (s.inTable = true → s.tpc = 0) ∧ ∀ r ∈ s.routes, s.tpc < 2 ∨ pcOf s r = 2

theorem inv_init (n : Nat) : Inv (init n) := ⟨fun _ => rfl, nofun⟩

theorem pcOf_set (s : St) (i j v : Nat) (routes : List Nat) (b : Bool) (t : Nat) :
    pcOf { inTable := b, tpc := t, pcs := s.pcs.set i v, routes := routes } j =
      if i = j ∧ i < s.pcs.length then v else pcOf s j := by
  unfold pcOf
  simp only [List.getD_eq_getElem?_getD, List.getElem?_set]
  by_cases h : i = j
  · subst h
    by_cases hl : i < s.pcs.length <;> simp [hl]
  · simp [h]

theorem inv_step (explicit : Nat → Bool) (s : St) (h : Inv s) (st : Step) :
    Inv (step ⟨true, true⟩ explicit s st) := by
  obtain ⟨h1, h3⟩ := h
  cases st with
  | t =>
    simp only [step, teardownStep]
    split
    · exact ⟨nofun, fun r _ => .inl (Nat.lt_succ_self 1)⟩
    · rename_i ht
      exact ⟨fun hb => absurd ((h1 hb).symm.trans ht) nofun, nofun⟩
    · exact ⟨h1, h3⟩
  | c i =>
    -- a command that moves from a pc other than 2 to `v` leaves the other commands' routes covered
    have other : ∀ v, pcOf s i ≠ 2 → ∀ r ∈ s.routes, s.tpc < 2 ∨
        pcOf { inTable := s.inTable, tpc := s.tpc, pcs := s.pcs.set i v, routes := s.routes } r = 2 := by
      intro v hp r hr
      refine (h3 r hr).imp_right fun a => ?_
      rw [pcOf_set]
      split
      · rename_i hc; exact absurd (hc.1 ▸ a) hp
      · exact a
    simp only [step, commandStep]
    split
    · rename_i hi
      split
      · -- R0 (pc 0): refused (3) or checked (1); no route is its own yet
        rename_i hp
        split
        · exact ⟨h1, other 3 (by rw [hp]; nofun)⟩
        · exact ⟨h1, other 1 (by rw [hp]; nofun)⟩
      · -- R1 (pc 1): the route goes in; its own re-check is ahead
        rename_i hp
        refine ⟨h1, fun r hr => ?_⟩
        rcases List.mem_cons.mp hr with rfl | hr'
        · exact .inr ((pcOf_set s r r 2 _ _ _).trans (if_pos ⟨rfl, hi⟩))
        · exact other 2 (by rw [hp]; nofun) r hr'
      · -- R2 (pc 2): the re-check finds the face gone and cleans up, or the face is still in the table
        split
        · exact ⟨h1, nofun⟩
        · rename_i hc
          have h0 := h1 (by simpa using hc)
          exact ⟨h1, fun r _ => .inl (by rw [h0]; exact Nat.zero_lt_two)⟩
      · exact ⟨h1, h3⟩
    · exact ⟨h1, h3⟩

theorem step_pcs_length (cfg : Cfg) (explicit : Nat → Bool) (s : St) (st : Step) :
    (step cfg explicit s st).pcs.length = s.pcs.length := by
  cases st with
  | t => simp only [step, teardownStep]; split <;> (try split) <;> rfl
  | c i =>
    simp only [step, commandStep]
    split
    · split <;> (try split) <;> simp
    · rfl

theorem done_no_routes (s : St) (h : Inv s) (hd : Done s) : s.routes = [] := by
  refine List.eq_nil_iff_forall_not_mem.mpr fun r hm => ?_
  rcases h.2 r hm with a | a
  · rw [hd.1] at a; exact Nat.lt_irrefl _ a
  · -- a routed command still at pc 2 contradicts `Done`
    unfold pcOf at a
    rw [List.getD_eq_getElem?_getD] at a
    cases hg : s.pcs[r]? with
    | none => rw [hg] at a; cases a
    | some v =>
      rw [hg] at a
      exact absurd ((hd.2 v (List.mem_of_getElem? hg)).symm.trans a) nofun

end Ndn.C16.Teardown
