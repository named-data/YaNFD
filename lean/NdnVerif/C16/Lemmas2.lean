/-
  C16 — the invariant `Inv2` of the two-lock system.  σ1 and σ2 are two cells, each with an owner predicate (`dirty1`,
  `holdsM2w`); `Moves` says what one event may do to a cell, `Inv2.upd` re-establishes the invariant from that, and each of
  the 14 rules of `Step2` is one application of it (`inv2_step`).
-/
import NdnVerif.C16.Conc2
import NdnVerif.C16.Lemmas
namespace Ndn.C16.Two

variable {σ1 σ2 L Res Op : Type}

/-- holds the outer mutex and may have moved `s1` away from the sequential state (`post` has published already) -/
def dirty1 : St σ1 σ2 L Res Op → Bool
  | .p1 .. | .mid .. | .p2 .. => true
  | _ => false

theorem seqRun2_append (body : Op → Body2 σ1 σ2 L Res) (s : σ1 × σ2) (a b : List Op) :
    seqRun2 body s (a ++ b) =
      ((seqRun2 body (seqRun2 body s a).1 b).1, (seqRun2 body s a).2 ++ (seqRun2 body (seqRun2 body s a).1 b).2) := by
  induction a generalizing s with
  | nil => rfl
  | cons op ops ih => simp only [List.cons_append, seqRun2]; rw [ih]

def base2 (body : Op → Body2 σ1 σ2 L Res) (s0 : σ1 × σ2) (log : List (Op × Res)) : σ1 × σ2 :=
  (seqRun2 body s0 (log.map (·.1))).1

/-- what the invariant says about one thread: inside a phase it has run a prefix of it from the sequential state -/
def ThOk (body : Op → Body2 σ1 σ2 L Res) (b1 : σ1) (b2 : σ2) (s1 : σ1) (s2 : σ2) : St σ1 σ2 L Res Op → Prop
  | .p1 op l rest => Ran (body op).steps1 (body op).init b1 rest l s1
  | .mid op l => Ran (body op).steps1 (body op).init b1 [] l s1
  | .p2 op l rest => ∃ l1, Ran (body op).steps1 (body op).init b1 [] l1 s1 ∧ Ran (body op).steps2 l1 b2 rest l s2
  | .inn op l rest => (∃ m, (body op).kind = .inner m) ∧ Ran (body op).steps2 (body op).init b2 rest l s2
  | _ => True

theorem ThOk.frame {body : Op → Body2 σ1 σ2 L Res} {b1 b1' s1 s1' : σ1} {b2 b2' s2 s2' : σ2}
    {st : St σ1 σ2 L Res Op} (h : ThOk body b1 b2 s1 s2 st)
    (h1 : dirty1 st = true → b1' = b1 ∧ s1' = s1) (h2 : holdsM2 st = true → b2' = b2 ∧ s2' = s2) :
    ThOk body b1' b2' s1' s2' st := by
  cases st with
  | p1 op l rest => obtain ⟨rfl, rfl⟩ := h1 rfl; exact h
  | mid op l => obtain ⟨rfl, rfl⟩ := h1 rfl; exact h
  | p2 op l rest => obtain ⟨rfl, rfl⟩ := h1 rfl; obtain ⟨rfl, rfl⟩ := h2 rfl; exact h
  | inn op l rest => obtain ⟨rfl, rfl⟩ := h2 rfl; exact h
  | _ => exact True.intro

/-- What an event of a thread does to a cell with sequential state `b` and actual state `s`, the thread owning the cell before
    (`o`) and after (`n`) or not: a thread that does not own the cell leaves it alone, and an owner gives it up only in its
    sequential state. -/
inductive Moves {σ : Type} (o n : Bool) (b s b' s' : σ) : Prop
  | out (ho : o = false) (hb : b' = b) (hs : s' = s)
  | own (ho : o = true) (hn : n = true)
  | give (ho : o = true) (hs : s' = b')

/-- a cell that is in its sequential state whenever nobody owns it stays so -/
theorem Moves.free {σ α : Type} {d : α → Bool} {th : Nat → α} {t : Nat} {new : α} {b s b' s' : σ}
    (h : Moves (d (th t)) (d new) b s b' s') (hfree : (∀ a, d (th a) = false) → s = b)
    (hn : ∀ a, d (upd th t new a) = false) : s' = b' := by
  obtain ⟨h1, h2⟩ := (forall_upd (Q := fun st => d st = false) th t new).mp hn
  cases h with
  | out ho hb hs => rw [hb, hs]; exact hfree (forall_of_ne ho h2)
  | own _ hd => exact absurd (h1.symm.trans hd) Bool.false_ne_true
  | give _ hs => exact hs

/-- ... and what the others know of the cell stays true: an owner is alone -/
theorem Moves.kept {σ : Type} {o n : Bool} {b s b' s' : σ} (h : Moves o n b s b' s') (alone : o = true → False) :
    b' = b ∧ s' = s := by
  cases h with
  | out _ hb hs => exact ⟨hb, hs⟩
  | own ho _ => exact (alone ho).elim
  | give ho _ => exact (alone ho).elim

structure Inv2 (body : Op → Body2 σ1 σ2 L Res) (s0 : σ1 × σ2) (c : Conf2 σ1 σ2 L Res Op) : Prop where
  res : (seqRun2 body s0 (c.log.map (·.1))).2 = c.log.map (·.2)
  m1excl : Excl holdsM1 holdsM1 c.th
  m2excl : Excl (holdsM2w body) holdsM2 c.th
  s1free : (∀ t, dirty1 (c.th t) = false) → c.s1 = (base2 body s0 c.log).1
  s2free : (∀ t, holdsM2w body (c.th t) = false) → c.s2 = (base2 body s0 c.log).2
  ok : ∀ t, ThOk body (base2 body s0 c.log).1 (base2 body s0 c.log).2 c.s1 c.s2 (c.th t)

theorem inv2_init (body : Op → Body2 σ1 σ2 L Res) (a : σ1) (b : σ2) : Inv2 body (a, b) (init2 a b) :=
  ⟨rfl, nofun, nofun, fun _ => rfl, fun _ => rfl, fun _ => trivial⟩

theorem not_dirty_of_not_m1 (st : St σ1 σ2 L Res Op) (h : holdsM1 st = false) : dirty1 st = false := by
  cases st <;> first | rfl | cases h

theorem holdsM1_of_dirty (st : St σ1 σ2 L Res Op) (h : dirty1 st = true) : holdsM1 st = true := by
  cases st <;> first | rfl | cases h

theorem not_w_of_not_m2 (body : Op → Body2 σ1 σ2 L Res) (st : St σ1 σ2 L Res Op) (h : holdsM2 st = false) :
    holdsM2w body st = false := by
  cases st <;> first | rfl | cases h

theorem holdsM2w_inn {body : Op → Body2 σ1 σ2 L Res} {op : Op} {m : Mode} (h : (body op).kind = .inner m) (l : L)
    (rest : List (L → σ2 → L × σ2)) : holdsM2w body (.inn op l rest : St σ1 σ2 L Res Op) = (m == .write) := by
  show ((body op).kind == .inner .write) = _
  rw [h]; cases m <;> rfl

section
variable {body : Op → Body2 σ1 σ2 L Res} {s0 : σ1 × σ2} {c : Conf2 σ1 σ2 L Res Op} (hi : Inv2 body s0 c)
include hi

theorem Inv2.replay : seqRun2 body s0 (c.log.map (·.1)) = (base2 body s0 c.log, c.log.map (·.2)) :=
  Prod.ext rfl hi.res

theorem Inv2.log_snoc {op : Op} {l1 l : L} {s1' : σ1} {s2' : σ2}
    (h1 : runSteps (body op).steps1 (body op).init (base2 body s0 c.log).1 = (l1, s1'))
    (h2 : runSteps (body op).steps2 l1 (base2 body s0 c.log).2 = (l, s2')) :
    seqRun2 body s0 ((c.log ++ [(op, (body op).result l)]).map (·.1)) =
      ((s1', s2'), (c.log ++ [(op, (body op).result l)]).map (·.2)) := by
  have hat : (body op).atomic (base2 body s0 c.log) = ((s1', s2'), (body op).result l) := by
    simp only [Body2.atomic, h1, h2]
  simp only [List.map_append, List.map_cons, List.map_nil, seqRun2_append, seqRun2, hi.replay, hat]

variable {t : Nat} {old : St σ1 σ2 L Res Op} (hold : c.th t = old)
include hold

theorem Inv2.ok_of : ThOk body (base2 body s0 c.log).1 (base2 body s0 c.log).2 c.s1 c.s2 old := hold ▸ hi.ok t

/-- One event: thread `t` goes from `old` to `new`, the states become `s1'`, `s2'`, the log `log'` with sequential state `b'`.
    `hm1` keeps `m1excl`, `hm2w`/`hm2` keep `m2excl`, `h1`/`h2` say what happens to the two cells, `hnew` is `ok` for `t`. -/
theorem Inv2.upd {s1' : σ1} {s2' : σ2} {log' : List (Op × Res)} {b' : σ1 × σ2} {new : St σ1 σ2 L Res Op}
    (hlog : seqRun2 body s0 (log'.map (·.1)) = (b', log'.map (·.2)))
    (hm1 : holdsM1 new = false ∨ holdsM1 old = true ∨ ∀ a, holdsM1 (c.th a) = false)
    (hm2w : holdsM2w body new = false ∨ holdsM2w body old = true ∨ ∀ a, holdsM2 (c.th a) = false)
    (hm2 : holdsM2 new = false ∨ holdsM2 old = true ∨ ∀ a, holdsM2w body (c.th a) = false)
    (h1 : Moves (dirty1 old) (dirty1 new) (base2 body s0 c.log).1 c.s1 b'.1 s1')
    (h2 : Moves (holdsM2w body old) (holdsM2w body new) (base2 body s0 c.log).2 c.s2 b'.2 s2')
    (hnew : ThOk body b'.1 b'.2 s1' s2' new) :
    Inv2 body s0 ⟨s1', s2', Ndn.C16.upd c.th t new, log'⟩ := by
  subst hold
  obtain rfl : base2 body s0 log' = b' := congrArg Prod.fst hlog
  refine ⟨congrArg Prod.snd hlog, hi.m1excl.upd hm1 hm1,
    hi.m2excl.upd hm2w hm2, h1.free hi.s1free, h2.free hi.s2free,
    (forall_upd c.th t new).mpr ⟨hnew, fun a ne => (hi.ok a).frame (fun ha => h1.kept fun ho => ?_) (fun ha => h2.kept fun ho => ?_)⟩⟩
  · exact absurd ((not_dirty_of_not_m1 _ (hi.m1excl t (holdsM1_of_dirty _ ho) a ne)).symm.trans ha) Bool.false_ne_true
  · exact absurd ((hi.m2excl t ho a ne).symm.trans ha) Bool.false_ne_true

end

theorem inv2_step (body : Op → Body2 σ1 σ2 L Res) (wf : WF body) (s0 : σ1 × σ2)
    {c c' : Conf2 σ1 σ2 L Res Op} {e : Ev2 Op} (hi : Inv2 body s0 c) (hs : Step2 body c e c') :
    Inv2 body s0 c' := by
  cases hs with
  | @inv t op hidle => exact hi.upd hidle hi.replay (.inl rfl) (.inl rfl) (.inl rfl) (.out rfl rfl rfl) (.out rfl rfl rfl) trivial
  | @ret t op r hfin => exact hi.upd hfin hi.replay (.inl rfl) (.inl rfl) (.inl rfl) (.out rfl rfl rfl) (.out rfl rfl rfl) trivial
  | @rel1 t op r hpost => exact hi.upd hpost hi.replay (.inl rfl) (.inl rfl) (.inl rfl) (.out rfl rfl rfl) (.out rfl rfl rfl) trivial
  | @acq1 t op u hwait hkind hnone =>
    exact hi.upd hwait hi.replay (.inr (.inr hnone)) (.inl rfl) (.inl rfl) (.out rfl rfl rfl) (.out rfl rfl rfl)
      (Ran.start (hi.s1free fun a => not_dirty_of_not_m1 _ (hnone a)))
  | @end1a t op l hrun hkind =>
    have hp1 := hi.ok_of hrun
    exact hi.upd hrun hi.replay (.inr (.inl rfl)) (.inl rfl) (.inl rfl) (.own rfl rfl) (.out rfl rfl rfl) hp1
  | @acq2 t op l hmid hnone =>
    have hnw := fun a => not_w_of_not_m2 body _ (hnone a)
    exact hi.upd hmid hi.replay (.inr (.inl rfl)) (.inr (.inr hnone)) (.inr (.inr hnw)) (.own rfl rfl) (.out rfl rfl rfl)
      ⟨l, hi.ok_of hmid, Ran.start (hi.s2free hnw)⟩
  | @acqIw t op hwait hkind hnone =>
    have hnw := fun a => not_w_of_not_m2 body _ (hnone a)
    exact hi.upd hwait hi.replay (.inl rfl) (.inr (.inr hnone)) (.inr (.inr hnw)) (.out rfl rfl rfl) (.out rfl rfl rfl)
      ⟨⟨_, hkind⟩, Ran.start (hi.s2free hnw)⟩
  | @acqIr t op hwait hkind hnow =>
    exact hi.upd hwait hi.replay (.inl rfl) (.inl (holdsM2w_inn hkind ..)) (.inr (.inr hnow)) (.out rfl rfl rfl) (.out rfl rfl rfl)
      ⟨⟨_, hkind⟩, Ran.start (hi.s2free hnow)⟩
  | @micro1 t op l f rest hrun =>
    exact hi.upd hrun hi.replay (.inr (.inl rfl)) (.inl rfl) (.inl rfl) (.own rfl rfl) (.out rfl rfl rfl)
      (Ran.step (hi.ok_of hrun))
  | @micro2 t op l f rest hrun =>
    obtain ⟨l1, hph1, hran⟩ := hi.ok_of hrun
    exact hi.upd hrun hi.replay (.inr (.inl rfl)) (.inr (.inl rfl)) (.inr (.inl rfl)) (.own rfl rfl)
      (.own rfl rfl) ⟨l1, hph1, hran.step⟩
  | @microI t op l f rest hrun =>
    obtain ⟨⟨m, hkind⟩, hran⟩ := hi.ok_of hrun
    have hw : holdsM2w body (.inn op l (f :: rest) : St σ1 σ2 L Res Op) = (m == .write) := holdsM2w_inn hkind ..
    -- either `t` is the writer inside, alone, or a reader whose micro-step leaves `s2` as it is
    cases m with
    | write =>
      exact hi.upd hrun hi.replay (.inl rfl) (.inr (.inl hw)) (.inr (.inl rfl)) (.out rfl rfl rfl) (.own hw hw)
        ⟨⟨_, hkind⟩, hran.step⟩
    | read =>
      exact hi.upd hrun hi.replay (.inl rfl) (.inl hw) (.inr (.inl rfl)) (.out rfl rfl rfl)
        (.out hw rfl (wf.read_ro op hkind f hran.next_mem l c.s2)) ⟨⟨_, hkind⟩, hran.step⟩
  | @end1b t op l hrun hkind =>
    exact hi.upd hrun
      (hi.log_snoc (Ran.finish (hi.ok_of hrun)) (runSteps_eq_nil (wf.outer_no2 op hkind) ..))
      (.inl rfl) (.inl rfl) (.inl rfl) (.give rfl rfl) (.out rfl rfl rfl) trivial
  | @rel2 t op l hrun =>
    obtain ⟨l1, hph1, hran⟩ := hi.ok_of hrun
    exact hi.upd hrun (hi.log_snoc hph1.finish hran.finish) (.inr (.inl rfl)) (.inl rfl) (.inl rfl) (.give rfl rfl)
      (.give rfl rfl) trivial
  | @relI t op l hrun =>
    obtain ⟨⟨m, hkind⟩, hran⟩ := hi.ok_of hrun
    refine hi.upd hrun
      (hi.log_snoc (runSteps_eq_nil (wf.inner_no1 op m hkind) ..) hran.finish)
      (.inl rfl) (.inl rfl) (.inl rfl) (.out rfl rfl rfl) ?_ trivial
    -- a writer leaves what it wrote; a reader saw, and leaves, the sequential state
    cases hw : holdsM2w body (.inn op l [] : St σ1 σ2 L Res Op) with
    | true => exact .give rfl rfl
    | false => exact .out rfl (hi.s2free (hi.m2excl.no_writer (by rw [hrun]; rfl) (by rw [hrun]; exact hw))) rfl

theorem inv2_exec (body : Op → Body2 σ1 σ2 L Res) (wf : WF body) (a : σ1) (b : σ2)
    {c : Conf2 σ1 σ2 L Res Op} {evs : List (Ev2 Op)} (h : Exec2 body (init2 a b) evs c) : Inv2 body (a, b) c := by
  generalize hc0 : init2 a b = c0 at h
  induction h with
  | nil => rw [← hc0]; exact inv2_init body a b
  | snoc _ hstep ih => exact inv2_step body wf (a, b) ih hstep

end Ndn.C16.Two
