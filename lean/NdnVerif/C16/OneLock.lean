/-
  C16 — the one-mutex system is the fragment of the two-lock system in which nobody takes the outer mutex: every
  operation is an inner one, σ1 is `Unit`.  `Inv` of a configuration is read off `Inv2` of its image.
-/
import NdnVerif.C16.Lemmas2
namespace Ndn.C16
open Two

variable {σ L Res Op : Type}

def lift (body : Op → Body σ L Res) (op : Op) : Body2 Unit σ L Res :=
  ⟨.inner (body op).mode, (body op).init, [], (body op).steps, (body op).result⟩

def embSt : Status σ L Res Op → St Unit σ L Res Op
  | .idle => .idle
  | .waiting op _ => .waiting op
  | .running op l rest _ => .inn op l rest
  | .finished op r _ _ => .finished op r

/-- forget the clock, the release times and the history -/
def emb (c : Conf σ L Res Op) : Conf2 Unit σ L Res Op := ⟨(), c.shared, fun t => embSt (c.th t), c.log⟩

theorem lift_wf {body : Op → Body σ L Res} (hd : Disciplined body) : WF (lift body) :=
  ⟨fun _ _ _ => rfl, fun op h => hd op (Kind.inner.inj h), fun _ h => nomatch h⟩

theorem embSt_upd (th : Nat → Status σ L Res Op) (t : Nat) (new : Status σ L Res Op) :
    (fun a => embSt (upd th t new a)) = upd (fun a => embSt (th a)) t (embSt new) :=
  funext fun _ => apply_ite embSt _ _ _

theorem holdsM2_embSt (st : Status σ L Res Op) : holdsM2 (embSt st) = isRunning st := by
  cases st <;> rfl

theorem holdsM2w_embSt (body : Op → Body σ L Res) (st : Status σ L Res Op) :
    holdsM2w (lift body) (embSt st) = isRunningWrite body st := by
  cases st with
  | running op l rest ti => show (Kind.inner (body op).mode == .inner .write) = ((body op).mode == .write); cases (body op).mode <;> rfl
  | _ => rfl

theorem seqRun2_lift (body : Op → Body σ L Res) (s : σ) (ops : List Op) :
    seqRun2 (lift body) ((), s) ops = (((), (seqRun body s ops).1), (seqRun body s ops).2) := by
  induction ops generalizing s with
  | nil => rfl
  | cons op ops ih => exact congrArg (fun x => (x.1, _ :: x.2)) (ih _)

theorem emb_step {body : Op → Body σ L Res} {c c' : Conf σ L Res Op} {e : Ev Op} (hs : Step body c e c') :
    ∃ e2, Step2 (lift body) (emb c) e2 (emb c') := by
  have h2 : ∀ {t : Nat} {st : Status σ L Res Op}, c.th t = st → (emb c).th t = embSt st := fun h => congrArg embSt h
  cases hs with
  | inv h => exact ⟨_, by unfold emb; rw [embSt_upd]; exact .inv (h2 h)⟩
  | acqW h hm hn =>
    exact ⟨_, by unfold emb; rw [embSt_upd]; exact .acqIw (h2 h) (congrArg Kind.inner hm) fun a => (holdsM2_embSt _).trans (hn a)⟩
  | acqR h hm hn =>
    exact ⟨_, by unfold emb; rw [embSt_upd]; exact .acqIr (h2 h) (congrArg Kind.inner hm) fun a => (holdsM2w_embSt body _).trans (hn a)⟩
  | micro h => exact ⟨_, by unfold emb; rw [embSt_upd]; exact .microI (h2 h)⟩
  | rel h => exact ⟨_, by unfold emb; rw [embSt_upd]; exact .relI (h2 h)⟩
  | ret h => exact ⟨_, by unfold emb; rw [embSt_upd]; exact .ret (h2 h)⟩

theorem inv_of_inv2 {body : Op → Body σ L Res} {s0 : σ} {c : Conf σ L Res Op} (h : Inv2 (lift body) ((), s0) (emb c)) :
    Inv body s0 c := by
  have hb : (base2 (lift body) ((), s0) (emb c).log).2 = base body s0 c := congrArg (·.1.2) (seqRun2_lift body s0 _)
  refine ⟨?_, fun t op l rest ti ht => ?_, fun hn => ?_, fun t ht a ne => ?_⟩
  · exact (congrArg Prod.snd (seqRun2_lift body s0 _)).symm.trans h.res
  · have := h.ok t
    rw [hb, show (emb c).th t = .inn op l rest from congrArg embSt ht] at this
    exact this.2
  · exact (h.s2free fun t => (holdsM2w_embSt body _).trans (hn t)).trans hb
  · exact (holdsM2_embSt _).symm.trans (h.m2excl t ((holdsM2w_embSt body _).trans ht) a ne)

theorem emb_exec {body : Op → Body σ L Res} {s0 : σ} {c : Conf σ L Res Op} {evs : List (Ev Op)}
    (h : Exec body (initConf s0) evs c) : ∃ evs2, Exec2 (lift body) (init2 () s0) evs2 (emb c) :=
  exec_induction (P := fun c => ∃ evs2, Exec2 (lift body) (init2 () s0) evs2 (emb c)) ⟨[], .nil⟩
    (fun _ _ _ ⟨_, he⟩ hs => (emb_step hs).elim fun _ hs2 => ⟨_, he.snoc hs2⟩) h

theorem inv_exec (body : Op → Body σ L Res) (hd : Disciplined body) (s0 : σ)
    {c : Conf σ L Res Op} {evs : List (Ev Op)} (h : Exec body (initConf s0) evs c) : Inv body s0 c :=
  (emb_exec h).elim fun _ h2 => inv_of_inv2 (inv2_exec _ (lift_wf hd) () s0 h2)

end Ndn.C16
