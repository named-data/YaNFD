/-
  C12 — the property theorems.  The all-input parser invariants and the tamper theorems are proved in
  TamperData.lean / TamperInterest.lean over the hypothesis bundles `ReaderSpecs`, `ReaderSpecs2`, `EncSpecs`;
  the bundles are instantiated here, so nothing is assumed except the cryptography, which appears ONLY as
  explicit hypotheses of the theorems: the predicates `Scheme.Correct`, `Scheme.ExactOn` and the hypothesis named `hinj`.

  Model: NdnVerif/C03 (encoder offset markers → sigCovered / digest input; parser `reader.Range` →
  signed portion; `checkInterest`).  Spec: NdnVerif/C12/Spec.lean.
-/
import NdnVerif.C03.Props
import NdnVerif.C12.Spec
import NdnVerif.C12.TamperData
import NdnVerif.C12.TamperInterest
namespace Ndn.C12
open Ndn.C03

theorem readerSpecs2 : ReaderSpecs2 where
  delegate_oob r buf p l sub r' h hl e := by
    obtain ⟨r1, e1, a1⟩ := readerSpecsX.delegate_oob r buf p l h hl
    rw [e1] at e
    cases e
    exact ⟨p, Nat.le_refl _, a1⟩

/-! ### the all-input parser invariants, for every healthy reader (BufferReader, or WireReader over any segmentation) -/

theorem parseData_cov_all (r : Rd) (V : Bytes) (s : DataSt) (sv : Bytes) :
    At r V 0 → parseData {} r = .ok s → s.v.sv = some sv →
    ∃ s0 e h1 h2, s0 ≤ e ∧ 0 < h1 ∧ 0 < h2 ∧ e + h1 + h2 + sv.length ≤ V.length
      ∧ s.sigCovered = (V.drop s0).take (e - s0)
      ∧ sv = (V.drop (e + h1 + h2)).take sv.length
      ∧ rdTL (V.drop e) = some (23, h1) ∧ rdTL (V.drop (e + h1)) = some (sv.length, h2)
      ∧ (V.headD 0 ∈ [7, 20, 21, 22, 23] → s0 = 0) :=
  parseData_cov readerSpecs readerSpecs2 r V s sv

theorem parseInterest_digest_all (r : Rd) (V : Bytes) (s : InterestSt) :
    At r V 0 → parseInterest {} r = .ok s →
    ∃ n, s.digestCoverStart + n ≤ V.length ∧ s.digestCovered = (V.drop s.digestCoverStart).take n :=
  parseInterest_digest readerSpecs readerSpecs2 r V s

/-- Data, every packet shape, every healthy reader (contiguous or any segmentation): the signed
    portion reported by the parser equals the bytes handed to the signer; the signature value and
    type come back; a correct validator accepts. -/
theorem covered_enc_eq_dec_data (sch : Scheme) (hc : sch.Correct) (d : DataIn) (e : Encoded) (r : Rd)
    (hv : d.Valid) (hest : d.est > 0) (hm : makeData d sch.sign = .ok e) (hr : At r e.wire.flatten 0) :
    ∃ p cov, readData r = .ok (p, cov) ∧ e.sigCovered = some cov ∧ p.sv = some (sch.sign cov)
      ∧ p.si = d.si ∧ ∀ t, (d.si.map (·.typ)) = some t → verdict sch t (p.si.map (·.typ)) cov p.sv = true := by
  obtain ⟨cov, h1, h2, _⟩ := readData_makeData d sch.sign e r hv hm hr
  obtain ⟨_, hs, _⟩ := encSpecs.makeData_flatten d sch.sign e hv hm
  obtain ⟨hsv, hsc, _⟩ := hs hest
  obtain rfl : dataCovered d = cov := Option.some.inj (hsc.symm.trans (h2 hest))
  refine ⟨_, _, h1, h2 hest, ?_, rfl, ?_⟩
  · simp [dataExpect, hest, hsv]
  · intro t ht
    simp [verdict, dataExpect, ht, hest, hsv, hc (dataCovered d)]

theorem noTrailingDigest_of_params {i : InterestIn} (hap : i.ap.isSome) : NoTrailingDigest i :=
  fun hnone => by rw [hnone] at hap; cases hap

/-- the same for Interests (the digest placeholder in the name is not part of the signed portion) -/
theorem covered_enc_eq_dec_interest (sch : Scheme) (hc : sch.Correct) (i : InterestIn) (H : Bytes → Bytes) (e : Encoded)
    (fn : Name) (r : Rd) (hv : i.Valid) (hH : ∀ x, (H x).length = 32) (hest : i.est > 0)
    (hm : makeInterest i sch.sign H = .ok (e, fn)) (hr : At r e.wire.flatten 0) :
    ∃ p cov, readInterest H r = .ok (p, cov) ∧ e.sigCovered = some cov ∧ p.sv = some (sch.sign cov)
      ∧ p.si = i.si ∧ ∀ t, (i.si.map (·.typ)) = some t → verdict sch t (p.si.map (·.typ)) cov p.sv = true := by
  obtain ⟨cov, h1, h2⟩ := readInterest_makeInterest i sch.sign H e fn r hv
    (noTrailingDigest_of_params (hv.2.2.2.2.2.2.1 hest)) hH hm hr
  obtain ⟨_, _, hs, _⟩ := encSpecs.makeInterest_flatten i sch.sign H e fn hv hH hm
  obtain ⟨hsv, hsc, _⟩ := hs hest
  obtain rfl : interestCovered i = cov := Option.some.inj (hsc.symm.trans (h2 hest))
  refine ⟨_, _, h1, h2 hest, ?_, rfl, ?_⟩
  · simp [interestExpect, hest, hsv]
  · intro t ht
    simp [verdict, interestExpect, ht, hest, hsv, hc (interestCovered i)]

/-- the bytes handed to the signer are the signed portion the NDN packet format prescribes:
    Data: Name … SignatureInfo; Interest: name components before the digest, ApplicationParameters,
    InterestSignatureInfo -/
theorem covered_is_signed_portion :
    (∀ (d : DataIn) (sign : Bytes → Bytes) (e : Encoded), d.Valid → d.est > 0 → makeData d sign = .ok e →
        e.sigCovered = some (dataCovered d) ∧ ∃ tl, e.wire.flatten = tl ++ dataCovered d ++ (encTL 23 ++ encTL e.sigVal.length ++ e.sigVal))
    ∧ (∀ (i : InterestIn) (sign H : Bytes → Bytes) (e : Encoded) (fn : Name), i.Valid → (∀ x, (H x).length = 32) → i.est > 0 →
        makeInterest i sign H = .ok (e, fn) → e.sigCovered = some (interestCovered i)) := by
  refine ⟨?_, ?_⟩
  · intro d sign e hv hest hm
    obtain ⟨hfl, hs, _⟩ := encSpecs.makeData_flatten d sign e hv hm
    refine ⟨(hs hest).2.1, encTL 6 ++ encTL (dataValue d e.sigVal).length, ?_⟩
    rw [hfl]; simp [dataValue, dataCovered, hest, List.append_assoc]
  · intro i sign H e fn hv hH hest hm
    exact ((encSpecs.makeInterest_flatten i sign H e fn hv hH hm).2.2.1 hest).2.1

/-- an Interest built with parameters carries, as its last name component, the SHA-256 of exactly
    the bytes from the ApplicationParameters element to the end of the Interest; and decoding
    accepts it -/
theorem params_digest_correct (i : InterestIn) (sign H : Bytes → Bytes) (e : Encoded) (fn : Name)
    (hv : i.Valid) (hH : ∀ x, (H x).length = 32) (hap : i.ap.isSome) (hm : makeInterest i sign H = .ok (e, fn)) :
    fn.getLast? = some ⟨2, H (interestParamsPortion i e.sigVal)⟩
    ∧ (∃ pre, e.wire.flatten = pre ++ interestParamsPortion i e.sigVal)
    ∧ ∀ r, At r e.wire.flatten 0 → ∃ p cov, readInterest H r = .ok (p, cov) ∧ p.name = some fn := by
  obtain ⟨hfn, hfl, _, _⟩ := encSpecs.makeInterest_flatten i sign H e fn hv hH hm
  refine ⟨?_, ?_, ?_⟩
  · rw [hfn]; simp [interestFinalName, hap, digestComp]
  · exact ⟨encTL 5 ++ encTL (interestValue i fn e.sigVal).length ++ interestHead i fn,
      by rw [hfl]; simp [interestValue, List.append_assoc]⟩
  · intro r hr
    obtain ⟨cov, h1, _⟩ := readInterest_makeInterest i sign H e fn r hv (noTrailingDigest_of_params hap) hH hm hr
    exact ⟨_, cov, h1, rfl⟩

/-- an Interest whose parameters digest does not match is rejected by the decoder's check,
    whatever else it contains -/
theorem bad_digest_rejected (H : Bytes → Bytes) (s : InterestSt) (hap : s.v.ap.isSome)
    (hbad : ∀ n c, s.v.name = some n → n.getLast? = some c → c.val ≠ H s.digestCovered) :
    checkInterest H s = false := by
  unfold checkInterest
  cases hn : s.v.name with
  | none => rfl
  | some n =>
    have hap' : s.v.ap.isNone = false := by
      cases h : s.v.ap <;> simp [h] at hap ⊢
    simp only [hap', hap, Bool.false_eq_true, and_false, ↓reduceIte]
    cases hl : n.getLast? with
    | none => rfl
    | some c => simp [hbad n c hn hl]

/-- … and that is the state the parser reaches: an Interest VALUE that is the normal form of `i` but carries
    ANY other value `v` in the digest component parses (`parseInterest`, every healthy reader) to a state
    that `checkInterest` refuses -/
theorem bad_digest_rejected_onWire (i : InterestIn) (H : Bytes → Bytes) (sv v : Bytes) (r : Rd)
    (hap : i.ap.isSome) (hv : v ≠ H (interestParamsPortion i sv))
    (hr : InterestReady i (stripDigest i.name ++ [⟨2, v⟩]) sv)
    (h : At r (interestValue i (stripDigest i.name ++ [⟨2, v⟩]) sv) 0) :
    ∃ fs, parseInterest {} r = .ok fs ∧ checkInterest H fs = false := by
  obtain ⟨fs, h1, h2, h3, _⟩ := parseInterest_Z encSpecs i _ sv hr
  refine ⟨fs, (parseInterest_sim readerSpecs readerSpecsX {} (sim_Z h)).trans h1, bad_digest_rejected H fs ?_ ?_⟩
  · rw [h2]; simpa [interestExpect] using hap
  · intro n c hn hl
    rw [h2] at hn
    obtain rfl : stripDigest i.name ++ [(⟨2, v⟩ : Component)] = n := Option.some.inj hn
    rw [List.getLast?_append, List.getLast?_singleton] at hl
    obtain rfl : (⟨2, v⟩ : Component) = c := Option.some.inj hl
    rw [h3 hap]
    exact hv

/-- under A-crypto (`ExactOn m`) the validator rejects every (signed portion, signature value) pair
    other than the one the signer produced for `m` -/
theorem verdict_of_exactOn (sch : Scheme) {m : Bytes} (hx : sch.ExactOn m) (t : Nat) (gt : Option Nat) (cov : Bytes)
    (sv : Option Bytes) (h : ¬ (cov = m ∧ sv = some (sch.sign m))) : verdict sch t gt cov sv = false := by
  cases sv with
  | none => simp [verdict]
  | some v =>
    cases hver : sch.verify cov v with
    | false => simp [verdict, hver]
    | true =>
      obtain ⟨h1, h2⟩ := hx cov v hver
      exact absurd ⟨h1, congrArg some h2⟩ h

/-- Data: change ANY byte inside the signed portion or the signature value (in particular flip any
    bit there). Over every healthy reader, decoding fails or the (signed portion, signature value)
    pair reported differs from the pair the signer produced — hence, under A-crypto (`ExactOn`),
    the validator rejects. -/
theorem bitflip_detected (sch : Scheme) (d : DataIn) (e : Encoded) (hv : d.Valid)
    (hm : makeData d sch.sign = .ok e) (hest : d.est > 0) (hx : sch.ExactOn (dataCovered d))
    (b' : Bytes) (k : Nat) (hlen : b'.length = e.wire.flatten.length)
    (hk : b'.getD k 0 ≠ e.wire.flatten.getD k 0) (hsame : ∀ j, j ≠ k → b'.getD j 0 = e.wire.flatten.getD j 0)
    (hreg : (1 + tlLen (dataValue d e.sigVal).length ≤ k
              ∧ k < 1 + tlLen (dataValue d e.sigVal).length + (dataCovered d).length)
            ∨ (e.wire.flatten.length - e.sigVal.length ≤ k ∧ k < e.wire.flatten.length))
    (r : Rd) (hr : At r b' 0) (t : Nat) :
    (∀ x, readData r ≠ .ok x) ∨ ∃ p cov, readData r = .ok (p, cov) ∧ verdict sch t (p.si.map (·.typ)) cov p.sv = false := by
  refine (ok_or_fails (readData r)).imp_right fun ⟨⟨p, cov⟩, hrd⟩ => ⟨p, cov, hrd, verdict_of_exactOn sch hx _ _ _ _ ?_⟩
  have hsig := ((encSpecs.makeData_flatten d sch.sign e hv hm).2.1 hest).1
  exact hsig ▸ bitflip_detected_data readerSpecs readerSpecs2 encSpecs d sch.sign e hv hm hest b' k hlen hk hsame hreg r hr p cov hrd

/-- Interest with parameters (signed or not): change ANY byte from the first byte of the
    ApplicationParameters element to the end of the Interest (parameters, SignatureInfo, signature
    value). If SHA-256 has no collision with the original digest input, decoding fails. -/
theorem bitflip_detected_interest (i : InterestIn) (sign H : Bytes → Bytes) (e : Encoded) (fn : Name)
    (hv : i.Valid) (hH : ∀ x, (H x).length = 32) (hm : makeInterest i sign H = .ok (e, fn)) (hap : i.ap.isSome)
    (hinj : ∀ x, H x = H (interestParamsPortion i e.sigVal) → x = interestParamsPortion i e.sigVal)
    (b' : Bytes) (k : Nat) (hlen : b'.length = e.wire.flatten.length)
    (hk : b'.getD k 0 ≠ e.wire.flatten.getD k 0) (hsame : ∀ j, j ≠ k → b'.getD j 0 = e.wire.flatten.getD j 0)
    (hreg : e.wire.flatten.length - (interestParamsPortion i e.sigVal).length ≤ k ∧ k < e.wire.flatten.length)
    (r : Rd) (hr : At r b' 0) : ∀ x, readInterest H r ≠ .ok x :=
  bitflip_detected_interest_digest readerSpecs readerSpecs2 encSpecs i sign H e fn hv hH hm hap hinj b' k hlen hk hsame hreg r hr

/-- signed Interest: change ANY byte inside the name components the signature covers (all
    components before the parameters digest). Decoding fails, or the signed portion reported differs
    from what was signed, so under A-crypto (`ExactOn`) the validator rejects. -/
theorem bitflip_detected_interest_name_sig (sch : Scheme) (i : InterestIn) (H : Bytes → Bytes) (e : Encoded) (fn : Name)
    (hv : i.Valid) (hH : ∀ x, (H x).length = 32) (hm : makeInterest i sch.sign H = .ok (e, fn)) (hest : i.est > 0)
    (hx : sch.ExactOn (interestCovered i))
    (b' : Bytes) (k : Nat) (hlen : b'.length = e.wire.flatten.length)
    (hk : b'.getD k 0 ≠ e.wire.flatten.getD k 0) (hsame : ∀ j, j ≠ k → b'.getD j 0 = e.wire.flatten.getD j 0)
    (hreg : 1 + tlLen (interestValue i fn e.sigVal).length + 1 + tlLen (nameLen fn) ≤ k
      ∧ k < 1 + tlLen (interestValue i fn e.sigVal).length + 1 + tlLen (nameLen fn)
            + (encNameInner (stripDigest i.name)).length)
    (r : Rd) (hr : At r b' 0) (t : Nat) :
    (∀ x, readInterest H r ≠ .ok x) ∨ ∃ p cov, readInterest H r = .ok (p, cov) ∧ verdict sch t (p.si.map (·.typ)) cov p.sv = false := by
  exact (ok_or_fails (readInterest H r)).imp_right fun ⟨⟨p, cov⟩, hrd⟩ => ⟨p, cov, hrd, verdict_of_exactOn sch hx _ _ _ _
    fun h => bitflip_detected_interest_name readerSpecs encSpecs i sch.sign H e fn
      hv hH hm hest b' k hlen hk hsame hreg r hr p cov hrd h.1⟩

/-! ### non-vacuity: the C03 example packets (`exData` with est 300 / 200-byte signature, `exInterest`
    signed with parameters) meet the hypotheses -/

set_option maxRecDepth 100000 in
example : exData.Valid ∧ exData.est > 0 ∧ ∃ e, makeData exData exSign = .ok e :=
  ⟨exData_valid, by decide, exData_made.imp fun _ h => h.1⟩
example : exInterest.Valid ∧ exInterest.ap.isSome ∧ exInterest.est > 0
    ∧ ∃ e fn, makeInterest exInterest exSign32 exHash = .ok (e, fn) :=
  have ⟨e, fn, h, _⟩ := exInterest_made
  ⟨exInterest_valid, rfl, by decide, e, fn, h⟩
/-- the A-crypto hypotheses are satisfiable (each theorem uses only ONE of them: `Correct` for
    acceptance of the untampered packet, `ExactOn m` — during the run nothing but the pair produced
    for the one signed message `m` verifies — for rejection of tampered ones) -/
example : ∃ sch : Scheme, sch.Correct := ⟨⟨fun m => m, fun m v => m == v⟩, by intro m; simp⟩
example : ∃ sch : Scheme, sch.ExactOn [1, 2, 3] :=
  ⟨⟨fun m => m, fun m v => m == [1, 2, 3] && v == [1, 2, 3]⟩, by
    intro m v h
    simp at h
    exact ⟨h.1, h.2⟩⟩

end Ndn.C12
