/-
  C12/Steps.lean — what a SUCCESSFUL step of the parser model says about ARBITRARY input, over any healthy
  reader: the reader operations, `ReadTLNum` (`rdTL`), name fields, the generic TLV loop and the `progress`
  loop of the ordered models (one invariant theorem, `ordParse_inv`, for Data and Interest alike); and the list facts behind every tamper
  theorem.
-/
import NdnVerif.C03.LemmasLiftRd
namespace Ndn.C12
open Ndn.C03

theorem getElem?_eq_of_getD {b b' : Bytes} {j : Nat} (hl : b'.length = b.length) (h : b'.getD j 0 = b.getD j 0) :
    b'[j]? = b[j]? := by
  rcases Nat.lt_or_ge j b.length with h1 | h1
  · simpa [List.getD_eq_getElem?_getD, List.getElem?_eq_getElem h1, List.getElem?_eq_getElem (hl ▸ h1)] using h
  · rw [List.getElem?_eq_none h1, List.getElem?_eq_none (hl ▸ h1)]

theorem splice_mid (A M C b' : Bytes) (k : Nat) (hl : b'.length = (A ++ M ++ C).length)
    (hk : b'.getD k 0 ≠ (A ++ M ++ C).getD k 0)
    (hsame : ∀ j, j ≠ k → b'.getD j 0 = (A ++ M ++ C).getD j 0)
    (h1 : A.length ≤ k) (h2 : k < A.length + M.length) :
    ∃ M', b' = A ++ M' ++ C ∧ M'.length = M.length ∧ M' ≠ M := by
  have hl' : b'.length = A.length + M.length + C.length := by rw [hl]; simp only [List.length_append]
  have eA : b'.take A.length = A := by
    apply List.ext_getElem?
    intro i
    rw [List.getElem?_take]
    split
    · rw [getElem?_eq_of_getD hl (hsame i (by omega)), List.append_assoc, List.getElem?_append_left ‹_›]
    · rw [List.getElem?_eq_none (by omega)]
  have eC : b'.drop (A.length + M.length) = C := by
    apply List.ext_getElem?
    intro i
    rw [List.getElem?_drop, getElem?_eq_of_getD hl (hsame _ (by omega)), List.getElem?_append_right (by simp)]
    simp
  obtain ⟨M', hM'⟩ : ∃ M', M' = (b'.drop A.length).take M.length := ⟨_, rfl⟩
  have hb' : b' = A ++ M' ++ C := by
    rw [List.append_assoc, hM', ← eC, ← List.drop_drop, List.take_append_drop]
    conv => rhs; arg 1; rw [← eA]
    exact (List.take_append_drop _ _).symm
  refine ⟨M', hb', by rw [hM', List.length_take_of_le (by rw [List.length_drop]; omega)], fun hM => hk ?_⟩
  rw [hb', hM]

/-- `w` is the `t`-TLV of value `V = A ++ M ++ C`, and `b'` differs from `w` in one byte, inside `M` (offsets counted
    from the front): `b'` is the same TLV with `M` replaced by another `M'` of its length, so the TL header still
    announces the right length -/
theorem flip_front {t : Nat} {w V A M C b' : Bytes} {k : Nat} (ht : t ≤ 0xfc)
    (hw : w = encTL t ++ encTL V.length ++ V) (hV : V = A ++ M ++ C)
    (hlen : b'.length = w.length) (hk : b'.getD k 0 ≠ w.getD k 0) (hsame : ∀ j, j ≠ k → b'.getD j 0 = w.getD j 0)
    (h1 : 1 + tlLen V.length + A.length ≤ k) (h2 : k < 1 + tlLen V.length + A.length + M.length) :
    ∃ M', M'.length = M.length ∧ M' ≠ M ∧ (A ++ M' ++ C).length = V.length
      ∧ b' = encTL t ++ encTL (A ++ M' ++ C).length ++ (A ++ M' ++ C) := by
  have e : w = (encTL t ++ encTL V.length ++ A) ++ M ++ C := by rw [hw]; simp only [hV, List.append_assoc]
  have hA : (encTL t ++ encTL V.length ++ A).length = 1 + tlLen V.length + A.length := by
    rw [List.length_append, List.length_append, encTL_length, encTL_length, tlLen_small ht]
  rw [e] at hlen hk hsame
  obtain ⟨M', hb', hM'l, hM'ne⟩ := splice_mid _ M C b' k hlen hk hsame (by rw [hA]; exact h1) (by rw [hA]; exact h2)
  have hVl : (A ++ M' ++ C).length = V.length := by rw [hV]; simp only [List.length_append, hM'l]
  refine ⟨M', hM'l, hM'ne, hVl, ?_⟩
  rw [hb', hVl]
  simp only [List.append_assoc]

/-- the same with `M` at the end of the value and the offsets counted from the end of `w` -/
theorem flip_back {t : Nat} {w V A M b' : Bytes} {k : Nat} (ht : t ≤ 0xfc)
    (hw : w = encTL t ++ encTL V.length ++ V) (hV : V = A ++ M)
    (hlen : b'.length = w.length) (hk : b'.getD k 0 ≠ w.getD k 0) (hsame : ∀ j, j ≠ k → b'.getD j 0 = w.getD j 0)
    (h1 : w.length - M.length ≤ k) (h2 : k < w.length) :
    ∃ M', M'.length = M.length ∧ M' ≠ M ∧ (A ++ M').length = V.length
      ∧ b' = encTL t ++ encTL (A ++ M').length ++ (A ++ M') := by
  have hwl : w.length = 1 + tlLen V.length + A.length + M.length := by
    rw [hw, List.length_append, List.length_append, encTL_length, encTL_length, tlLen_small ht, hV, List.length_append]
    omega
  obtain ⟨M', g1, g2, g3, g4⟩ := flip_front (C := []) ht hw (hV.trans (List.append_nil _).symm) hlen hk hsame
    (by omega) (by omega)
  rw [List.append_nil] at g3 g4
  exact ⟨M', g1, g2, g3, g4⟩

theorem mem_mid {A T C : Bytes} {i j z : Nat} (h : i + j ≤ T.length)
    (hz : z ∈ ((A ++ T ++ C).drop (A.length + i)).take j) : z ∈ T := by
  rw [List.append_assoc, ← List.drop_drop, List.drop_left, List.drop_append_of_le_length (by omega),
    List.take_append_of_le_length (by rw [List.length_drop]; omega)] at hz
  exact List.mem_of_mem_drop (List.mem_of_mem_take hz)

theorem eq_of_take_append {M M' Z : Bytes} {n : Nat} (hl : M'.length = M.length) (h : (M' ++ Z).take n = M) :
    M' = M :=
  -- two prefixes of `M' ++ Z` of the same length
  (List.prefix_of_prefix_length_le (List.prefix_append M' Z) (h ▸ List.take_prefix n _) (Nat.le_of_eq hl)).eq_of_length
    hl

/-- `A.length` bytes of `A ++ H ++ S` from `s0` on, and `S.length` bytes that start `h ≥ H.length` bytes behind them:
    there is no room for `s0 > 0` or `h > H.length`, so the former are `A` and the latter are `S` -/
theorem range_pinned {A H S : Bytes} {s0 h n : Nat} (hh : H.length ≤ h) (hn : S.length = n)
    (hle : A.length + s0 + h + n ≤ (A ++ H ++ S).length) :
    ((A ++ H ++ S).drop s0).take (A.length + s0 - s0) = A ∧ ((A ++ H ++ S).drop (A.length + s0 + h)).take n = S := by
  subst hn
  simp only [List.length_append] at hle
  obtain rfl : s0 = 0 := by omega
  obtain rfl : h = H.length := by omega
  constructor
  · rw [List.drop_zero, List.append_assoc, Nat.add_sub_cancel, List.take_left' rfl]
  · rw [Nat.add_zero, ← List.length_append, List.drop_left, List.take_length]

theorem ok_or_fails {α : Type} (x : Res α) : (∀ a, x ≠ .ok a) ∨ ∃ a, x = .ok a := by
  cases x with
  | ok a => exact Or.inr ⟨a, rfl⟩
  | _ => exact Or.inl (fun _ h => nomatch h)

theorem bind_of_ok {α β : Type} {x : Res α} {f : α → Res β} {b : β} (h : (x >>= f) = .ok b) :
    ∃ a, x = .ok a ∧ f a = .ok b := by
  cases x with
  | ok a => exact ⟨a, rfl, h⟩
  | _ => cases h

theorem rdTL_some {b : Bytes} {x k : Nat} (h : rdTL b = some (x, k)) :
    ∃ y rest, b = y :: rest ∧ ((y ≤ 0xfc ∧ x = y ∧ k = 1)
      ∨ (¬ y ≤ 0xfc ∧ tlExtra y ≤ rest.length ∧ x = accBytes 0 (rest.take (tlExtra y)) ∧ k = 1 + tlExtra y)) := by
  cases b with
  | nil => cases h
  | cons y rest =>
    refine ⟨y, rest, rfl, ?_⟩
    simp only [rdTL] at h
    split at h
    · cases h; exact Or.inl ⟨‹_›, rfl, rfl⟩
    · split at h
      · cases h
      · cases h; exact Or.inr ⟨‹_›, by omega, rfl, rfl⟩

theorem rdTL_consumed {b : Bytes} {x k : Nat} (h : rdTL b = some (x, k)) : 0 < k ∧ k ≤ b.length ∧ k ≤ 9 := by
  obtain ⟨y, rest, rfl, ⟨_, _, rfl⟩ | ⟨hy, hr, _, rfl⟩⟩ := rdTL_some h
  · simp
  · have := tlExtra_of_gt hy
    simp only [List.length_cons]; omega

/-- up to eight well-formed bytes do not overflow the uint64 accumulator -/
theorem accBytes_eq_beDec (bs : Bytes) (hwf : Bytes.WF bs) (hl : bs.length ≤ 8) : accBytes 0 bs = beDec bs := by
  rw [accBytes_eq 0 _ (by decide), Nat.zero_mul, Nat.zero_add]
  exact Nat.mod_eq_of_lt (Nat.lt_of_lt_of_le (beDec_lt bs hwf) (Nat.pow_le_pow_right (by decide) hl))

theorem rdTL_extra_beDec {y : Nat} {rest : Bytes} (hy : ¬ y ≤ 0xfc) (hr : tlExtra y ≤ rest.length)
    (hwf : Bytes.WF ((y :: rest).take (1 + tlExtra y))) :
    accBytes 0 (rest.take (tlExtra y)) = beDec (rest.take (tlExtra y)) ∧ beDec (rest.take (tlExtra y)) < 256 ^ tlExtra y := by
  have hc := tlExtra_of_gt hy
  have hlen : (rest.take (tlExtra y)).length = tlExtra y := by rw [List.length_take]; omega
  rw [Nat.add_comm, List.take_succ_cons] at hwf
  have hwf' : Bytes.WF (rest.take (tlExtra y)) := fun z hz => hwf z (List.mem_cons_of_mem _ hz)
  have hlt := beDec_lt _ hwf'
  rw [hlen] at hlt
  exact ⟨accBytes_eq_beDec _ hwf' (by omega), hlt⟩

theorem tlLen_le_rdTL {b : Bytes} {x k : Nat} (h : rdTL b = some (x, k)) (hwf : Bytes.WF (b.take k)) : tlLen x ≤ k := by
  obtain ⟨y, rest, rfl, ⟨hy, rfl, rfl⟩ | ⟨hy, hr, rfl, rfl⟩⟩ := rdTL_some h
  · rw [tlLen_small hy]; exact Nat.le_refl _
  · obtain ⟨e1, e2⟩ := rdTL_extra_beDec hy hr hwf
    rw [e1]
    -- `x < 256 ^ e` with `e` extra bytes: compare with the largest such number
    rcases tlExtra_of_gt hy with hc | hc | hc <;> rw [hc] at e2 ⊢
    · exact Nat.le_trans (tlLen_mono (by omega : _ ≤ 0xffff)) (by decide)
    · exact Nat.le_trans (tlLen_mono (by omega : _ ≤ 0xffffffff)) (by decide)
    · exact tlLen_le9 _

theorem rdTL_decTL {b : Bytes} {x k : Nat} (h : rdTL b = some (x, k)) (hwf : Bytes.WF (b.take k)) :
    decTL b = some (x, b.drop k) := by
  obtain ⟨y, rest, rfl, ⟨hy, rfl, rfl⟩ | ⟨hy, hr, rfl, rfl⟩⟩ := rdTL_some h
  · simp [decTL, hy]
  · rw [(rdTL_extra_beDec hy hr hwf).1, Nat.add_comm 1]
    simp only [decTL, if_neg hy, if_neg (Nat.not_lt.2 hr), List.drop_succ_cons]

/-- the reader fact the invariants below take as a hypothesis beside `ReaderSpecs`: `Delegate` with a length that
    runs past the end of the buffer still returns a healthy parent, not before its old position.  (Both readers leave
    the parent where it was: this is the part of `ReaderSpecsX.delegate_oob` that they need; `Skip` on a parked reader,
    which `ReaderSpecs` does not state either, is taken from `readerSpecsX` itself in `skip_of_ok`.) -/
structure ReaderSpecs2 : Prop where
  delegate_oob : ∀ (r : Rd) (buf : Bytes) (p l : Nat) (sub r' : Rd), At r buf p → p + l > buf.length →
    r.delegate l = .ok (sub, r') → ∃ p', p ≤ p' ∧ At r' buf p'

theorem read_of_ok {op : Rd → Nat → Res (Bytes × Rd)}
    (ok : ∀ r buf p l, At r buf p → p + l ≤ buf.length → ∃ r', op r l = .ok ((buf.drop p).take l, r') ∧ At r' buf (p + l))
    (err : ∀ r buf p l, At r buf p → p + l > buf.length → op r l = .err)
    {r r' : Rd} {buf : Bytes} {p l : Nat} {x : Bytes} (h : At r buf p) (e : op r l = .ok (x, r')) :
    p + l ≤ buf.length ∧ x = (buf.drop p).take l ∧ At r' buf (p + l) := by
  rcases Nat.lt_or_ge buf.length (p + l) with hp | hp
  · rw [err r buf p l h hp] at e; cases e
  · obtain ⟨r1, e1, a1⟩ := ok r buf p l h hp
    rw [e1] at e
    cases e
    exact ⟨hp, rfl, a1⟩

/-- `ReaderSpecs.skip_ok` asks that the reader be `Live`; `readerSpecsX` has `Skip` on a parked reader as well -/
theorem skip_of_ok (r r' : Rd) (buf : Bytes) (p n : Nat) (h : At r buf p) (e : r.skip n = .ok r') :
    p + n ≤ buf.length ∧ At r' buf (p + n) := by
  rcases Nat.lt_or_ge buf.length (p + n) with hp | hp
  · rw [readerSpecsX.skip_err r buf p n h hp] at e; cases e
  · obtain ⟨r1, e1, a1⟩ := readerSpecsX.skip_ok r buf p n h hp
    rw [e1] at e
    cases e
    exact ⟨hp, a1⟩

section
variable (R : ReaderSpecs)
include R

theorem readByte_of_ok (r r' : Rd) (buf : Bytes) (p x : Nat) (h : At r buf p) (e : r.readByte = .ok (x, r')) :
    p < buf.length ∧ x = buf.getD p 0 ∧ At r' buf (p + 1) := by
  rcases Nat.lt_or_ge p buf.length with hp | hp
  · obtain ⟨r1, e1, a1, _⟩ := R.readByte_ok r buf p h hp
    rw [e1] at e
    cases e
    exact ⟨hp, rfl, a1⟩
  · rw [R.readByte_eof r buf p h hp] at e; cases e

theorem readFull_gen (r r' : Rd) (buf : Bytes) (p l : Nat) (x : Bytes) (h : At r buf p) (e : r.readFull l = .ok (x, r')) :
    p + l ≤ buf.length ∧ x = (buf.drop p).take l ∧ At r' buf (p + l) :=
  read_of_ok R.readFull_ok R.readFull_err h e

theorem readTL_of_ok (r r' : Rd) (buf : Bytes) (p x : Nat) (h : At r buf p) (e : readTL r = .ok (x, r')) :
    ∃ k, rdTL (buf.drop p) = some (x, k) ∧ At r' buf (p + k) := by
  rcases readTL_spec R r buf p h with ⟨_, e1⟩ | ⟨x1, k, r1, hk, e1, a1⟩ <;> rw [e1] at e <;> cases e
  exact ⟨k, hk, a1⟩

omit R in
theorem nameLoop_stop {r r' : Rd} {buf : Bytes} {p en : Nat} {acc n : Name} {s s' : Nat} (h : At r buf p)
    (e : (if p ≠ en then Res.err else .ok (acc, s, r)) = .ok (n, s', r')) :
    p ≤ en ∧ At r' buf en ∧ (s' = s ∨ (p ≤ s' ∧ s' < en)) := by
  split at e
  · cases e
  · cases e
    obtain rfl : p = en := by omega
    exact ⟨Nat.le_refl _, h, Or.inl rfl⟩

/-- a successful name-component loop ends exactly at `en`; the reported start of the last
    ParametersSha256Digest component is the initial value or a component start inside the field -/
theorem nameLoop_end : ∀ (fuel : Nat) (r r' : Rd) (buf : Bytes) (p en : Nat) (acc n : Name) (s s' : Nat),
    At r buf p → nameLoop fuel r en acc s = .ok (n, s', r') →
    p ≤ en ∧ At r' buf en ∧ (s' = s ∨ (p ≤ s' ∧ s' < en)) := by
  intro fuel
  induction fuel with
  | zero =>
    intro r r' buf p en acc n s s' h e
    simp only [nameLoop, R.pos_eq r buf p h] at e
    exact nameLoop_stop h e
  | succ fuel ih =>
    intro r r' buf p en acc n s s' h e
    simp only [nameLoop, R.pos_eq r buf p h] at e
    split at e
    · exact nameLoop_stop h e
    · obtain ⟨⟨t, r1⟩, e1, e2⟩ := bind_of_ok e
      obtain ⟨k1, _, a1⟩ := readTL_of_ok R r r1 buf p t h e1
      obtain ⟨⟨l, r2⟩, e3, e4⟩ := bind_of_ok e2
      obtain ⟨k2, _, a2⟩ := readTL_of_ok R r1 r2 buf _ l a1 e3
      obtain ⟨⟨v, r3⟩, e5, e6⟩ := bind_of_ok e4
      obtain ⟨_, _, a3⟩ := read_of_ok R.readBuf_ok R.readBuf_err a2 e5
      -- the loop goes on with `if t = 2 then p else s` for `s`: a digest component moves the mark to its start `p`
      obtain ⟨_, a4, hs⟩ := ih r3 r' buf _ en _ n _ s' a3 e6
      refine ⟨by omega, a4, ?_⟩
      split at hs
      · exact Or.inr ⟨by omega, by omega⟩
      · rcases hs with hs | hs
        · exact Or.inl hs
        · exact Or.inr ⟨by omega, hs.2⟩

theorem readNameField_end {r r' : Rd} {buf : Bytes} {p l : Nat} {n : Name} {s' : Nat} (h : At r buf p)
    (e : readNameField r l = .ok (n, s', r')) : At r' buf (p + l) ∧ p ≤ s' ∧ s' ≤ p + l := by
  obtain ⟨_, _, e2⟩ := bind_of_ok e
  simp only [R.pos_eq r buf p h] at e2
  obtain ⟨_, a, hs⟩ := nameLoop_end R _ r r' buf p _ _ n _ s' h e2
  exact ⟨a, by omega, by omega⟩

theorem readNat_of_ok {r r' : Rd} {buf : Bytes} {p l w x : Nat} (h : At r buf p)
    (e : readNat r l w = .ok (x, r')) : ∃ p', p ≤ p' ∧ At r' buf p' := by
  simp only [readNat] at e
  split at e
  · -- negative `int(l)`: zero iterations, reader unchanged
    cases e
    exact ⟨p, Nat.le_refl _, h⟩
  · split at e
    · cases e
    · obtain ⟨⟨v, r1⟩, e1, e2⟩ := bind_of_ok e
      cases e2
      rcases readBytesAcc_spec R l r buf p 0 h with ⟨_, r2, e3, a⟩ | ⟨_, e3⟩ <;> rw [e3] at e1 <;> cases e1
      exact ⟨p + l, Nat.le_add_right .., a⟩

theorem delegate_then (R2 : ReaderSpecs2) {α σ : Type} {f : Rd → Res α} {g : α → σ} {r r' : Rd} {buf : Bytes} {p l : Nat}
    {st' : σ} (h : At r buf p) (e : (r.delegate l >>= fun x => f x.1 >>= fun a => pure (g a, x.2)) = .ok (st', r')) :
    (∃ p', p ≤ p' ∧ At r' buf p') ∧ ∃ a, st' = g a := by
  obtain ⟨⟨sub, r1⟩, e1, e2⟩ := bind_of_ok e
  obtain ⟨a, _, e3⟩ := bind_of_ok e2
  cases e3
  refine ⟨?_, a, rfl⟩
  rcases Nat.lt_or_ge buf.length (p + l) with hp | hp
  · exact R2.delegate_oob r buf p l sub _ h hp e1
  · obtain ⟨s1, r2, e4, _, a1⟩ := R.delegate_ok r buf p l h hp
    rw [e4] at e1
    cases e1
    exact ⟨p + l, by omega, a1⟩

theorem readWire_then {σ : Type} {g : Bytes × Rd → σ} {r r' : Rd} {buf : Bytes} {p l : Nat} {st' : σ} (h : At r buf p)
    (e : (r.readWire l >>= fun x => pure (g x, x.2)) = .ok (st', r')) :
    (∃ p', p ≤ p' ∧ At r' buf p') ∧ ∃ c, st' = g (c, r') := by
  obtain ⟨⟨c, r1⟩, e1, e2⟩ := bind_of_ok e
  cases e2
  exact ⟨⟨p + l, by omega, (read_of_ok R.readWire_ok R.readWire_err h e1).2.2⟩, c, rfl⟩

end

/-- What an invariant `I st q x` of an ordered model (`st` the context, `q` = progress + 1, `x` the start of
    the current / next element) owes for the element of type `typ` and length `l` that starts at `sp` and has
    its value at `p`: one field per way out of the `progress` loop (the absent-actions are a hypothesis of
    their own in `ordParse_inv`, they also run at the end of `Parse`). -/
structure OrdStep {σ : Type} (V : Bytes) (n : Nat) (idx : Nat → Option Nat)
    (handle : Nat → σ → Nat → Nat → Rd → Res (σ × Rd)) (I : σ → Nat → Nat → Prop) (typ l sp p : Nat) : Prop where
  /-- `progress` exhausted: the element is ignored, its value not skipped -/
  exit : ∀ st q, n < q → I st q sp → I st q p
  /-- a known type in its turn: its handler consumes the value and `progress` moves on -/
  handle : ∀ k st r st' r', idx typ = some k → At r V p → I st k sp →
    handle k st l sp r = .ok (st', r') → ∃ p', At r' V p' ∧ I st' (k + 1) p'
  /-- unknown non-critical type: value skipped, no slot consumed -/
  skip : idx typ = none → ∀ st q, I st q sp → I st q (p + l)

section
variable (R : ReaderSpecs) {σ : Type} {V : Bytes} {n : Nat} {idx : Nat → Option Nat}
  {handle : Nat → σ → Nat → Nat → Rd → Res (σ × Rd)} {absent : Nat → σ → Nat → Rd → σ} {I : σ → Nat → Nat → Prop}
  (Habs : ∀ st q r p x, At r V p → x ≤ V.length → I st q x → I (absent q st x r) (q + 1) x)
include Habs

theorem ordLoop_inv {typ l sp p : Nat} (hsp : sp ≤ p) (H : OrdStep V n idx handle I typ l sp p) :
    ∀ (fuel q : Nat) (st : σ) (r : Rd), n < q + fuel → At r V p → I st q sp →
      ∀ (st' : σ) (q' : Nat) (r' : Rd), ordLoop n idx handle absent typ l sp fuel q st r = .ok ((st', q'), r') →
        ∃ p', At r' V p' ∧ I st' q' p' := by
  intro fuel
  induction fuel with
  | zero =>
    intro q st r hf ha hi st' q' r' e
    cases e
    exact ⟨p, ha, H.exit st q hf hi⟩
  | succ fuel ih =>
    intro q st r hf ha hi st' q' r' e
    simp only [ordLoop] at e
    split at e
    · cases e
      exact ⟨p, ha, H.exit st q ‹_› hi⟩
    · split at e
      · rename_i k hidx
        split at e
        · subst q
          obtain ⟨⟨st1, r1⟩, e1, e2⟩ := bind_of_ok e
          cases e2
          exact H.handle k st r _ _ hidx ha hi e1
        · exact ih (q + 1) _ r (by omega) ha (Habs st q r p sp ha (by have := ha.2.2; omega) hi) st' q' r' e
      · rename_i hidx
        split at e
        · cases e
        · obtain ⟨r1, e1, e2⟩ := bind_of_ok e
          cases e2
          exact ⟨p + l, (skip_of_ok r _ V p l ha e1).2, H.skip hidx st q hi⟩

include R

theorem ordFinish_inv {r : Rd} {p : Nat} (ha : At r V p) : ∀ (c q : Nat) (st : σ), I st q p →
    I (ordFinish absent r c q st) (q + c) p := by
  intro c
  induction c with
  | zero => intro q st h; exact h
  | succ c ih =>
    intro q st h
    rw [ordFinish, R.pos_eq r V p ha, show q + (c + 1) = q + 1 + c by omega]
    exact ih (q + 1) _ (Habs st q r p p ha ha.2.2 h)

/-- `Parse` of an ordered model: the element loop, then (`ordEnd`) the absent-actions of the slots never reached.
    An invariant that every way through the `progress` loop preserves holds of the context returned.  (`F` is the
    literal fuel of the model's body, 9 in `dataBody`, 17 in `interestBody`; `N` the slot count `Parse` finishes to,
    7 / 15.) -/
theorem ordParse_inv {F N : Nat} (hF : n < F)
    (H : ∀ typ l sp h1 h2, rdTL (V.drop sp) = some (typ, h1) → rdTL (V.drop (sp + h1)) = some (l, h2) →
      OrdStep V n idx handle I typ l sp (sp + h1 + h2)) :
    ∀ (fuel : Nat) (st : σ) (q : Nat) (r : Rd) (p : Nat), At r V p → I st q p → ∀ (s : σ),
      (tlvLoop (fun s typ l sp r => ordLoop n idx handle absent typ l sp F s.2 s.1 r) fuel (st, q) r
        >>= ordEnd absent N) = .ok s →
      ∃ q' p', p' ≤ V.length ∧ I s q' p' := by
  intro fuel
  induction fuel with
  | zero => intro st q r p _ _ s e; cases e
  | succ fuel ih =>
    intro st q r p ha hi s e
    simp only [tlvLoop, R.pos_eq r V p ha, R.length_eq r V p ha] at e
    split at e
    · cases e
      exact ⟨_, p, ha.2.2, ordFinish_inv R Habs ha _ q st hi⟩
    · obtain ⟨x, e0, e7⟩ := bind_of_ok e
      obtain ⟨⟨typ, r1⟩, e1, e2⟩ := bind_of_ok e0
      obtain ⟨h1, ht, a1⟩ := readTL_of_ok R r r1 V p typ ha e1
      obtain ⟨⟨l, r2⟩, e3, e4⟩ := bind_of_ok e2
      obtain ⟨h2, hl, a2⟩ := readTL_of_ok R r1 r2 V _ l a1 e3
      obtain ⟨⟨⟨st1, q1⟩, r3⟩, e5, e6⟩ := bind_of_ok e4
      obtain ⟨p3, a3, i3⟩ := ordLoop_inv Habs (by omega) (H typ l p h1 h2 ht hl) F q st r2 (by omega) a2 hi st1 q1 r3 e5
      exact ih st1 q1 r3 p3 a3 i3 s (by rw [e6]; exact e7)

end

end Ndn.C12
