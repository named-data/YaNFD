/-
  C12/TamperData.lean — positional tamper detection for Data packets over the parser model: the invariant
  `SigInv` of the ordered Data loop on ARBITRARY input (`parseData_cov`), and `bitflip_detected_data`.
-/
import NdnVerif.C12.Steps
import NdnVerif.C03.LemmasData
namespace Ndn.C12
open Ndn.C03

theorem dataHandle_name (s : DataSt) (l sp : Nat) (r : Rd) : dataHandle 2 s l sp r =
    (readNameField r l >>= fun x => pure ({ s with v := { s.v with name := some x.1 } }, x.2.2)) := rfl

theorem dataHandle_meta (s : DataSt) (l sp : Nat) (r : Rd) : dataHandle 3 s l sp r =
    (r.delegate l >>= fun x => parseMeta x.1 >>= fun m => pure ({ s with v := { s.v with mi := some m } }, x.2)) := rfl

theorem dataHandle_content (s : DataSt) (l sp : Nat) (r : Rd) : dataHandle 4 s l sp r =
    (r.readWire l >>= fun x => pure ({ s with v := { s.v with content := some x.1 } }, x.2)) := rfl

theorem dataHandle_sigInfo (s : DataSt) (l sp : Nat) (r : Rd) : dataHandle 5 s l sp r =
    (r.delegate l >>= fun x => parseSigInfo x.1 >>= fun si => pure ({ s with v := { s.v with si := some si } }, x.2)) := rfl

theorem dataHandle_sigValue (s : DataSt) (l sp : Nat) (r : Rd) : dataHandle 6 s l sp r =
    (r.readWire l >>= fun x => pure ({ s with
      v := { s.v with sv := some x.1 }, sigCovered := s.sigCovered ++ x.2.range s.sigCoverStart sp }, x.2)) := rfl

theorem dataIdx_some {t k : Nat} (h : dataIdx t = some k) :
    (k = 2 ∨ k = 3 ∨ k = 4 ∨ k = 5) ∨ (k = 6 ∧ t = 23) := by
  unfold dataIdx at h
  by_cases h7 : t = 7
  · rw [if_pos h7] at h; cases h; exact Or.inl (Or.inl rfl)
  rw [if_neg h7] at h
  by_cases h20 : t = 20
  · rw [if_pos h20] at h; cases h; exact Or.inl (Or.inr (Or.inl rfl))
  rw [if_neg h20] at h
  by_cases h21 : t = 21
  · rw [if_pos h21] at h; cases h; exact Or.inl (Or.inr (Or.inr (Or.inl rfl)))
  rw [if_neg h21] at h
  by_cases h22 : t = 22
  · rw [if_pos h22] at h; cases h; exact Or.inl (Or.inr (Or.inr (Or.inr rfl)))
  rw [if_neg h22] at h
  by_cases h23 : t = 23
  · rw [if_pos h23] at h; cases h; exact Or.inr ⟨rfl, h23⟩
  rw [if_neg h23] at h
  cases h

/-- slots 2–5 (Name, MetaInfo, Content, SignatureInfo) leave the signature bookkeeping alone -/
theorem dataHandle_other (R : ReaderSpecs) (R2 : ReaderSpecs2) {k : Nat} (hk : k = 2 ∨ k = 3 ∨ k = 4 ∨ k = 5)
    {st st' : DataSt} {l sp : Nat} {r r' : Rd} {V : Bytes} {p : Nat} (h : At r V p)
    (e : dataHandle k st l sp r = .ok (st', r')) :
    (∃ p', p ≤ p' ∧ At r' V p') ∧ ∃ v', st' = { st with v := v' } ∧ v'.sv = st.v.sv := by
  rcases hk with rfl | rfl | rfl | rfl
  · rw [dataHandle_name] at e
    obtain ⟨⟨n, s1, r1⟩, e1, e2⟩ := bind_of_ok e
    cases e2
    exact ⟨⟨p + l, by omega, (readNameField_end R h e1).1⟩, _, rfl, rfl⟩
  · rw [dataHandle_meta] at e
    obtain ⟨hp, m, rfl⟩ := delegate_then R R2 h e
    exact ⟨hp, _, rfl, rfl⟩
  · rw [dataHandle_content] at e
    obtain ⟨hp, c, rfl⟩ := readWire_then R h e
    exact ⟨hp, _, rfl, rfl⟩
  · rw [dataHandle_sigInfo] at e
    obtain ⟨hp, si, rfl⟩ := delegate_then R R2 h e
    exact ⟨hp, _, rfl, rfl⟩

def SigValueAt (V : Bytes) (st : DataSt) : Prop :=
  ∀ sv, st.v.sv = some sv → ∃ e h1 h2, st.sigCoverStart ≤ e ∧ e + h1 + h2 + sv.length ≤ V.length
    ∧ rdTL (V.drop e) = some (23, h1) ∧ rdTL (V.drop (e + h1)) = some (sv.length, h2)
    ∧ st.sigCovered = (V.drop st.sigCoverStart).take (e - st.sigCoverStart)
    ∧ sv = (V.drop (e + h1 + h2)).take sv.length

theorem SigValueAt_of_none {V : Bytes} {st : DataSt} (h : st.v.sv = none) : SigValueAt V st :=
  fun _ hsv => nomatch h.symm.trans hsv

def KnownHead (V : Bytes) : Prop := V.headD 0 ∈ [7, 20, 21, 22, 23]

/-- loop invariant: `q` = progress + 1, `x` = start position of the current / next element.  The last clause
    only serves the last conjunct of `parseData_cov` (start marker 0 for a value with a known first type); the
    tamper theorems cannot use it, the altered first byte being arbitrary, and argue by minimal length instead. -/
structure SigInv (V : Bytes) (st : DataSt) (q x : Nat) : Prop where
  start_le : st.sigCoverStart ≤ x
  /-- nothing is collected and no value stored before slot 6 was handled -/
  unset : q ≤ 6 → st.sigCovered = [] ∧ st.v.sv = none
  sigValue : SigValueAt V st
  known : KnownHead V → st.sigCoverStart = 0 ∧ (q ≤ 1 → x = 0)

theorem knownHead_idx {V : Bytes} {t h1 : Nat} (hk : KnownHead V) (h : rdTL (V.drop 0) = some (t, h1)) :
    dataIdx t ≠ none := by
  obtain ⟨y, rest, rfl, ⟨_, rfl, _⟩ | ⟨hy, _⟩⟩ := rdTL_some h
  · simp only [KnownHead, List.headD_cons, List.mem_cons, List.not_mem_nil, or_false] at hk
    rcases hk with rfl | rfl | rfl | rfl | rfl <;> decide
  · simp only [KnownHead, List.headD_cons, List.mem_cons, List.not_mem_nil, or_false] at hk
    omega

/-- only slot 1 does something: it sets the start marker -/
theorem SigInv_absent {V : Bytes} (st : DataSt) (q : Nat) (r : Rd) (p x : Nat) (_ : At r V p) (_ : x ≤ V.length)
    (hj : SigInv V st q x) : SigInv V (dataAbsent q st x r) (q + 1) x := by
  obtain ⟨hstart, hunset, hval, hknown⟩ := hj
  unfold dataAbsent
  split
  · subst q
    obtain ⟨jc, jsv⟩ := hunset (by omega)
    exact ⟨Nat.le_refl _, fun _ => ⟨jc, jsv⟩, SigValueAt_of_none jsv,
      fun hk => ⟨(hknown hk).2 (Nat.le_refl _), fun h => (hknown hk).2 (Nat.le_of_succ_le h)⟩⟩
  · exact ⟨hstart, fun h => hunset (by omega), hval, fun hk => ⟨(hknown hk).1, fun h => (hknown hk).2 (Nat.le_of_succ_le h)⟩⟩

theorem SigInv_step (R : ReaderSpecs) (R2 : ReaderSpecs2) {V : Bytes} {typ l sp h1 h2 : Nat}
    (ht : rdTL (V.drop sp) = some (typ, h1)) (hl : rdTL (V.drop (sp + h1)) = some (l, h2)) :
    OrdStep V 7 dataIdx dataHandle (SigInv V) typ l sp (sp + h1 + h2) where
  exit := by
    intro st q hq ⟨hstart, hunset, hval, hknown⟩
    exact ⟨by omega, fun h => by omega, hval, fun hk => ⟨(hknown hk).1, fun h => by omega⟩⟩
  skip := by
    intro hidx st q ⟨hstart, hunset, hval, hknown⟩
    refine ⟨by omega, hunset, hval, fun hk => ⟨(hknown hk).1, fun hq1 => ?_⟩⟩
    -- the first element of a value with a known head is not skipped
    obtain rfl := (hknown hk).2 hq1
    exact absurd hidx (knownHead_idx hk ht)
  handle := by
    intro k st r st' r' hidx ha ⟨hstart, hunset, hval, hknown⟩ e
    rcases dataIdx_some hidx with hk | ⟨rfl, rfl⟩
    · obtain ⟨⟨p', hp', a1⟩, v', rfl, hsv⟩ := dataHandle_other R R2 hk ha e
      obtain ⟨jc, jsv⟩ := hunset (by omega)
      exact ⟨p', a1, Nat.le_trans hstart (by omega), fun _ => ⟨jc, hsv.trans jsv⟩,
        SigValueAt_of_none (hsv.trans jsv),
        fun hk' => ⟨(hknown hk').1, fun h => by omega⟩⟩
    · -- SignatureValue: the signed portion is reported as `Range(sigCoverStart, sp)`
      rw [dataHandle_sigValue] at e
      obtain ⟨⟨c, r2⟩, e1, e2⟩ := bind_of_ok e
      cases e2
      obtain ⟨jc, jsv⟩ := hunset (Nat.le_refl _)
      obtain ⟨hle, hc, a1⟩ := read_of_ok R.readWire_ok R.readWire_err ha e1
      have hcl : c.length = l := by rw [hc, List.length_take_of_le (List.length_drop ▸ Nat.le_sub_of_add_le' hle)]
      refine ⟨_, a1, Nat.le_trans hstart (by omega), fun h => by omega, ?_,
        fun hk => ⟨(hknown hk).1, fun h => by omega⟩⟩
      intro sv hsv
      obtain rfl : c = sv := Option.some.inj hsv
      refine ⟨sp, h1, h2, hstart, by omega, ht, hcl ▸ hl, ?_, by rw [hcl]; exact hc⟩
      show st.sigCovered ++ _ = _
      rw [jc, List.nil_append, R.range_eq _ V _ _ sp a1 hstart (by omega)]

/-- ALL-INPUT invariant of the Data parser: whenever parsing a Data value `V` (fresh context) succeeds
    and a SignatureValue was decoded, the reported signed portion is a contiguous range `V[s0, e)` that
    ends exactly where the SignatureValue TLV starts; the header of that TLV, as the reader decodes
    it (`h1` bytes of type, `h2` bytes of length), has type 23 and the length of the reported signature
    value, which is the value of that TLV; and `s0 = 0` when the first byte is a known element type. -/
theorem parseData_cov (R : ReaderSpecs) (R2 : ReaderSpecs2) (r : Rd) (V : Bytes) (s : DataSt) (sv : Bytes) :
    At r V 0 → parseData {} r = .ok s → s.v.sv = some sv →
    ∃ s0 e h1 h2, s0 ≤ e ∧ 0 < h1 ∧ 0 < h2 ∧ e + h1 + h2 + sv.length ≤ V.length
      ∧ s.sigCovered = (V.drop s0).take (e - s0)
      ∧ sv = (V.drop (e + h1 + h2)).take sv.length
      ∧ rdTL (V.drop e) = some (23, h1) ∧ rdTL (V.drop (e + h1)) = some (sv.length, h2)
      ∧ (V.headD 0 ∈ [7, 20, 21, 22, 23] → s0 = 0) := by
  intro ha e hsv
  have hj0 : SigInv V ({ ({} : DataSt) with v := {} }) 0 0 :=
    ⟨Nat.le_refl _, fun _ => ⟨rfl, rfl⟩, SigValueAt_of_none rfl, fun _ => ⟨rfl, fun _ => rfl⟩⟩
  obtain ⟨_, _, _, hstart, hunset, hval, hknown⟩ := ordParse_inv R SigInv_absent (by decide : 7 < 9)
    (fun typ l sp h1 h2 ht hl => SigInv_step R R2 ht hl) _ _ 0 r 0 ha hj0 s e
  obtain ⟨e, h1, h2, g1, g2, g3, g4, g5, g6⟩ := hval sv hsv
  exact ⟨_, e, h1, h2, g1, (rdTL_consumed g3).1, (rdTL_consumed g4).1, g2, g5, g6, g3, g4, fun hk => (hknown hk).1⟩

/-- `parseData_cov` phrased with `decTL`, for a value made of bytes (< 256) -/
theorem parseData_cov_decTL (R : ReaderSpecs) (R2 : ReaderSpecs2) (r : Rd) (V : Bytes) (s : DataSt) (sv : Bytes)
    (hwf : Bytes.WF V) : At r V 0 → parseData {} r = .ok s → s.v.sv = some sv →
    ∃ s0 e h, s0 ≤ e ∧ 0 < h ∧ e + h + sv.length ≤ V.length
      ∧ s.sigCovered = (V.drop s0).take (e - s0)
      ∧ sv = (V.drop (e + h)).take sv.length
      ∧ (∃ t l rest, decTL (V.drop e) = some (t, rest) ∧ t = 23 ∧ decTL rest = some (l, V.drop (e + h)) ∧ l = sv.length)
      ∧ (V.headD 0 ∈ [7, 20, 21, 22, 23] → s0 = 0) := by
  intro ha e hsv
  obtain ⟨s0, e, h1, h2, g1, g2, g3, g4, g5, g6, g7, g8, g9⟩ := parseData_cov R R2 r V s sv ha e hsv
  have hsub : ∀ a b, Bytes.WF ((V.drop a).take b) := fun a b z hz =>
    hwf z (List.mem_of_mem_drop (List.mem_of_mem_take hz))
  have d1 := rdTL_decTL g7 (hsub _ _)
  have d2 := rdTL_decTL g8 (hsub _ _)
  rw [List.drop_drop] at d1 d2
  exact ⟨s0, e, h1 + h2, g1, by omega, by omega, g5, Nat.add_assoc _ _ _ ▸ g6,
    ⟨23, sv.length, V.drop (e + h1), d1, rfl, Nat.add_assoc _ _ _ ▸ d2, rfl⟩, g9⟩

/-- the Data value level: if a value `cov' ++ SignatureValue header ++ sv'` (lengths as in the original, the
    header intact) parses and the original (signed portion, signature value) pair is reported, it is the
    original value -/
theorem value_original_of_reported (R : ReaderSpecs) (R2 : ReaderSpecs2) (cov cov' sv sv' : Bytes) (sub : Rd) (s : DataSt)
    (hc : cov'.length = cov.length) (hs : sv'.length = sv.length)
    (ha : At sub (cov' ++ (encTL 23 ++ encTL sv.length) ++ sv') 0) (hp : parseData {} sub = .ok s)
    (h1 : s.sigCovered = cov) (h2 : s.v.sv = some sv) : cov' = cov ∧ sv' = sv := by
  obtain ⟨s0, e, k1, k2, g1, g2, _, g4, g5, g6, _, g8, _⟩ := parseData_cov R R2 sub _ s sv ha hp h2
  have hT : (encTL 23 ++ encTL sv.length).length = 1 + tlLen sv.length := by
    rw [List.length_append, encTL_length, encTL_length, tlLen_small (by omega)]
  have he : e = cov'.length + s0 := by
    have := congrArg List.length g5
    rw [h1, length_range (by omega), ← hc] at this
    omega
  subst he
  have g4' := g4
  rw [List.length_append, List.length_append, hT, hs] at g4'
  -- the length field lies inside the intact header, so it is not shorter than its minimal form
  have hk2 := tlLen_le_rdTL g8 (fun z hz => by
    rw [Nat.add_assoc] at hz
    rcases List.mem_append.1 (mem_mid (by omega) hz) with hz | hz
    · exact encTL_wf 23 z hz
    · exact encTL_wf _ z hz)
  rw [Nat.add_assoc _ k1] at g4 g6
  obtain ⟨c1, c2⟩ := range_pinned (by rw [hT]; omega) hs g4
  exact ⟨(g5.trans c1).symm.trans h1, (g6.trans c2).symm⟩

theorem data_original_of_reported (R : ReaderSpecs) (R2 : ReaderSpecs2) (cov cov' sv sv' V' : Bytes)
    (hV' : V' = cov' ++ (encTL 23 ++ encTL sv.length) ++ sv')
    (hc : cov'.length = cov.length) (hs : sv'.length = sv.length) (hL : V'.length < 2 ^ 62)
    (r : Rd) (hr : At r (encTL 6 ++ encTL V'.length ++ V') 0) (p : DataP)
    (e : readData r = .ok (p, cov)) (hsv : p.sv = some sv) : cov' = cov ∧ sv' = sv := by
  rw [readData_sim R readerSpecsX _ _ (sim_Z hr)] at e
  obtain ⟨ps, e3, e2⟩ := bind_of_ok e
  rw [parsePacket_of_data V' hL] at e3
  obtain ⟨s, e5, e4⟩ := bind_of_ok e3
  cases e4
  simp only [] at e2
  split at e2
  · cases e2
  · cases e2
    subst hV'
    exact value_original_of_reported R R2 _ cov' sv sv' _ s hc hs (at_Z_nil _) e5 rfl hsv

/-- Tamper detection for Data (byte-range content; the cryptography is assumed elsewhere): let the packet
    `e.wire` be built by `makeData` with a signature (`d.est > 0`), and `b'` any byte string of the same
    length that agrees with it everywhere except at byte `k`, where `k` lies in the signed portion or in
    the signature value.  Then for every healthy reader over `b'`: decoding fails, or the
    (signed portion, signature value) pair reported by the decoder differs from the pair
    (bytes handed to the signer, signature value) of the original — a validator that accepts exactly
    the original pair rejects. -/
theorem bitflip_detected_data (R : ReaderSpecs) (R2 : ReaderSpecs2) (E : EncSpecs) (d : DataIn) (sign : Bytes → Bytes)
    (e : Encoded) (hv : d.Valid) (hm : makeData d sign = .ok e) (hest : d.est > 0)
    (b' : Bytes) (k : Nat) (hlen : b'.length = e.wire.flatten.length)
    (hk : b'.getD k 0 ≠ e.wire.flatten.getD k 0) (hsame : ∀ j, j ≠ k → b'.getD j 0 = e.wire.flatten.getD j 0)
    (hreg : (1 + tlLen (dataValue d e.sigVal).length ≤ k
              ∧ k < 1 + tlLen (dataValue d e.sigVal).length + (dataCovered d).length)       -- signed portion
            ∨ (e.wire.flatten.length - e.sigVal.length ≤ k ∧ k < e.wire.flatten.length))   -- signature value
    (r : Rd) (hr : At r b' 0) (p : DataP) (cov : Bytes) :
    readData r = .ok (p, cov) → ¬ (cov = dataCovered d ∧ p.sv = some e.sigVal) := by
  rintro hrd ⟨rfl, hsv⟩
  have hfl := (E.makeData_flatten d sign e hv hm).1
  have hvl := dataValue_lt E d sign e hv hm
  have hV : dataValue d e.sigVal = dataCovered d ++ (encTL 23 ++ encTL e.sigVal.length) ++ e.sigVal := by
    rw [dataValue_split, sigPart, if_pos hest]; simp only [List.append_assoc]
  rcases hreg with ⟨k1, k2⟩ | ⟨k1, k2⟩
  · obtain ⟨C', hC'l, hC'ne, hVl, hb'⟩ := flip_front (A := []) (M := dataCovered d)
      (C := encTL 23 ++ encTL e.sigVal.length ++ e.sigVal) (by decide) hfl
      (by rw [hV, List.nil_append, List.append_assoc]) hlen hk hsame
      (by rw [List.length_nil, Nat.add_zero]; exact k1) (by rw [List.length_nil, Nat.add_zero]; exact k2)
    rw [hb'] at hr
    exact hC'ne (data_original_of_reported R R2 (dataCovered d) C' e.sigVal e.sigVal _
      (by simp only [List.nil_append, List.append_assoc]) hC'l rfl (by rw [hVl]; exact hvl) r hr p hrd hsv).1
  · obtain ⟨S', hS'l, hS'ne, hVl, hb'⟩ := flip_back (by decide) hfl hV hlen hk hsame k1 k2
    rw [hb'] at hr
    exact hS'ne (data_original_of_reported R R2 (dataCovered d) (dataCovered d) e.sigVal S' _ rfl
      rfl hS'l (by rw [hVl]; exact hvl) r hr p hrd hsv).2

end Ndn.C12
