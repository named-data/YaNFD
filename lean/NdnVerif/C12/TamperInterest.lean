/-
  C12/TamperInterest.lean — tamper detection for Interest packets over the parser model: the invariant `DigestInv`
  of the ordered Interest loop on ARBITRARY input (`parseInterest_digest`, `parseInterest_name_ti`), and the two
  tamper theorems (parameters digest; signed name).  The tamper theorems replace their healthy reader by the
  contiguous one (`sim_Z`) and walk the unaltered elements with the rules of C03/Zip.lean; the invariant is
  stated over any healthy reader and meets a walk at `Z pre suf` through `at_Z`.
-/
import NdnVerif.C12.Steps
import NdnVerif.C03.LemmasInterest
namespace Ndn.C12
open Ndn.C03

theorem interestHandle_name (s : InterestSt) (l sp : Nat) (r : Rd) : interestHandle 2 s l sp r =
    (readNameField r l >>= fun x => pure ({ s with
      v := { s.v with name := some x.1 }, sigCovered := s.sigCovered ++ x.2.2.range r.pos x.2.1 }, x.2.2)) := rfl

theorem interestHandle_cbp (s : InterestSt) (l sp : Nat) (r : Rd) : interestHandle 3 s l sp r =
    pure ({ s with v := { s.v with cbp := true } }, r) := rfl

theorem interestHandle_mbf (s : InterestSt) (l sp : Nat) (r : Rd) : interestHandle 4 s l sp r =
    pure ({ s with v := { s.v with mbf := true } }, r) := rfl

theorem interestHandle_fh (s : InterestSt) (l sp : Nat) (r : Rd) : interestHandle 5 s l sp r =
    (r.delegate l >>= fun x => parseLinks x.1 >>= fun ns => pure ({ s with v := { s.v with fh := some ns } }, x.2)) := rfl

theorem interestHandle_nonce (s : InterestSt) (l sp : Nat) (r : Rd) : interestHandle 6 s l sp r =
    (readNat r l 32 >>= fun x => pure ({ s with v := { s.v with nonce := some x.1 } }, x.2)) := rfl

theorem interestHandle_lt (s : InterestSt) (l sp : Nat) (r : Rd) : interestHandle 7 s l sp r =
    (readNatural r l >>= fun x => pure ({ s with v := { s.v with lt := some x.1 } }, x.2)) := rfl

theorem interestHandle_ap (s : InterestSt) (l sp : Nat) (r : Rd) : interestHandle 11 s l sp r =
    (r.readWire l >>= fun x => pure ({ s with v := { s.v with ap := some x.1 } }, x.2)) := rfl

theorem interestHandle_si (s : InterestSt) (l sp : Nat) (r : Rd) : interestHandle 12 s l sp r =
    (r.delegate l >>= fun x => parseSigInfo x.1 >>= fun si => pure ({ s with v := { s.v with si := some si } }, x.2)) := rfl

/-- every other slot number runs the SignatureValue handler (slot 13) -/
theorem interestHandle_sv {k : Nat}
    (hk : k ≠ 2 ∧ k ≠ 3 ∧ k ≠ 4 ∧ k ≠ 5 ∧ k ≠ 6 ∧ k ≠ 7 ∧ k ≠ 8 ∧ k ≠ 11 ∧ k ≠ 12)
    (s : InterestSt) (l sp : Nat) (r : Rd) : interestHandle k s l sp r =
    (r.readWire l >>= fun x => pure ({ s with
      v := { s.v with sv := some x.1 }, sigCovered := s.sigCovered ++ x.2.range s.sigCoverStart sp }, x.2)) := by
  obtain ⟨h2, h3, h4, h5, h6, h7, h8, h11, h12⟩ := hk
  simp only [interestHandle, if_neg h2, if_neg h3, if_neg h4, if_neg h5, if_neg h6, if_neg h7, if_neg h8,
    if_neg h11, if_neg h12]

theorem interestHandle_frame (R : ReaderSpecs) (R2 : ReaderSpecs2) {k : Nat} {st st' : InterestSt} {l sp : Nat}
    {r r' : Rd} {V : Bytes} {p : Nat} (h : At r V p) (e : interestHandle k st l sp r = .ok (st', r')) :
    (∃ p', p ≤ p' ∧ At r' V p')
      ∧ ∃ v' c', st' = { st with v := v', sigCovered := c' } ∧ (k ≠ 2 → v'.name = st.v.name) := by
  by_cases h2 : k = 2
  · subst h2
    rw [interestHandle_name] at e
    obtain ⟨⟨n, s1, r1⟩, e1, e2⟩ := bind_of_ok e
    cases e2
    exact ⟨⟨p + l, by omega, (readNameField_end R h e1).1⟩, _, _, rfl, fun hn => absurd rfl hn⟩
  by_cases h3 : k = 3
  · subst h3
    cases e
    exact ⟨⟨p, Nat.le_refl _, h⟩, _, _, rfl, fun _ => rfl⟩
  by_cases h4 : k = 4
  · subst h4
    cases e
    exact ⟨⟨p, Nat.le_refl _, h⟩, _, _, rfl, fun _ => rfl⟩
  by_cases h5 : k = 5
  · subst h5
    rw [interestHandle_fh] at e
    obtain ⟨hp, ns, rfl⟩ := delegate_then R R2 h e
    exact ⟨hp, _, _, rfl, fun _ => rfl⟩
  by_cases h6 : k = 6
  · subst h6
    rw [interestHandle_nonce] at e
    obtain ⟨⟨x, r1⟩, e1, e2⟩ := bind_of_ok e
    cases e2
    exact ⟨readNat_of_ok R h e1, _, _, rfl, fun _ => rfl⟩
  by_cases h7 : k = 7
  · subst h7
    rw [interestHandle_lt] at e
    obtain ⟨⟨x, r1⟩, e1, e2⟩ := bind_of_ok e
    cases e2
    exact ⟨readNat_of_ok R h (readNatural_ok e1), _, _, rfl, fun _ => rfl⟩
  by_cases h8 : k = 8
  · subst h8
    rw [interestHandle_hl] at e
    obtain ⟨r1, e1, e2⟩ := bind_of_ok e
    obtain ⟨_, a1⟩ := skip_of_ok r r1 V p 1 h e1
    split at e2
    · cases e2
      exact ⟨⟨p + 1, by omega, a1⟩, _, _, rfl, fun _ => rfl⟩
    · cases e2
  by_cases h11 : k = 11
  · subst h11
    rw [interestHandle_ap] at e
    obtain ⟨hp, c, rfl⟩ := readWire_then R h e
    exact ⟨hp, _, _, rfl, fun _ => rfl⟩
  by_cases h12 : k = 12
  · subst h12
    rw [interestHandle_si] at e
    obtain ⟨hp, si, rfl⟩ := delegate_then R R2 h e
    exact ⟨hp, _, _, rfl, fun _ => rfl⟩
  rw [interestHandle_sv ⟨h2, h3, h4, h5, h6, h7, h8, h11, h12⟩] at e
  obtain ⟨hp, c, rfl⟩ := readWire_then R h e
  exact ⟨hp, _, _, rfl, fun _ => rfl⟩

/-- Invariant of the ordered Interest loop: `q` = progress + 1, `x` = start position of the current / next
    element.  `lo`: a position before which the loop under consideration does not start an element;
    `m`: a lower bound of `q`; `N`: the Name once slot 2 cannot be handled any more (`3 ≤ m`). -/
structure DigestInv (V : Bytes) (lo m : Nat) (N : Option Name) (st : InterestSt) (q x : Nat) : Prop where
  lo_le : lo ≤ x
  start_le : st.digestCoverStart ≤ x
  /-- the start marker is still at its initial value, or was set at an element start not before `lo` -/
  start : st.digestCoverStart = 0 ∨ lo ≤ st.digestCoverStart
  /-- nothing is collected before the slot-14 action ran -/
  unset : q ≤ 14 → st.digestCovered = []
  range : st.digestCovered = (V.drop st.digestCoverStart).take st.digestCovered.length
    ∧ st.digestCoverStart + st.digestCovered.length ≤ x
  m_le : m ≤ q
  name : 3 ≤ m → st.v.name = N

theorem DigestInv_init {V : Bytes} {lo m : Nat} {N : Option Name} {st : InterestSt} {q x : Nat} (hx : lo ≤ x)
    (hs : st.digestCoverStart = 0) (hc : st.digestCovered = []) (hm : m ≤ q) (hn : 3 ≤ m → st.v.name = N) :
    DigestInv V lo m N st q x :=
  ⟨hx, hs ▸ Nat.zero_le _, Or.inl hs, fun _ => hc, by rw [hc, hs]; exact ⟨List.take_zero.symm, Nat.zero_le _⟩, hm, hn⟩

theorem DigestInv_mono {V : Bytes} {lo m : Nat} {N : Option Name} {st : InterestSt} {q x x' : Nat}
    (h : DigestInv V lo m N st q x) (hx : x ≤ x') : DigestInv V lo m N st q x' :=
  { h with lo_le := Nat.le_trans h.lo_le hx, start_le := Nat.le_trans h.start_le hx,
           range := ⟨h.range.1, Nat.le_trans h.range.2 hx⟩ }

section
variable (R : ReaderSpecs) {V : Bytes} {lo m : Nat} {N : Option Name}
include R

/-- the absent-action of slot `q` at element start `x`: slot 10 sets the start marker, slot 14 takes the
    range from the marker to `x` -/
theorem DigestInv_absent (st : InterestSt) (q : Nat) (r : Rd) (p x : Nat) (ha : At r V p) (hx : x ≤ V.length)
    (h : DigestInv V lo m N st q x) : DigestInv V lo m N (interestAbsent q st x r) (q + 1) x := by
  have hm : m ≤ q + 1 := Nat.le_succ_of_le h.m_le
  unfold interestAbsent
  by_cases h10 : q = 10
  · subst h10
    have hd : st.digestCovered = [] := h.unset (by omega)
    exact { h with start_le := Nat.le_refl _, start := Or.inr h.lo_le, unset := fun _ => hd,
                   range := by rw [hd]; exact ⟨List.take_zero.symm, Nat.le_refl _⟩, m_le := hm }
  by_cases h14 : q = 14
  · subst h14
    exact { h with unset := fun h' => absurd h' (by omega), m_le := hm,
                   range := by
                     show r.range _ x = List.take (r.range _ x).length _ ∧ _ + (r.range _ x).length ≤ x
                     rw [R.range_eq r V p _ x ha h.start_le hx, length_range hx]
                     exact ⟨rfl, Nat.le_of_eq (Nat.add_sub_cancel' h.start_le)⟩ }
  · rw [if_neg h10, if_neg h14]
    -- slot 9 sets `sigCoverStart`, the others do nothing
    split <;> exact { h with unset := fun _ => h.unset (by omega), m_le := hm }

theorem DigestInv_step (R2 : ReaderSpecs2) (typ l : Nat) {sp p : Nat} (hsp : sp ≤ p) :
    OrdStep V 15 interestIdx interestHandle (DigestInv V lo m N) typ l sp p where
  exit := fun _ _ _ h => DigestInv_mono h hsp
  skip := fun _ _ _ h => DigestInv_mono h (by omega)
  handle := by
    intro k st r st' r' _ ha h e
    obtain ⟨⟨p', hp', a1⟩, v', c', rfl, hname⟩ := interestHandle_frame R R2 ha e
    have h' := DigestInv_mono h (Nat.le_trans hsp hp')
    exact ⟨p', a1, { h' with unset := fun _ => h.unset (by omega), m_le := Nat.le_succ_of_le h.m_le,
                             name := fun hm => (hname (by have := h.m_le; omega)).trans (h.name hm) }⟩

/-- the state `parseInterest` returns satisfies the invariant whenever some intermediate loop state
    (reached from the fresh start, `Reach`) does -/
theorem parseInterest_from (R2 : ReaderSpecs2) (V : Bytes) (lo m : Nat) (N : Option Name) (r0 : Rd) (s st : InterestSt)
    (q p : Nat) (r : Rd) (hp : parseInterest {} r0 = .ok s)
    (hR : Reach (({} : InterestSt), 0) r0 (st, q) r) (ha : At r V p) (hK : DigestInv V lo m N st q p) :
    ∃ q', DigestInv V lo m N s q' V.length := by
  obtain ⟨f, _, ef⟩ := hR (loopFuel r0) (Nat.lt_succ_self _)
  have hp' : (tlvLoop interestBody (loopFuel r0) (({} : InterestSt), 0) r0 >>= ordEnd interestAbsent 15) = .ok s := hp
  rw [ef] at hp'
  obtain ⟨q', p', hle, j⟩ := ordParse_inv R (DigestInv_absent R) (by decide : 15 < 17)
    (fun typ l sp h1 h2 _ _ => DigestInv_step R R2 typ l (by omega)) f st q r p ha hK s hp'
  exact ⟨q', DigestInv_mono j hle⟩

end

section
variable (R : ReaderSpecs) (R2 : ReaderSpecs2)
include R R2

/-- ALL-INPUT invariant of the Interest parser (fresh context): whenever parsing an Interest value `V`
    succeeds, the bytes handed to the parameters-digest check are a contiguous range of `V` starting at
    the context's `digestCoverStart` marker.

    (The form "a SUFFIX of `V` starting at the ApplicationParameters element" does NOT hold for all
    input: a known element arriving out of order after ApplicationParameters makes the slot-14 action
    run with the start of THAT element as the end of the range.  See the notes at the end of this file.) -/
theorem parseInterest_digest (r : Rd) (V : Bytes) (s : InterestSt) :
    At r V 0 → parseInterest {} r = .ok s →
    ∃ n, s.digestCoverStart + n ≤ V.length ∧ s.digestCovered = (V.drop s.digestCoverStart).take n := by
  intro h0 hp
  obtain ⟨q', hK⟩ := parseInterest_from R R2 V 0 0 none r s {} 0 0 r hp (LoopReach.refl _ _ _) h0
    (DigestInv_init (Nat.le_refl _) rfl rfl (Nat.le_refl _) (fun h => absurd h (by omega)))
  exact ⟨_, hK.range.2, hK.range.1⟩

/-- the Name decoded from an Interest value depends only on its first element: if the value starts
    with the Name element of `fn`, every successful parse reports `fn` -/
theorem parseInterest_name_ti (E : EncSpecs) (r : Rd) (V rest : Bytes) (fn : Name) (s : InterestSt)
    (hV : V = encNameField 7 fn ++ rest) (hv : NameValid fn) (hlen : nameLen fn < 2 ^ 62) :
    At r V 0 → parseInterest {} r = .ok s → s.v.name = some fn := by
  intro h0 hp
  subst hV
  rw [parseInterest_sim R readerSpecsX {} (sim_Z h0)] at hp
  obtain ⟨X, _, R1⟩ := el_name E fn (LoopReach.refl interestBody (({} : InterestSt), 0) (Z [] (encNameField 7 fn ++ rest)))
    hv hlen (Nat.zero_le 2)
  obtain ⟨q', hK⟩ := parseInterest_from R R2 _ 0 3 (some fn) _ s _ 3 _ _ hp R1 (at_Z _ rest)
    (DigestInv_init (Nat.zero_le _) rfl rfl (Nat.le_refl _) (fun _ => rfl))
  exact hK.name (Nat.le_refl _)

end

theorem readInterest_single (H : Bytes → Bytes) (V : Bytes) (hL : V.length < 2 ^ 62) (x : InterestP × Bytes)
    (e : readInterest H (Z [] (encTL 5 ++ encTL V.length ++ V)) = .ok x) :
    ∃ s, parseInterest {} (Z [] V) = .ok s ∧ checkInterest H s = true ∧ x = (s.v, s.sigCovered) := by
  obtain ⟨ps, e3, e2⟩ := bind_of_ok e
  rw [parsePacket_of_interest V hL] at e3
  obtain ⟨s, e5, e4⟩ := bind_of_ok e3
  cases e4
  simp only [] at e2
  split at e2
  · rename_i hchk
    cases e2
    exact ⟨s, e5, hchk, rfl⟩
  · cases e2

theorem checkInterest_digest {H : Bytes → Bytes} {s : InterestSt} {n : Name} {v : Bytes}
    (h : checkInterest H s = true) (hn : s.v.name = some n) (hl : n.getLast? = some ⟨2, v⟩) :
    v = H s.digestCovered := by
  unfold checkInterest at h
  rw [hn] at h
  simp only [hl] at h
  cases hap : s.v.ap with
  | none => simp [hap] at h    -- without parameters a trailing digest component is refused
  | some _ => simpa [hap] using h

/-- the Interest value level: the head of a built Interest followed by ANY bytes `P'` of the length of its
    parameters portion `P`.  If that value parses and `checkInterest` accepts, the hash of `P'` is the digest
    component, so (no collision, `hinj`) `P' = P`. -/
theorem params_original_of_accepted (R : ReaderSpecs) (R2 : ReaderSpecs2) (E : EncSpecs) (i : InterestIn) (H : Bytes → Bytes)
    (fn : Name) (sv P P' : Bytes) (hrdy : InterestReady i fn sv) (hP : P = interestParamsPortion i sv)
    (hfn : fn = interestFinalName i H sv) (hap : i.ap.isSome) (hinj : ∀ x, H x = H P → x = P)
    (hl : P'.length = P.length) (s : InterestSt)
    (hp : parseInterest {} (Z [] (interestHead i fn ++ P')) = .ok s) (hchk : checkInterest H s = true) : P' = P := by
  -- the Name and the rest of the head part are decoded as in the original
  have hb0 := interestHead_append i fn P'
  have hname : s.v.name = some fn :=
    parseInterest_name_ti R R2 E _ _ _ fn s hb0 hrdy.nameValid hrdy.nameLen (at_Z_nil _) hp
  obtain ⟨X, _, R1⟩ := el_name E fn (LoopReach.start interestBody (({} : InterestSt), 0) hb0) hrdy.nameValid
    hrdy.nameLen (Nat.zero_le 2)
  obtain ⟨q7, P7, _, hP7, RH⟩ := head_rest_reach E i fn sv hrdy R1
  obtain rfl : P7 = interestHead i fn := List.append_cancel_right (hP7.trans hb0.symm)
  obtain ⟨q', hK⟩ := parseInterest_from R R2 _ (interestHead i fn).length 0 none _ s _ q7 _ _ hp RH (at_Z _ P')
    (DigestInv_init (Nat.le_refl _) rfl rfl (Nat.zero_le _) (fun h => absurd h (by omega)))
  obtain ⟨k5, k5'⟩ := hK.range
  have hgl : fn.getLast? = some ⟨2, H P⟩ := by
    rw [hfn, interestFinalName, if_pos hap, ← hP, List.getLast?_append, List.getLast?_singleton]; rfl
  have hdP : s.digestCovered = P := hinj _ (checkInterest_digest hchk hname hgl).symm
  rw [hdP] at k5 k5'
  rcases hK.start with h0 | hlo
  · -- the start marker was never set: the range would begin with the Name element (first byte 7), but the
    -- digest input begins with the ApplicationParameters element (first byte 36)
    obtain ⟨c, hc⟩ := Option.isSome_iff_exists.1 hap
    rw [h0, List.drop_zero, hb0, hP] at k5
    simp [interestParamsPortion, hc, optB, encNameField, encTL_small] at k5
  · -- the start marker is at the end of the head: the range is the altered portion
    have hd : s.digestCoverStart = (interestHead i fn).length := by rw [List.length_append] at k5'; omega
    rw [hd, List.drop_left, ← hl, List.take_length] at k5
    exact k5.symm

/-- Tamper detection by the parameters digest: `b` a built Interest WITH parameters, `b'` of the same
    length, equal to `b` except at byte `k`, where `k` lies at or after the first byte of the
    ApplicationParameters element (i.e. in the parameters, SignatureInfo or SignatureValue).  If the hash
    has no collision with the original digest input (`hinj`), decoding `b'` fails — for every healthy
    reader, signed or not. -/
theorem bitflip_detected_interest_digest (R : ReaderSpecs) (R2 : ReaderSpecs2) (E : EncSpecs)
    (i : InterestIn) (sign H : Bytes → Bytes) (e : Encoded) (fn : Name)
    (hv : i.Valid) (hH : ∀ x, (H x).length = 32) (hm : makeInterest i sign H = .ok (e, fn)) (hap : i.ap.isSome)
    (hinj : ∀ x, H x = H (interestParamsPortion i e.sigVal) → x = interestParamsPortion i e.sigVal)
    (b' : Bytes) (k : Nat) (hlen : b'.length = e.wire.flatten.length)
    (hk : b'.getD k 0 ≠ e.wire.flatten.getD k 0) (hsame : ∀ j, j ≠ k → b'.getD j 0 = e.wire.flatten.getD j 0)
    (hreg : e.wire.flatten.length - (interestParamsPortion i e.sigVal).length ≤ k ∧ k < e.wire.flatten.length)
    (r : Rd) (hr : At r b' 0) : ∀ x, readInterest H r ≠ .ok x := by
  intro x hrd
  obtain ⟨hfn, hfl, _, _⟩ := E.makeInterest_flatten i sign H e fn hv hH hm
  obtain ⟨hrdy, hL⟩ := interestReady_of_int E i sign H e fn hv hH hm
  obtain ⟨P', hP'l, hP'ne, hVl, hb'⟩ := flip_back (by decide) hfl rfl hlen hk hsame hreg.1 hreg.2
  rw [hb'] at hr
  rw [readInterest_sim R readerSpecsX H _ _ (sim_Z hr)] at hrd
  obtain ⟨s, hp, hchk, _⟩ := readInterest_single H _ (by rw [hVl]; exact hL) x hrd
  exact hP'ne (params_original_of_accepted R R2 E i H fn e.sigVal _ P' hrdy rfl hfn hap hinj hP'l s hp hchk)

/-- an Interest value that starts with a Name element of ANY value `v`: a successful parse decoded the Name
    element first; the name part of the signed range is a prefix of what follows the Name header, and the rest of
    the parse is the loop continued behind the Name element with `progress` at slot 3 (on the contiguous reader
    again: the outcome depends on the reader's view only) -/
theorem name_first (R : ReaderSpecs) (v rest : Bytes) (hv : v.length < 2 ^ 62) (s : InterestSt)
    (hp : parseInterest {} (Z [] (encTV (7, v) ++ rest)) = .ok s) :
    ∃ (n' : Name) (k f : Nat), rest.length < f ∧
      (tlvLoop interestBody f (({ v := { name := some n' }, sigCovered := (v ++ rest).take k } : InterestSt), 3)
        (Z (encTV (7, v)) rest) >>= ordEnd interestAbsent 15) = .ok s := by
  obtain ⟨P, hP⟩ : ∃ P, P = [] ++ (encTL 7 ++ encTL v.length) := ⟨_, rfl⟩
  -- the first iteration runs the Name handler (slot 2) on the fresh context
  have hbody : interestBody (({} : InterestSt), 0) 7 v.length 0 (Z P (v ++ rest)) = (readNameField (Z P (v ++ rest)) v.length
      >>= fun x => pure ((({ v := { name := some x.1 }, sigCovered := x.2.2.range P.length x.2.1 } : InterestSt), 3), x.2.2)) := by
    rw [interestBody_hit 7 _ 0 2 0 {} _ (by decide) (by omega) (by omega), absFold_head _ _ _ _ _ (by omega),
      interestHandle_name, Res.bind_assoc, Z_pos]
    rfl
  have hp' : (tlvLoop interestBody (loopFuel (Z [] (encTV (7, v) ++ rest))) (({} : InterestSt), 0) (Z [] (encTV (7, v) ++ rest))
      >>= ordEnd interestAbsent 15) = .ok s := hp
  rw [loopFuel, Z_room, tlvLoop_Z_cons interestBody _ _ [] 7 v rest (by decide) (Nat.lt_trans hv (by decide)), ← hP,
    List.length_nil, hbody, Res.bind_assoc, Res.bind_assoc] at hp'
  obtain ⟨⟨n', sigEnd, r3⟩, en, e3⟩ := bind_of_ok hp'
  obtain ⟨a3, hs1, hs2⟩ := readNameField_end R (at_Z P (v ++ rest)) en
  have hsim : Sim r3 (Z (encTV (7, v)) rest) := ⟨_, _, a3, by
    have := at_Z (P ++ v) rest
    rw [List.append_assoc, List.length_append] at this
    subst hP
    exact this⟩
  refine ⟨n', sigEnd - P.length, (encTV (7, v) ++ rest).length, ?_, (interestLoop_sim R readerSpecsX _ _ hsim).symm.trans ?_⟩
  · rw [List.length_append]; exact Nat.lt_add_of_pos_left (encTV_pos _)
  · simp only [Res.pure_eq, Res.bind_ok] at e3
    rwa [R.range_eq r3 _ _ _ _ a3 hs1 (Nat.le_trans hs2 a3.2.2), List.drop_left] at e3

/-- the Interest value level: a built signed Interest whose Name element carries ANY bytes `M'` of the right
    length in place of the components `M` the signature covers (the digest component `D` and everything after
    the Name as built).  Everything after the Name is decoded as in the original (`tail_Z`), so the reported
    signed portion starts with a prefix of `M' ++ …`: if it is the original one, `M' = M`. -/
theorem name_original_of_reported (R : ReaderSpecs) (E : EncSpecs) (i : InterestIn) (fn : Name)
    (sv : Bytes) (hrdy : InterestReady i fn sv) (hest : i.est > 0) (M M' D HR : Bytes) (L : Nat)
    (hM : M = encNameInner (stripDigest i.name)) (hL : L = M.length + D.length) (hL62 : L < 2 ^ 62)
    (hHR : HR = headRest i (interestParamsPortion i sv))
    (hl : M'.length = M.length) (s : InterestSt)
    (hp : parseInterest {} (Z [] ((encTL 7 ++ encTL L) ++ M' ++ (D ++ HR))) = .ok s)
    (hc : s.sigCovered = interestCovered i) : M' = M := by
  have hL' : L = (M' ++ D).length := by rw [List.length_append, hl]; exact hL
  have hV : (encTL 7 ++ encTL L) ++ M' ++ (D ++ HR) = encTV (7, M' ++ D) ++ HR := by
    rw [encTV, hL']; simp only [List.append_assoc]
  rw [hV] at hp
  obtain ⟨n', k, f, hf, e3⟩ := name_first R (M' ++ D) HR (hL' ▸ hL62) s hp
  subst hHR
  obtain ⟨q7, P7, hq7, _, RH⟩ := head_rest_reach E i fn sv hrdy (LoopReach.refl interestBody _ _)
  obtain ⟨fs, efs, _, _, hcov⟩ := tail_Z E i fn sv hrdy hq7 RH rfl rfl rfl
  obtain rfl : s = fs := Res.ok.inj (e3.symm.trans (efs f (by rw [Z_room]; exact hf)))
  -- the reported signed portion starts with a prefix of the altered name components, of their length
  rw [hcov hest, interestCovered, ← hM] at hc
  simp only [List.append_assoc] at hc
  exact eq_of_take_append hl (List.append_cancel_right hc)

/-- Tamper detection for the name of a SIGNED Interest: `b'` has the length of the built Interest and
    agrees with it everywhere except at byte `k`, which lies in the name components covered by the
    signature (the bytes of `encNameInner (stripDigest i.name)` inside the Name element).  Then for every
    healthy reader over `b'`: decoding fails, or the signed portion reported by the decoder differs from
    the bytes handed to the signer — a validator that accepts exactly the original signed portion
    rejects.  (The parameters digest does not cover the name; this is the signature's job.  Everything after
    the altered Name is decoded as in the original, `tail_Z`, so no all-input invariant and no `ReaderSpecs2`
    is needed.) -/
theorem bitflip_detected_interest_name (R : ReaderSpecs) (E : EncSpecs)
    (i : InterestIn) (sign H : Bytes → Bytes) (e : Encoded) (fn : Name)
    (hv : i.Valid) (hH : ∀ x, (H x).length = 32) (hm : makeInterest i sign H = .ok (e, fn)) (hest : i.est > 0)
    (b' : Bytes) (k : Nat) (hlen : b'.length = e.wire.flatten.length)
    (hk : b'.getD k 0 ≠ e.wire.flatten.getD k 0) (hsame : ∀ j, j ≠ k → b'.getD j 0 = e.wire.flatten.getD j 0)
    (hreg : 1 + tlLen (interestValue i fn e.sigVal).length + 1 + tlLen (nameLen fn) ≤ k
      ∧ k < 1 + tlLen (interestValue i fn e.sigVal).length + 1 + tlLen (nameLen fn)
            + (encNameInner (stripDigest i.name)).length)
    (r : Rd) (hr : At r b' 0) (p : InterestP) (cov : Bytes) :
    readInterest H r = .ok (p, cov) → cov ≠ interestCovered i := by
  intro hrd hc
  obtain ⟨hfn, hfl, _, _⟩ := E.makeInterest_flatten i sign H e fn hv hH hm
  obtain ⟨hrdy, hL⟩ := interestReady_of_int E i sign H e fn hv hH hm
  obtain ⟨M, hM⟩ : ∃ M, M = encNameInner (stripDigest i.name) := ⟨_, rfl⟩
  obtain ⟨D, hD⟩ : ∃ D, D = encNameInner [digestComp (H (interestParamsPortion i e.sigVal))] := ⟨_, rfl⟩
  have hinner : encNameInner fn = M ++ D := by
    rw [hfn, interestFinalName, if_pos (hrdy.est hest), hM, hD, encNameInner_append]
  have hLlen := (E.nameLen_eq fn).symm.trans ((congrArg List.length hinner).trans List.length_append)
  obtain ⟨HR, hHR⟩ : ∃ HR, HR = headRest i (interestParamsPortion i e.sigVal) := ⟨_, rfl⟩
  have hA : (encTL 7 ++ encTL (nameLen fn)).length = 1 + tlLen (nameLen fn) := by
    rw [List.length_append, encTL_length, encTL_length, tlLen_small (by decide)]
  rw [← hM] at hreg
  obtain ⟨M', hM'l, hM'ne, hVl, hb'⟩ := flip_front (A := encTL 7 ++ encTL (nameLen fn)) (M := M) (C := D ++ HR) (by decide) hfl
    (by rw [hHR]; simp only [interestValue, interestHead, headRest, encNameField, hinner, List.append_assoc])
    hlen hk hsame (by rw [hA, ← Nat.add_assoc]; exact hreg.1) (by rw [hA, ← Nat.add_assoc]; exact hreg.2)
  rw [hb'] at hr
  rw [readInterest_sim R readerSpecsX H _ _ (sim_Z hr)] at hrd
  obtain ⟨s, hp, _, hx⟩ := readInterest_single H _ (by rw [hVl]; exact hL) (p, cov) hrd
  cases hx
  exact hM'ne (name_original_of_reported R E i fn e.sigVal hrdy hest M M' D HR _ hM hLlen hrdy.nameLen hHR hM'l s hp hc)

/-! ### notes: why `parseInterest_digest` is stated for a range, not for a suffix

  The digest-covered range is `V[digestCoverStart, digestCoverStart + n)`; it is NOT on all input the
  suffix of the Interest value that starts at the ApplicationParameters element: a KNOWN element that
  arrives out of order after ApplicationParameters (its slot is already behind `progress`) makes the
  `progress` loop run all remaining absent-actions, the slot-14 action among them, with the start of
  THAT element as the end of the range (and consumes nothing).  Interest value
  `07 25 | 08 01 61 | 02 20 SHA256(24 03 01 02 03) || 24 03 01 02 03 || 0a 00`
  (Name /a/params-sha256=e6a19fa8…, ApplicationParameters 010203, then an empty Nonce element) is accepted
  by the model's `readInterest Sha.sha256` AND by the Go decoder (`spec.Spec{}.ReadInterest` of the checked
  tree): the digest covers the ApplicationParameters element only, the trailing element is ignored
  (`nonce = none`).  So the suffix form does not hold, for the model and for the code alike.

  None of this affects `bitflip_detected_interest_digest`: the hash of whatever range is compared would
  have to collide with the original digest input (`hinj`), and a range of the right length that starts at
  or after the end of the unchanged head part is the altered portion itself. -/

end Ndn.C12
