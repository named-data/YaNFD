/-
  C04/Equations.lean — `Res.bind` equations, and the two header numbers of a loop iteration of C13/Model.lean read by
  `bind` from `decTLRes` instead of by `match` on `decTL` (`decTL_match2`): the form of the loops of SegmentedModel.lean.
-/
import NdnVerif.C13.Model
namespace Ndn.C04.Seg
open Ndn.C13

theorem if_not_fits {α : Type} (l : Nat) (rest : Bytes) (x y : α) :
    (if (!fits l rest) = true then x else y) = if l > rest.length then x else y := by
  simp [fits]

theorem bind_ok0 {α β : Type} (a : α) (f : α → Res β) : (Res.ok a 0).bind f = f a := by
  simp only [Res.bind]
  cases f a <;> simp

theorem bind_err {α β : Type} (n : Nat) (f : α → Res β) : (Res.err n : Res α).bind f = .err n := rfl
theorem bind_panic {α β : Type} (f : α → Res β) : (Res.panic : Res α).bind f = .panic := rfl
theorem bind_fuel {α β : Type} (f : α → Res β) : (Res.fuel : Res α).bind f = .fuel := rfl

def decTLRes (rest : Bytes) : Res (Nat × Bytes) :=
  match decTL rest with
  | none => .err 0
  | some x => .ok x 0

theorem decTL_match {β : Type} (rest : Bytes) (F : Nat → Bytes → Res β) :
    (match decTL rest with
      | none => .err 0
      | some (t, r1) => F t r1) = (decTLRes rest).bind fun (t, r1) => F t r1 := by
  unfold decTLRes
  cases decTL rest with
  | none => rfl
  | some x => obtain ⟨t, r1⟩ := x; simp only [bind_ok0]

theorem decTL_match2 {β : Type} (rest : Bytes) (K : Nat → Nat → Bytes → Res β) :
    (match decTL rest with
      | none => .err 0
      | some (typ, r1) =>
        match decTL r1 with
        | none => .err 0
        | some (l, r2) => K typ l r2)
    = (decTLRes rest).bind fun (typ, r1) => (decTLRes r1).bind fun (l, r2) => K typ l r2 :=
  (decTL_match rest _).trans (congrArg _ (funext fun x => decTL_match x.2 (K x.1)))

end Ndn.C04.Seg
