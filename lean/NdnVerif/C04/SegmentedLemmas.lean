/-
  C04/SegmentedLemmas.lean — the reader-based interpreter (SegmentedModel.lean) simulates the contiguous one
  (C13/Model.lean): on a healthy reader `At r b p` every operation behaves as its contiguous counterpart on
  `b.drop p` (same value, allocation counter, failure) and leaves a reader healthy over `b` where the contiguous
  reader stands.  All from the operation-level refinement `readerSpecs` / `readerSpecsX` of C03.  One statement
  `RelG (PV b p) (opR … r) (op … (b.drop p))` per operation; loops are compared bind by bind (`relG_bind`).
-/
import NdnVerif.C04.SegmentedModel
import NdnVerif.C04.Equations
import NdnVerif.C13.Codec
import NdnVerif.C03.LemmasLiftRd
namespace Ndn.C04.Seg
open Ndn.C13
open Ndn.C03 (Rd At readerSpecs readerSpecsX length_range)

def RelG {α β : Type} (P : α → β → Prop) : Res α → Res β → Prop
  | .ok a n, .ok b m => P a b ∧ n = m
  | .err n, .err m => n = m
  | .panic, .panic => True
  | .fuel, .fuel => True
  | _, _ => False

theorem relG_bind {α β γ δ : Type} {P : α → β → Prop} {Q : γ → δ → Prop} {x : Res α} {y : Res β}
    {f : α → Res γ} {g : β → Res δ} (h : RelG P x y) (hf : ∀ a b, P a b → RelG Q (f a) (g b)) :
    RelG Q (x.bind f) (y.bind g) := by
  cases x <;> cases y <;> try exact h.elim
  · obtain ⟨hp, rfl⟩ := h
    have := hf _ _ hp
    simp only [Res.bind]
    revert this
    cases f _ <;> cases g _ <;> intro this <;> try exact this.elim
    · exact ⟨this.1, congrArg _ this.2⟩
    · exact congrArg _ this
    · trivial
    · trivial
  · exact h
  · trivial
  · trivial

theorem relG_eq {α : Type} {x y : Res α} (h : RelG Eq x y) : x = y := by
  cases x <;> cases y <;> try exact h.elim
  · obtain ⟨rfl, rfl⟩ := h; rfl
  · exact congrArg _ h
  · rfl
  · rfl

theorem relG_of_eq {α : Type} {x y : Res α} (h : x = y) : RelG Eq x y := by
  subst h; cases x <;> simp [RelG]

theorem relG_ok {α β : Type} {P : α → β → Prop} {a : α} {b : β} (n : Nat) (h : P a b) :
    RelG P (.ok a n) (.ok b n) := ⟨h, rfl⟩

theorem relG_err {α β : Type} {P : α → β → Prop} (n : Nat) : RelG P (.err n : Res α) (.err n : Res β) :=
  rfl

theorem relG_ite {α β : Type} {P : α → β → Prop} {c : Prop} [Decidable c] {x x' : Res α} {y y' : Res β}
    (ht : c → RelG P x y) (hf : ¬ c → RelG P x' y') : RelG P (if c then x else x') (if c then y else y') := by
  by_cases h : c
  · rw [if_pos h, if_pos h]; exact ht h
  · rw [if_neg h, if_neg h]; exact hf h

theorem relG_mono {α β : Type} {P Q : α → β → Prop} {x : Res α} {y : Res β} (h : RelG P x y)
    (hpq : ∀ a b, P a b → Q a b) : RelG Q x y := by
  cases x <;> cases y <;> try exact h
  exact ⟨hpq _ _ h.1, h.2⟩

theorem relG_right {α β : Type} {P : α → β → Prop} {x : Res α} {y : Res β} (h : RelG P x y) :
    match (generalizing := false) y with
    | .ok b m => ∃ a, x = .ok a m ∧ P a b
    | .err m => x = .err m
    | .panic => x = .panic
    | .fuel => x = .fuel := by
  cases x <;> cases y <;> try exact h.elim
  · exact ⟨_, congrArg _ h.2, h.1⟩
  · exact congrArg _ h
  · rfl
  · rfl

def RS (b : Bytes) (p : Nat) (r' : Rd) (rest' : Bytes) : Prop :=
  ∃ p', p ≤ p' ∧ At r' b p' ∧ rest' = b.drop p'

def PV {α : Type} (b : Bytes) (p : Nat) (x : α × Rd) (y : α × Bytes) : Prop := x.1 = y.1 ∧ RS b p x.2 y.2

variable {r : Rd} {b : Bytes} {p : Nat}

theorem At_le (h : At r b p) : p ≤ b.length := h.2.2

theorem rs_mono {b : Bytes} {p q : Nat} {r' : Rd} {rest' : Bytes} (hq : q ≤ p) (h : RS b p r' rest') :
    RS b q r' rest' := by
  obtain ⟨p', h1, h2, h3⟩ := h
  exact ⟨p', Nat.le_trans hq h1, h2, h3⟩

theorem PV.mono {α : Type} {b : Bytes} {p q : Nat} {x : α × Rd} {y : α × Bytes} (hq : q ≤ p)
    (h : PV b p x y) : PV b q x y := ⟨h.1, rs_mono hq h.2⟩

theorem rs_refl (h : At r b p) : RS b p r (b.drop p) := ⟨p, Nat.le_refl _, h, rfl⟩

theorem rs_adv {r' : Rd} {b : Bytes} {p l : Nat} (h : At r' b (p + l)) : RS b p r' ((b.drop p).drop l) :=
  ⟨p + l, Nat.le_add_right _ _, h, List.drop_drop ..⟩

def SimRead (sr : Nat → Bool → Rd → Res (Val × Rd)) (s : Nat → Bool → Bytes → Res (Val × Bytes)) : Prop :=
  ∀ l ic r b p, At r b p → RelG (PV b p) (sr l ic r) (s l ic (b.drop p))

theorem drop_eq_nil_iff' (b : Bytes) (p : Nat) : b.drop p = [] ↔ p ≥ b.length := List.drop_eq_nil_iff

theorem over_of_gt {n p l : Nat} (h : l > n - p) : p + l > n := by omega
theorem fits_of_not_gt {n p l : Nat} (hp : p ≤ n) (h : ¬ l > n - p) : p + l ≤ n := by omega

theorem pos_eq (h : At r b p) : r.pos = p := readerSpecs.pos_eq r b p h
theorem length_eq (h : At r b p) : r.length = b.length :=
  readerSpecs.length_eq r b p h

theorem rdByte_cases (h : At r b p) :
    (b.drop p = [] ∧ rdByte r = .err 0) ∨
    ∃ x r', b.drop p = x :: b.drop (p + 1) ∧ rdByte r = .ok (x, r') 0 ∧ At r' b (p + 1) := by
  by_cases hp : p < b.length
  · obtain ⟨r', e, a, _⟩ := readerSpecs.readByte_ok r b p h hp
    exact .inr ⟨_, r', C03.drop_eq_cons b p hp, by rw [rdByte, e]; rfl, a⟩
  · exact .inl ⟨(drop_eq_nil_iff' b p).mpr (Nat.le_of_not_lt hp),
      by rw [rdByte, readerSpecs.readByte_eof r b p h (Nat.le_of_not_lt hp)]; rfl⟩

theorem bytesLoopR_cases (tr : Nat → Nat) : ∀ (n acc : Nat) (r : Rd) (p : Nat), At r b p →
    ((b.drop p).length < n ∧ bytesLoopR tr n acc r = .err 0) ∨
    (¬ (b.drop p).length < n ∧ ∃ r', bytesLoopR tr n acc r =
        .ok (((b.drop p).take n).foldl (fun a x => tr (a * 256 + x)) acc, r') 0 ∧ At r' b (p + n)) := by
  intro n
  induction n with
  | zero => intro acc r p h; exact .inr ⟨Nat.not_lt_zero _, r, rfl, h⟩
  | succ n ih =>
    intro acc r p h
    rcases rdByte_cases h with ⟨hd, e⟩ | ⟨x, r1, hd, e1, a1⟩ <;> rw [hd]
    · exact .inl ⟨Nat.succ_pos n, by rw [bytesLoopR, e]; rfl⟩
    · simp only [bytesLoopR, e1, bind_ok0, List.take_succ_cons, List.foldl_cons, List.length_cons,
        Nat.add_lt_add_iff_right]
      exact Nat.add_right_comm p 1 n ▸ ih (tr (acc * 256 + x)) r1 (p + 1) a1

theorem foldl_be (t : Bytes) : ∀ acc : Nat,
    t.foldl (fun a x => id (a * 256 + x)) acc = acc * 256 ^ t.length + beDec t := by
  induction t with
  | nil => intro acc; simp [beDec]
  | cons x t ih =>
    intro acc
    simp only [List.foldl_cons]
    rw [ih]
    simp only [beDec, id, List.length_cons, Nat.pow_succ]
    rw [Nat.add_mul, Nat.mul_assoc, Nat.mul_comm 256, Nat.add_assoc]

theorem readTLNumR_cases (h : At r b p) :
    (decTL (b.drop p) = none ∧ readTLNumR r = .err 0) ∨
    ∃ v r' p', decTL (b.drop p) = some (v, b.drop p') ∧ readTLNumR r = .ok (v, r') 0 ∧ p < p' ∧ At r' b p' := by
  rcases rdByte_cases h with ⟨hd, e⟩ | ⟨x, r1, hd, e1, a1⟩ <;> rw [hd]
  · exact .inl ⟨rfl, by rw [readTLNumR, e]; rfl⟩
  · simp only [decTL, readTLNumR, e1, bind_ok0]
    by_cases hx : x ≤ 0xfc
    · rw [if_pos hx]
      exact .inr ⟨_, r1, p + 1, rfl, if_pos hx, Nat.lt_succ_self p, a1⟩
    · rw [if_neg hx]
      rcases bytesLoopR_cases id (tlExtra x) 0 r1 (p + 1) a1 with ⟨hl, e2⟩ | ⟨hl, r', e2, a2⟩
      · rw [if_pos hl]
        exact .inl ⟨rfl, (if_neg hx).trans e2⟩
      · rw [if_neg hl, List.drop_drop]
        refine .inr ⟨_, r', p + 1 + tlExtra x, rfl, ?_,
          Nat.lt_of_lt_of_le (Nat.lt_succ_self p) (Nat.le_add_right ..), a2⟩
        rw [if_neg hx, e2, foldl_be, Nat.zero_mul, Nat.zero_add]

theorem readTLNumR_sim {r : Rd} {b : Bytes} {p : Nat} (h : At r b p) :
    RelG (PV b (p + 1)) (readTLNumR r) (decTLRes (b.drop p)) := by
  rcases readTLNumR_cases h with ⟨hd, e⟩ | ⟨v, r', p', hd, e, hlt, a⟩ <;> rw [decTLRes, hd, e]
  · exact relG_err 0
  · exact relG_ok 0 ⟨rfl, p', hlt, a, rfl⟩

theorem skipR_sim (l : Nat) (h : At r b p) :
    RelG (RS b p) (skipR l r) (skipN l (b.drop p)) := by
  unfold skipR skipN
  refine relG_ite (fun _ => relG_err 0) fun _ => ?_
  rw [List.length_drop]
  by_cases hl : l > b.length - p
  · rw [if_pos hl, readerSpecsX.skip_err r b p l h (over_of_gt hl)]; exact relG_err 0
  · obtain ⟨r', e, a⟩ := readerSpecsX.skip_ok r b p l h (fits_of_not_gt (At_le h) hl)
    rw [if_neg hl, e]
    exact relG_ok 0 (rs_adv a)

theorem readUintLoopR_sim (w : Nat) (l : Nat) (h : At r b p) :
    RelG (PV b p) (readUintLoopR w l r) (readUintLoop w l (b.drop p)) := by
  unfold readUintLoopR readUintLoop
  refine relG_ite (fun _ => relG_ok 0 ⟨rfl, rs_refl h⟩) fun _ => ?_
  rcases bytesLoopR_cases (· % 256 ^ w) l 0 r p h with ⟨hl, e⟩ | ⟨hl, r', e, a⟩
  · rw [if_pos hl, e]; exact relG_err 0
  · rw [if_neg hl, e, bind_ok0]
    exact relG_ok 0 ⟨congrArg Val.nat (foldl_beDecMod w _ 0), rs_adv a⟩

theorem readNatLoopR_sim {r : Rd} {b : Bytes} {p : Nat} (l : Nat) (h : At r b p) :
    RelG (PV b p) (readNatLoopR l r) (readNatLoop l (b.drop p)) := by
  exact relG_ite (fun _ => readUintLoopR_sim 8 l h) fun _ => relG_err 0

theorem readWireR_sim (l : Nat) (h : At r b p) :
    RelG (PV b p) (readWireR l r) (readWire l (b.drop p)) := by
  unfold readWireR readWire
  refine relG_ite (fun _ => relG_err 0) fun _ => ?_
  rw [List.length_drop]
  -- the extra test of the BufferReader (nothing left and `l > 0`) is a case of `l > rest.length`
  by_cases hl : l > b.length - p
  · rw [readerSpecs.readWire_err r b p l h (over_of_gt hl), lift, bind_err]
    by_cases h1 : b.drop p = [] ∧ l > 0
    · rw [if_pos h1]; exact relG_err 0
    · rw [if_neg h1, if_pos hl]; exact relG_err 0
  · obtain ⟨r', e, a⟩ := readerSpecs.readWire_ok r b p l h (fits_of_not_gt (At_le h) hl)
    have h1 : ¬ (b.drop p = [] ∧ l > 0) := fun ⟨h1, h2⟩ =>
      hl (by rw [Nat.sub_eq_zero_of_le ((drop_eq_nil_iff' b p).mp h1)]; exact h2)
    rw [if_neg h1, if_neg hl, e, lift, bind_ok0]
    exact relG_ok 0 ⟨rfl, rs_adv a⟩

theorem delegateR_sim (l : Nat) (h : At r b p) :
    RelG (fun (x : Rd × Rd) (y : Bytes × Bytes) => At x.1 y.1 0 ∧ RS b p x.2 y.2)
      (delegateR l r) (.ok (delegate l (b.drop p)) 0) := by
  unfold delegateR delegate
  by_cases hg : goInt l < 0
  · rw [if_pos hg, if_pos (.inl hg)]
    exact relG_ok 0 ⟨C03.at_newBufferReader [], rs_refl h⟩
  · rw [if_neg hg, List.length_drop]
    by_cases hl : l > b.length - p
    · obtain ⟨r', e, a⟩ := readerSpecsX.delegate_oob r b p l h (over_of_gt hl)
      rw [if_pos (.inr hl), e]
      exact relG_ok 0 ⟨C03.at_newBufferReader [], rs_refl a⟩
    · obtain ⟨sub, r', e, as, a⟩ := readerSpecs.delegate_ok r b p l h (fits_of_not_gt (At_le h) hl)
      rw [if_neg (fun hc => hc.elim hg hl), e]
      exact relG_ok 0 ⟨as, rs_adv a⟩

/- Names.  `decComps` decodes inside the window `[q, e)` of the value bytes; the Go loop reads from the main
   reader, which sees the whole buffer, and compares positions with `endName = e` afterwards.  What ends
   inside the window is the same for both; what does not is missing from the window, and the Go loop,
   once beyond `e`, can only fail. -/

theorem decTL_take_none {s : Bytes} (k : Nat) (h : decTL s = none) : decTL (s.take k) = none := by
  cases s with
  | nil => rw [List.take_nil]; rfl
  | cons x t =>
    cases k with
    | zero => rfl
    | succ k =>
      rw [decTL_cons] at h
      rw [List.take_succ_cons, decTL_cons]
      by_cases hl : t.length < tlExtra x
      · exact if_pos (Nat.lt_of_le_of_lt (by rw [List.length_take]; exact Nat.min_le_right ..) hl)
      · rw [if_neg hl] at h; cases h

/-- `c`: the number of octets of the TL number -/
theorem decTL_take_some {s rest : Bytes} {v : Nat} (h : decTL s = some (v, rest)) {c : Nat}
    (hc : rest.length + c = s.length) (k : Nat) :
    decTL (s.take k) = if c ≤ k then some (v, rest.take (k - c)) else none := by
  cases s with
  | nil => cases h
  | cons x t =>
    rw [decTL_cons] at h
    by_cases hl : t.length < tlExtra x
    · rw [if_pos hl] at h; cases h
    · rw [if_neg hl] at h
      cases h
      rw [List.length_drop, List.length_cons] at hc
      have hce : c = tlExtra x + 1 := by omega
      subst hce
      cases k with
      | zero => rfl
      | succ k =>
        rw [List.take_succ_cons, decTL_cons, List.length_take]
        by_cases hk : tlExtra x ≤ k
        · rw [if_neg (Nat.not_lt.mpr (Nat.le_min.mpr ⟨hk, Nat.le_of_not_lt hl⟩)), if_pos (Nat.succ_le_succ hk),
            List.take_take, List.drop_take, Nat.min_eq_left hk, Nat.add_sub_add_right]
        · rw [if_pos (Nat.lt_of_le_of_lt (Nat.min_le_left ..) (Nat.lt_of_not_le hk)),
            if_neg (mt Nat.le_of_succ_le_succ hk)]

theorem readTL_window {r : Rd} {b : Bytes} {q e : Nat} (h : At r b q) (hqe : q ≤ e) :
    (∃ v r1 q1, decTL ((b.drop q).take (e - q)) = some (v, (b.drop q1).take (e - q1)) ∧
        readTLNumR r = .ok (v, r1) 0 ∧ q < q1 ∧ q1 ≤ e ∧ At r1 b q1)
    ∨ decTL ((b.drop q).take (e - q)) = none ∧
        (readTLNumR r = .err 0 ∨ ∃ v r1 q1, readTLNumR r = .ok (v, r1) 0 ∧ e < q1 ∧ At r1 b q1) := by
  rcases readTLNumR_cases h with ⟨hd, e1⟩ | ⟨v, r1, q1, hd, e1, hq1, a1⟩
  · exact .inr ⟨decTL_take_none _ hd, .inl e1⟩
  · have hw := decTL_take_some hd (c := q1 - q)
      (by rw [List.length_drop, List.length_drop]; exact Nat.sub_add_sub_cancel (At_le a1) (Nat.le_of_lt hq1)) (e - q)
    by_cases hle : q1 ≤ e
    · refine .inl ⟨v, r1, q1, ?_, e1, hq1, hle, a1⟩
      rw [hw, if_pos (Nat.sub_le_sub_right hle q), Nat.sub_sub, Nat.add_sub_cancel' (Nat.le_of_lt hq1)]
    · exact .inr ⟨by rw [hw, if_neg (mt (Nat.sub_le_sub_iff_right hqe).mp hle)],
        .inr ⟨v, r1, q1, e1, Nat.lt_of_not_le hle, a1⟩⟩

theorem nameLoopR_past {e n : Nat} {r : Rd} {b : Bytes} {q : Nat} (h : At r b q) (hq : q > e) :
    nameLoopR e n r = .err 0 := by
  have hne : r.pos ≠ e := by rw [pos_eq h]; exact Nat.ne_of_gt hq
  cases n with
  | zero => rw [nameLoopR, nameExit, if_pos hne]
  | succ n => rw [nameLoopR, if_pos (by rw [pos_eq h]; exact Nat.le_of_lt hq), nameExit, if_pos hne]

theorem readBuf_past {α : Type} {e n l : Nat} {r : Rd} {b : Bytes} {q : Nat} (h : At r b q) (hq : q + l > e)
    (G : Bytes × Rd → Name × Rd → Res α) :
    ((lift (r.readBuf l)).bind fun p3 => (nameLoopR e n p3.2).bind (G p3)) = .err 0 := by
  by_cases hl : q + l ≤ b.length
  · obtain ⟨r3, e3, a3⟩ := readerSpecs.readBuf_ok r b q l h hl
    rw [e3, lift, bind_ok0, nameLoopR_past a3 hq, bind_err]
  · rw [readerSpecs.readBuf_err r b q l h (Nat.lt_of_not_le hl)]; rfl

/-- a bound `k + c` on what is left at `q` (components, fuel) is `k` after a step of at least `c` octets -/
theorem bound_step {e q q2 l k c : Nat} (h : e < q + (k + c)) (hq : q + c ≤ q2) : e < q2 + l + k := by omega

/-- `n` bounds the components left (the Go `range` count; each takes two octets at least), `f` is the fuel of
    `decComps`; both cover what is left up to `endName = e` -/
theorem nameLoopR_spec (b : Bytes) (e : Nat) (he : e ≤ b.length) :
    ∀ (f n : Nat) (r : Rd) (q : Nat), At r b q → q ≤ e → e < q + 2 * n → e < q + f →
      match decComps f ((b.drop q).take (e - q)) with
      | some cs => ∃ r', nameLoopR e n r = .ok (cs, r') 0 ∧ At r' b e
      | none => nameLoopR e n r = .err 0 := by
  intro f
  induction f with
  | zero => intro n r q _ hqe _ hf; exact absurd hf (Nat.not_lt.mpr hqe)
  | succ f ih =>
    intro n r q h hqe hn hf
    cases n with
    | zero => exact absurd hn (Nat.not_lt.mpr hqe)
    | succ n =>
      rw [nameLoopR, decComps, pos_eq h]
      by_cases hq : q = e
      · subst hq
        rw [Nat.sub_self, List.take_zero, if_pos rfl, if_pos (Nat.le_refl _), nameExit, pos_eq h,
          if_neg (fun h => h rfl)]
        exact ⟨r, rfl, h⟩
      · have hlt : q < e := Nat.lt_of_le_of_ne hqe hq
        rw [if_neg (List.ne_nil_of_length_pos (by rw [length_range he]; exact Nat.sub_pos_of_lt hlt)),
          if_neg (Nat.not_le.mpr hlt)]
        rcases readTL_window h hqe with
          ⟨t, r1, q1, hw1, e1, hlt1, hle1, a1⟩ | ⟨hw1, e1 | ⟨t, r1, q1, e1, hgt1, a1⟩⟩
        · rw [hw1, e1, bind_ok0]
          simp only
          rcases readTL_window a1 hle1 with
            ⟨l, r2, q2, hw2, e2, hlt2, hle2, a2⟩ | ⟨hw2, e2 | ⟨l, r2, q2, e2, hgt2, a2⟩⟩
          · rw [hw2, e2, bind_ok0]
            simp only [length_range he]
            by_cases hl : l > e - q2
            · rw [if_pos hl]
              exact readBuf_past a2 (over_of_gt hl) _
            · have hl' : q2 + l ≤ e := fits_of_not_gt hle2 hl
              have h2 : q + 2 ≤ q2 := Nat.succ_le_of_lt (Nat.lt_of_le_of_lt (Nat.succ_le_of_lt hlt1) hlt2)
              obtain ⟨r3, e3, a3⟩ := readerSpecs.readBuf_ok r2 b q2 l a2 (Nat.le_trans hl' he)
              rw [if_neg hl, e3, lift, bind_ok0]
              have := ih n r3 (q2 + l) a3 hl' (bound_step hn h2) (bound_step hf (Nat.le_of_succ_le h2))
              rw [List.drop_take, List.drop_drop, List.take_take, Nat.min_eq_left (Nat.le_of_not_lt hl), Nat.sub_sub]
              revert this
              cases decComps f ((b.drop (q2 + l)).take (e - (q2 + l))) with
              | none => intro this; rw [this]; rfl
              | some cs =>
                rintro ⟨r', e4, a4⟩
                rw [e4, bind_ok0]
                exact ⟨r', rfl, a4⟩
          · rw [hw2, e2]; rfl
          · rw [hw2, e2, bind_ok0]
            exact readBuf_past a2 (Nat.lt_of_lt_of_le hgt2 (Nat.le_add_right ..)) _
        · rw [hw1, e1]; rfl
        · rw [hw1, e1, bind_ok0]
          rcases readTLNumR_cases a1 with ⟨_, e2⟩ | ⟨l, r2, q2, _, e2, hq2, a2⟩
          · rw [e2]; rfl
          · rw [e2, bind_ok0]
            exact readBuf_past a2 (Nat.lt_of_lt_of_le hgt1 (Nat.le_trans (Nat.le_of_lt hq2) (Nat.le_add_right ..))) _

theorem readNameR_sim (l : Nat) (h : At r b p) :
    RelG (PV b p) (readNameR l r) (readName l (b.drop p)) := by
  unfold readNameR readName
  rw [pos_eq h, length_eq h, if_not_fits, List.length_drop]
  refine relG_ite (fun _ => relG_err 0) fun hl => relG_bind (relG_of_eq rfl) fun _ _ _ => ?_
  have hs := nameLoopR_spec b (p + l) (fits_of_not_gt (At_le h) hl) (l + 1) (l / 2 + 1) r p h
    (Nat.le_add_right ..) (by omega) (Nat.lt_succ_self _)
  rw [Nat.add_sub_cancel_left] at hs
  revert hs
  cases decComps (l + 1) ((b.drop p).take l) with
  | none => intro hs; rw [hs]; exact relG_err 0
  | some cs =>
    rintro ⟨r', e1, a1⟩
    rw [e1, bind_ok0]
    exact relG_ok 0 ⟨rfl, rs_adv a1⟩

structure SlotSim (sr : SlotR) (s : Slot) : Prop where
  typ : sr.typ = s.typ
  hasTyp : sr.hasTyp = s.hasTyp
  required : sr.required = s.required
  multi : sr.multi = s.multi
  init : sr.init = s.init
  read : SimRead sr.read s.read

inductive SlotsSim : List SlotR → List Slot → Prop
  | nil : SlotsSim [] []
  | cons {sr : SlotR} {s : Slot} {srs : List SlotR} {ss : List Slot} :
      SlotSim sr s → SlotsSim srs ss → SlotsSim (sr :: srs) (s :: ss)

variable {srs : List SlotR} {ss : List Slot}

theorem headInitR_eq (h : SlotsSim srs ss) : headInitR srs = headInit ss := by
  cases h with
  | nil => rfl
  | cons h1 _ => exact h1.init

theorem initAccR_eq (h : SlotsSim srs ss) : initAccR srs = initAcc ss := by
  induction h with
  | nil => rfl
  | cons h1 _ ih => rw [initAccR, initAcc, h1.init, ih]

theorem knownTypR_eq (h : SlotsSim srs ss) (typ : Nat) :
    knownTypR srs typ = knownTyp ss typ := by
  unfold knownTypR knownTyp
  induction h with
  | nil => rfl
  | cons h1 _ ih => rw [List.any_cons, List.any_cons, h1.hasTyp, h1.typ, ih]

theorem finishUR_eq (h : SlotsSim srs ss) :
    ∀ acc, finishUR srs acc = finishU ss acc := by
  induction h with
  | nil => intro acc; rfl
  | @cons sr s _ _ h1 _ ih =>
    intro acc
    simp only [finishUR, finishU, h1.required, ih]
    cases acc.head <;> cases s.required <;> rfl

theorem finishOR_eq (h : SlotsSim srs ss) :
    ∀ cur, finishOR srs cur = finishO ss cur := by
  induction h with
  | nil => intro cur; rfl
  | cons h1 h2 ih => intro cur; rw [finishOR, finishO, h1.required, ih, headInitR_eq h2]

def PO (b : Bytes) (p : Nat) : Option (Vals × Rd) → Option (Vals × Bytes) → Prop
  | none, none => True
  | some x, some y => PV b p x y
  | _, _ => False

theorem stepUR_sim (hs : SlotsSim srs ss) (typ l : Nat) (ic : Bool) (h : At r b p) :
    ∀ acc, RelG (PO b p) (stepUR srs typ l ic r acc) (stepU ss typ l ic (b.drop p) acc) := by
  induction hs with
  | nil => intro acc; exact relG_ok 0 trivial
  | cons h1 _ ih =>
    intro acc
    rw [stepUR, stepU, h1.hasTyp, h1.typ, h1.multi]
    refine relG_ite (fun _ => relG_bind (h1.read l ic r b p h) ?_) fun _ => relG_bind (ih acc.tail) ?_
    · rintro ⟨v, r'⟩ ⟨_, rest'⟩ ⟨rfl, hrs⟩
      exact relG_ok 0 ⟨rfl, hrs⟩
    · rintro (_ | ⟨v, r'⟩) (_ | ⟨_, rest'⟩) ho <;> try exact ho.elim
      · exact relG_ok 0 trivial
      · obtain ⟨rfl, hrs⟩ := ho
        exact relG_ok 0 ⟨rfl, hrs⟩

theorem loopUR_eq (hs : SlotsSim srs ss) (ic : Bool) (b : Bytes) :
    ∀ (f : Nat) (r : Rd) (p : Nat) (acc : Vals), At r b p →
      loopUR srs ic f r acc = loopU ss ic f (b.drop p) acc := by
  intro f
  induction f with
  | zero => intro r p acc _; rfl
  | succ f ih =>
    intro r p acc h
    rw [loopUR, loopU, pos_eq h, length_eq h]
    by_cases hp : p ≥ b.length
    · rw [if_pos hp, if_pos ((drop_eq_nil_iff' b p).mpr hp)]; exact finishUR_eq hs acc
    · rw [if_neg hp, if_neg (mt (drop_eq_nil_iff' b p).mp hp)]
      refine (relG_eq ?_).trans (decTL_match2 (b.drop p) _).symm
      refine relG_bind (readTLNumR_sim h) ?_
      rintro ⟨typ, r1⟩ ⟨_, _⟩ ⟨rfl, p1, _, a1, rfl⟩
      refine relG_bind (readTLNumR_sim a1) ?_
      rintro ⟨l, r2⟩ ⟨_, _⟩ ⟨rfl, p2, _, a2, rfl⟩
      refine relG_bind (stepUR_sim hs typ l ic a2 acc) ?_
      rintro (_ | ⟨acc', r3⟩) (_ | ⟨_, _⟩) ho <;> try exact ho.elim
      · refine relG_ite (fun _ => relG_err 0) fun _ => relG_bind (skipR_sim l a2) ?_
        rintro r3 _ ⟨p3, _, a3, rfl⟩
        exact relG_of_eq (ih r3 p3 acc a3)
      · obtain ⟨rfl, p3, _, a3, rfl⟩ := ho
        exact relG_of_eq (ih r3 p3 acc' a3)

def POo (b : Bytes) (p : Nat) : StepOR → StepO → Prop
  | .at p1 rem1 c1 r1, .at p2 rem2 c2 rest2 => p1 = p2 ∧ SlotsSim rem1 rem2 ∧ c1 = c2 ∧ RS b p r1 rest2
  | .exhausted p1, .exhausted p2 => p1 = p2
  | _, _ => False

theorem stepOR_sim (hs : SlotsSim srs ss) (typ l : Nat) (ic : Bool) (h : At r b p) :
    ∀ cur, RelG (POo b p) (stepOR srs cur typ l ic r) (stepO ss cur typ l ic (b.drop p)) := by
  induction hs with
  | nil => intro cur; exact relG_ok 0 rfl
  | @cons sr s srs' ss' h1 h2 ih =>
    intro cur
    rw [stepOR, stepO, h1.hasTyp, h1.typ, h1.multi, h1.required, headInitR_eq h2]
    refine relG_ite (fun _ => relG_bind (h1.read l ic r b p h) ?_) fun _ =>
      relG_ite (fun _ => relG_err 0) fun _ => relG_bind (ih (headInit ss')) ?_
    · rintro ⟨v, r'⟩ ⟨_, rest'⟩ ⟨rfl, hrs⟩
      exact relG_ite (fun _ => relG_ok 0 ⟨rfl, SlotsSim.cons h1 h2, rfl, hrs⟩) fun _ => relG_ok 0 ⟨rfl, h2, rfl, hrs⟩
    · rintro (⟨q1, rem1, c1, r1⟩ | q1) (⟨_, rem2, _, rest2⟩ | _) ho <;> try exact ho.elim
      · obtain ⟨rfl, hrem, rfl, hrs⟩ := ho
        exact relG_ok 0 ⟨rfl, hrem, rfl, hrs⟩
      · exact relG_ok 0 (congrArg _ ho)

def StSim : Option (List SlotR × Val) → Option (List Slot × Val) → Prop
  | none, none => True
  | some x, some y => SlotsSim x.1 y.1 ∧ x.2 = y.2
  | _, _ => False

theorem loopOR_eq (hs : SlotsSim srs ss) (ic : Bool) (b : Bytes) :
    ∀ (f : Nat) (st : Option (List SlotR × Val)) (st' : Option (List Slot × Val)) (r : Rd) (p : Nat),
      StSim st st' → At r b p → loopOR srs ic f st r = loopO ss ic f st' (b.drop p) := by
  intro f
  induction f with
  | zero => intro st st' r p _ _; rfl
  | succ f ih =>
    intro st st' r p hst h
    rw [loopOR.eq_def, loopO.eq_def]
    show (if r.pos ≥ r.length then _ else _) = if b.drop p = [] then _ else _
    rw [pos_eq h, length_eq h]
    by_cases hp : p ≥ b.length
    · rw [if_pos hp, if_pos ((drop_eq_nil_iff' b p).mpr hp)]
      rcases st with _ | ⟨rem, cur⟩ <;> rcases st' with _ | ⟨rem', _⟩ <;> try exact hst.elim
      · rfl
      · obtain ⟨h1, rfl⟩ := hst
        exact finishOR_eq h1 cur
    · rw [if_neg hp, if_neg (mt (drop_eq_nil_iff' b p).mp hp)]
      refine (relG_eq ?_).trans (decTL_match2 (b.drop p) _).symm
      refine relG_bind (readTLNumR_sim h) ?_
      rintro ⟨typ, r1⟩ ⟨_, _⟩ ⟨rfl, p1, _, a1, rfl⟩
      refine relG_bind (readTLNumR_sim a1) ?_
      rintro ⟨l, r2⟩ ⟨_, _⟩ ⟨rfl, p2, _, a2, rfl⟩
      rcases st with _ | ⟨rem, cur⟩ <;> rcases st' with _ | ⟨rem', _⟩ <;> try exact hst.elim
      · exact relG_of_eq (ih none none r2 p2 trivial a2)
      · obtain ⟨hrem, rfl⟩ := hst
        show RelG Eq (if _ then _ else _) (if _ then _ else _)
        rw [knownTypR_eq hs]
        refine relG_ite (fun _ => relG_bind (stepOR_sim hrem typ l ic a2 cur) ?_) fun _ =>
          relG_ite (fun _ => relG_err 0) fun _ => relG_bind (skipR_sim l a2) ?_
        · rintro (⟨q1, rem1, c1, r3⟩ | q1) (⟨_, rem2, _, _⟩ | _) ho <;> try exact ho.elim
          · obtain ⟨rfl, hrem1, rfl, p3, _, a3, rfl⟩ := ho
            simp only
            rw [ih (some (rem1, c1)) (some (rem2, c1)) r3 p3 ⟨hrem1, rfl⟩ a3]
            exact relG_of_eq rfl
          · cases ho
            simp only
            rw [ih none none r2 p2 trivial a2]
            exact relG_of_eq rfl
        · rintro r3 _ ⟨p3, _, a3, rfl⟩
          exact relG_of_eq (ih (some (rem, cur)) (some (rem', cur)) r3 p3 ⟨hrem, rfl⟩ a3)

theorem runSlotsR_eq (hs : SlotsSim srs ss) (ord ic : Bool) (h : At r b p) :
    runSlotsR ord srs ic r = runSlots ord ss ic (b.drop p) := by
  unfold runSlotsR runSlots
  rw [pos_eq h, length_eq h, List.length_drop]
  cases ord with
  | true => exact loopOR_eq hs ic b _ (some (srs, _)) (some (ss, _)) r p ⟨hs, headInitR_eq hs⟩ h
  | false => rw [initAccR_eq hs]; exact loopUR_eq hs ic b _ r p _ h

theorem readMapR_sim {rkR rvR : Nat → Bool → Rd → Res (Val × Rd)} {rk rv : Nat → Bool → Bytes → Res (Val × Bytes)}
    (hk : SimRead rkR rk) (hv : SimRead rvR rv) (vt : Nat) : SimRead (readMapR rkR rvR vt) (readMap rk rv vt) := by
  intro l ic r b p h
  rw [readMapR, readMap]
  refine relG_bind (hk l ic r b p h) ?_
  rintro ⟨k, r0⟩ ⟨_, _⟩ ⟨rfl, p0, hp0, a0, rfl⟩
  refine (congrArg (RelG _ _) (decTL_match2 (b.drop p0) _)).mpr ?_
  refine relG_bind (readTLNumR_sim a0) ?_
  rintro ⟨typ, r1⟩ ⟨_, _⟩ ⟨rfl, p1, hp1, a1, rfl⟩
  refine relG_bind (readTLNumR_sim a1) ?_
  rintro ⟨l2, r2⟩ ⟨_, _⟩ ⟨rfl, p2, hp2, a2, rfl⟩
  refine relG_ite (fun _ => relG_err 0) fun _ => relG_bind (hv l2 ic r2 b p2 a2) ?_
  rintro ⟨v, r3⟩ ⟨_, rest3⟩ ⟨rfl, hrs⟩
  exact relG_ok 0 ⟨rfl, rs_mono (Nat.le_trans hp0 (Nat.le_trans (Nat.le_of_lt hp1) (Nat.le_of_lt hp2))) hrs⟩

mutual
theorem readKindR_sim : ∀ k, SimRead (readKindR k) (readKind k)
  | .natural _ => fun l _ _ _ _ h => readNatLoopR_sim l h
  | .time _ => fun l ic r b p h => by
      refine relG_bind (readNatLoopR_sim l h) ?_
      rintro ⟨v, r'⟩ ⟨_, rest'⟩ ⟨rfl, hrs⟩
      cases v <;> exact relG_ok 0 ⟨rfl, hrs⟩
  | .fixedUint w o => fun l ic r b p h => by
      -- the definition matches the literal width 1 before the general `w`
      by_cases hw : w = 1
      · subst hw
        rw [readKindR.eq_def, readKind.eq_def]
        simp only
        rcases rdByte_cases h with ⟨hd, e⟩ | ⟨x, r1, hd, e1, a1⟩ <;> rw [hd]
        · rw [e]; exact relG_err 0
        · rw [e1, bind_ok0]; exact relG_ok 0 ⟨rfl, p + 1, Nat.le_succ p, a1, rfl⟩
      · rw [readKindR.eq_def, readKind.eq_def]
        simp only
        exact readUintLoopR_sim w l h
  | .bool => fun _ _ _ _ _ h => relG_ok 0 ⟨rfl, rs_refl h⟩
  | .binary => fun l ic r b p h => by
      show RelG _ (if l > r.length - r.pos then _ else _) (if (!fits l (b.drop p)) = true then _ else _)
      rw [pos_eq h, length_eq h, if_not_fits, List.length_drop]
      refine relG_ite (fun _ => relG_err 0) fun hl => relG_bind (relG_of_eq rfl) fun _ _ _ => ?_
      obtain ⟨r', e, a⟩ := readerSpecs.readFull_ok r b p l h (fits_of_not_gt (At_le h) hl)
      rw [e, lift, bind_ok0]
      exact relG_ok 0 ⟨rfl, rs_adv a⟩
  | .string _ => fun l ic r b p h => by
      refine relG_ite (fun _ => relG_ok 0 ⟨rfl, rs_refl h⟩) fun _ => ?_
      rw [List.length_drop]
      by_cases hl : l > b.length - p
      · rw [if_pos hl, readerSpecs.readFull_err r b p l h (over_of_gt hl), pos_eq h, length_eq h]
        exact relG_err _
      · obtain ⟨r', e, a⟩ := readerSpecs.readFull_ok r b p l h (fits_of_not_gt (At_le h) hl)
        rw [if_neg hl, e]
        exact relG_ok l ⟨rfl, rs_adv a⟩
  | .wire => fun l _ _ _ _ h => readWireR_sim l h
  | .signature => fun l _ _ _ _ h => readWireR_sim l h
  | .name => fun l _ _ _ _ h => readNameR_sim l h
  | .interestName => fun l _ _ _ _ h => readNameR_sim l h
  | .struct ord fs => fun l ic r b p h => by
      obtain ⟨⟨sub, r'⟩, hdr, hsub, hrs⟩ := relG_right (delegateR_sim l h)
      show RelG _ ((delegateR l r).bind _) _
      rw [hdr, bind_ok0]
      have e := runSlotsR_eq (compileR_sim fs) ord ic hsub
      rw [List.drop_zero] at e
      refine relG_bind (g := fun vs => Res.ok (Val.struct vs, (delegate l (b.drop p)).2) 0) (relG_of_eq e) ?_
      rintro vs _ rfl
      exact relG_ok 0 ⟨rfl, hrs⟩
  | .seq sub => fun l ic r b p h => readKindR_sim sub l ic r b p h
  | .map kk vt vk => fun l ic r b p h => readMapR_sim (readKindR_sim kk) (readKindR_sim vk) vt l ic r b p h
  | .marker => fun _ _ _ _ _ h => relG_ok 0 ⟨rfl, rs_refl h⟩
theorem compileR_sim : ∀ fs, SlotsSim (compileR fs) (compile fs)
  | .nil => SlotsSim.nil
  | .cons _ k fs => SlotsSim.cons ⟨rfl, rfl, rfl, rfl, rfl, readKindR_sim k⟩ (compileR_sim fs)
end

end Ndn.C04.Seg
