/-
  C04/LinkLemmas.lean — link-service receive path and readTlvStream framing loop: each function of the
  model is analysed once (`reassemble_cases`, `handleFrame_cases`, `inner_spec`).
-/
import NdnVerif.C04.Model
import NdnVerif.C05.Assoc
import NdnVerif.Base.Code
namespace Ndn.C04

theorem getThread_some (n id : Nat) :
    ∃ r, getThread n id = some r ∧ (∀ i, r = some i → i < n) := by
  unfold getThread
  by_cases h : id ≥ n
  · exact ⟨none, if_pos h, fun i hi => nomatch hi⟩
  · have h' : id < n := Nat.lt_of_not_le h
    exact ⟨some id, by rw [if_neg h, if_pos h'], fun i hi => Option.some.inj hi ▸ h'⟩

theorem dispatchL3_shape (c : Cfg) (st : LinkSt) (p : Pkt) (tok : Option Bytes) :
    ∃ st' d, dispatchL3 c st p tok = some (st', d) ∧ st'.store = st.store := by
  unfold dispatchL3
  by_cases hi : p.interest = true
  · exact ⟨_, _, if_pos hi, rfl⟩
  · rw [if_neg hi]
    by_cases hd : p.data = true
    · rw [if_pos hd]
      cases tok with
      | none => exact ⟨_, _, rfl, rfl⟩
      | some t =>
        by_cases ht : t.length = 6
        · obtain ⟨r, hr, _⟩ := getThread_some c.threads (beDec (t.take 2))
          simp only [if_pos ht, hr]
          cases r with
          | none => exact ⟨_, _, rfl, rfl⟩
          | some i => exact ⟨_, _, rfl, rfl⟩
        · exact ⟨_, _, if_neg ht, rfl⟩
    · exact ⟨_, _, if_neg hd, rfl⟩

/-! `storeFind` / `storeSet` are the association-list functions of C05/Assoc at `Nat × List Bytes`. -/

theorem storeFind_eq (st : List (Nat × List Bytes)) (k : Nat) : storeFind st k = C05.afind st k :=
  C05.afind_unique (fun _ => rfl) (fun a b t k => by
    by_cases h : a = k <;> simp only [storeFind, List.find?_cons, h, beq_self_eq_true, beq_false_of_ne, if_true, if_false, Option.map_some,
      Ne, not_false_eq_true]) st k

theorem storeSet_eq (st : List (Nat × List Bytes)) (k : Nat) (v : List Bytes) : storeSet st k v = C05.aset st k v :=
  C05.aset_unique (fun _ _ => rfl) (fun a b t k v => by simp only [storeSet, beq_iff_eq]) st k v

theorem mem_storeSet {l : List (Nat × List Bytes)} {k : Nat} {v : List Bytes} {e : Nat × List Bytes}
    (h : e ∈ storeSet l k v) : e = (k, v) ∨ e ∈ l :=
  (C05.mem_aset (a := e.1) (b := e.2) (storeSet_eq .. ▸ h)).imp_left fun h => Prod.ext h.1 h.2

/-- `μ`: a measure per entry (number of slots, bytes held) -/
theorem sum_storeErase_le (μ : List Bytes → Nat) (l : List (Nat × List Bytes)) (k : Nat) :
    ((storeErase l k).map fun e => μ e.2).sum ≤ (l.map fun e => μ e.2).sum := by
  induction l with
  | nil => exact Nat.le_refl _
  | cons a r ih =>
    simp only [storeErase, List.filter_cons] at ih ⊢
    split
    · simp only [List.map_cons, List.sum_cons]; omega
    · simp only [List.map_cons, List.sum_cons]; omega

theorem sum_storeSet (μ : List Bytes → Nat) (l : List (Nat × List Bytes)) (k : Nat) (v : List Bytes) :
    ((storeSet l k v).map fun e => μ e.2).sum + (storeFind l k).elim 0 μ
      = (l.map fun e => μ e.2).sum + μ v := by
  induction l with
  | nil => simp [storeSet, storeFind]
  | cons a r ih =>
    obtain ⟨k', v'⟩ := a
    simp only [storeFind, storeSet, List.find?_cons] at ih ⊢
    cases hk : k' == k
    · simp only [Bool.false_eq_true, if_false, List.map_cons, List.sum_cons]; omega
    · simp only [if_true, List.map_cons, List.sum_cons, Option.map_some, Option.elim_some]; omega

theorem storeFind_storeSet (st : List (Nat × List Bytes)) (k : Nat) (v : List Bytes) :
    storeFind (storeSet st k v) k = some v := by
  rw [storeFind_eq, storeSet_eq, C05.afind_aset', if_pos rfl]

theorem storeSet_storeSet (st : List (Nat × List Bytes)) (k : Nat) (v : List Bytes) :
    storeSet (storeSet st k v) k v = storeSet st k v := by
  rw [storeSet_eq, storeSet_eq]
  exact C05.aset_of_afind (by rw [C05.afind_aset', if_pos rfl])

theorem sum_length_replicate (n : Nat) : ((List.replicate n ([] : Bytes)).map List.length).sum = 0 := by
  simp

theorem sum_length_set (e : List Bytes) (i : Nat) (v : Bytes) :
    ((e.set i v).map List.length).sum ≤ (e.map List.length).sum + v.length := by
  by_cases h : i < e.length
  · have := sum_map_set List.length e i v h
    omega
  · rw [List.set_eq_of_length_le (Nat.le_of_not_lt h)]
    exact Nat.le_add_right ..

theorem reassemble_cases (st : LinkSt) (base idx cnt : Nat) (frag : Bytes) :
    reassemble st base idx cnt frag = some (st, none) ∨
    ∃ e : List Bytes, 0 < cnt ∧ cnt ≤ maxFragments ∧ e.length = cnt ∧
      (storeFind st.store base = some e ∨
        (storeFind st.store base = none ∧ e = List.replicate cnt [])) ∧
      reassemble st base idx cnt frag =
        if ((e.set idx frag).filter (· ≠ [])).length = (e.set idx frag).length then
          some ({ st with store := storeErase st.store base }, some (e.set idx frag).flatten)
        else some ({ st with store := storeSet st.store base (e.set idx frag) }, none) := by
  unfold reassemble
  by_cases hg : cnt = 0 ∨ cnt > maxFragments ∨ idx ≥ cnt
  · exact .inl (if_pos hg)
  · rw [if_neg hg]
    have h1 : cnt ≤ maxFragments := by omega
    have h2 : idx < cnt := by omega
    cases hf : storeFind st.store base with
    | some e =>
      by_cases hl : e.length = cnt
      · refine .inr ⟨e, by omega, h1, hl, .inl rfl, ?_⟩
        simp only [hl, if_true, setIdx, h2]
      · exact .inl (by simp only [hl, if_false])
    | none =>
      refine .inr ⟨List.replicate cnt [], by omega, h1, List.length_replicate, .inr ⟨rfl, rfl⟩, ?_⟩
      simp only [makeSlots, h1, if_true, Option.map_some, setIdx, List.length_replicate, h2]

theorem reassemble_ne_none (st : LinkSt) (base idx cnt : Nat) (frag : Bytes) :
    reassemble st base idx cnt frag ≠ none := by
  intro h
  rcases reassemble_cases st base idx cnt frag with hc | ⟨e, _, _, _, _, hc⟩
  · cases h.symm.trans hc
  · rw [h] at hc; split at hc <;> cases hc

theorem reassemble_store {st st' : LinkSt} {base idx cnt : Nat} {frag : Bytes} {w : Option Bytes}
    (h : reassemble st base idx cnt frag = some (st', w)) :
    st'.store = st.store ∨ st'.store = storeErase st.store base ∨
    ∃ e : List Bytes, e.length = cnt ∧ 0 < cnt ∧ cnt ≤ maxFragments ∧
      (storeFind st.store base = some e ∨ (storeFind st.store base = none ∧ e = List.replicate cnt [])) ∧
      st'.store = storeSet st.store base (e.set idx frag) := by
  rcases reassemble_cases st base idx cnt frag with hc | ⟨e, h0, h1, hl, hf, hc⟩
  · cases h.symm.trans hc; exact .inl rfl
  · rw [h] at hc
    split at hc
    · cases hc; exact .inr (.inl rfl)
    · cases hc; exact .inr (.inr ⟨e, hl, h0, h1, hf, rfl⟩)

/-- non-vacuity: fragment 0 of 2, twice -/
example : reassemble ({ store := [] } : LinkSt) 77 0 2 [6, 18] = some ({ store := [(77, [[6, 18], []])] }, none) ∧
    reassemble ({ store := [(77, [[6, 18], []])] } : LinkSt) 77 0 2 [6, 18] = some ({ store := [(77, [[6, 18], []])] }, none) := by
  constructor <;> rfl

/-- the Fragment field the link service would look at (empty when there is none) -/
def fragOf (c : Cfg) (frame : Bytes) : Bytes :=
  match c.dec frame with
  | some p =>
    match p.lp with
    | some lp => lp.fragment.getD []
    | none => []
  | none => []

theorem cont_shape (c : Cfg) (tok : Option Bytes) (st : LinkSt) (wire : Bytes) :
    ∃ st' d, (match c.dec wire with
              | none => some (st, Deliver.nothing)
              | some l3 => if singleTlv wire then dispatchL3 c st l3 tok else some (st, Deliver.nothing)) = some (st', d) ∧
      st'.store = st.store := by
  cases c.dec wire with
  | none => exact ⟨_, _, rfl, rfl⟩
  | some l3 =>
    by_cases hs : singleTlv wire = true
    · simp only [if_pos hs]; exact dispatchL3_shape c st l3 tok
    · exact ⟨_, _, if_neg hs, rfl⟩

/-- the local `cont` of `handleFrame` (the body `cont_shape` speaks of); a bare frame is the case `tok = none` -/
def deliver (c : Cfg) (tok : Option Bytes) (st : LinkSt) (wire : Bytes) : Option (LinkSt × Deliver) :=
  match c.dec wire with
  | none => some (st, .nothing)
  | some l3 => if singleTlv wire then dispatchL3 c st l3 tok else some (st, .nothing)

theorem deliver_single {c : Cfg} {tok : Option Bytes} {st st' : LinkSt} {wire : Bytes} {d : Deliver}
    (h : deliver c tok st wire = some (st', d)) (hd : d ≠ .nothing) : singleTlv wire = true := by
  unfold deliver at h
  cases hdec : c.dec wire with
  | none => rw [hdec] at h; cases h; exact absurd rfl hd
  | some l3 =>
    by_cases hs : singleTlv wire = true
    · exact hs
    · simp only [hdec, if_neg hs] at h; cases h; exact absurd rfl hd

theorem handleFrame_cases (c : Cfg) (st : LinkSt) (frame : Bytes) :
    handleFrame c st frame = some (st, .nothing)
    ∨ (∃ tok wire, (wire = frame ∨ wire = fragOf c frame) ∧ handleFrame c st frame = deliver c tok st wire)
    ∨ ∃ base idx cnt st' w tok, reassemble st base idx cnt (fragOf c frame) = some (st', w) ∧
        handleFrame c st frame =
          match w with
          | none => some (st', .nothing)
          | some whole => deliver c tok st' whole := by
  generalize hres : handleFrame c st frame = res
  unfold handleFrame at hres
  cases hd : c.dec frame with
  | none => rw [hd] at hres; exact .inl hres.symm
  | some l2 =>
    rw [hd] at hres
    simp only at hres
    cases hlp : l2.lp with
    | none =>
      rw [hlp] at hres
      exact .inr (.inl ⟨none, frame, .inl rfl, by rw [← hres, deliver, hd]⟩)
    | some lp =>
      rw [hlp] at hres
      simp only at hres
      cases hfr : lp.fragment with
      | none => rw [hfr] at hres; exact .inl hres.symm
      | some frag =>
        rw [hfr] at hres
        simp only at hres
        have hfo : fragOf c frame = frag := by rw [fragOf, hd]; simp only [hlp, hfr, Option.getD_some]
        rw [hfo]
        by_cases h1 : c.reassembly ∧ lp.seq.isSome
        · rw [if_pos h1] at hres
          by_cases h2 : lp.idx.getD 0 = 0 ∧ lp.cnt.getD 1 = 1
          · rw [if_pos h2] at hres; exact .inr (.inl ⟨_, frag, .inr rfl, hres.symm⟩)
          · rw [if_neg h2] at hres
            generalize (lp.seq.getD 0 + 2 ^ 64 - lp.idx.getD 0 % 2 ^ 64) % 2 ^ 64 = base at hres
            cases hr : reassemble st base (lp.idx.getD 0) (lp.cnt.getD 1) frag with
            | none => exact absurd hr (reassemble_ne_none _ _ _ _ _)
            | some r =>
              obtain ⟨st', w⟩ := r
              rw [hr] at hres
              cases w with
              | none => exact .inr (.inr ⟨base, _, _, st', none, none, hr, hres.symm⟩)
              | some whole => exact .inr (.inr ⟨base, _, _, st', some whole, _, hr, hres.symm⟩)
        · rw [if_neg h1] at hres
          by_cases h3 : lp.cnt.isSome ∨ lp.idx.isSome
          · rw [if_pos h3] at hres; exact .inl hres.symm
          · rw [if_neg h3] at hres; exact .inr (.inl ⟨_, frag, .inr rfl, hres.symm⟩)

theorem handleFrame_shape (c : Cfg) (st : LinkSt) (frame : Bytes) :
    ∃ st' d, handleFrame c st frame = some (st', d) ∧
      (st'.store = st.store ∨
       ∃ base idx cnt st'' w, reassemble st base idx cnt (fragOf c frame) = some (st'', w) ∧
         st'.store = st''.store) := by
  rcases handleFrame_cases c st frame with h | ⟨tok, wire, _, h⟩ | ⟨base, idx, cnt, st1, w, tok, hr, h⟩
  · exact ⟨st, .nothing, h, .inl rfl⟩
  · obtain ⟨st', d, hd, hs⟩ := cont_shape c tok st wire
    exact ⟨st', d, h.trans hd, .inl hs⟩
  · cases w with
    | none => exact ⟨st1, .nothing, h, .inr ⟨base, idx, cnt, st1, none, hr, rfl⟩⟩
    | some whole =>
      obtain ⟨st', d, hd, hs⟩ := cont_shape c tok st1 whole
      exact ⟨st', d, h.trans hd, .inr ⟨base, idx, cnt, st1, _, hr, hs⟩⟩

theorem tlLen_pos (x : Nat) : 1 ≤ tlLen x := Ndn.tlLen_pos x

theorem decTL_none_short {b : Bytes} (h : decTL b = none) : b.length < 9 := by
  cases b with
  | nil => exact Nat.zero_lt_succ _
  | cons x t =>
    rw [decTL_cons] at h
    by_cases hl : t.length < tlExtra x
    · have := tlExtra_cases x
      rw [List.length_cons]; omega
    · rw [if_neg hl] at h; cases h

theorem inner_spec (f : Nat) : ∀ (s : StreamSt) (fr : List Bytes),
    (s.recvOff ≤ bufCap → inner f s fr ≠ .panic) ∧
    ∀ s2 fr', inner f s fr = .cont s2 fr' →
      s2.recvOff = s.recvOff ∧ (s.data.length < f → s2.data.length ≤ maxPkt) := by
  induction f with
  | zero => intro s fr; exact ⟨fun _ => nofun, fun s2 fr' h => by cases h; exact ⟨rfl, nofun⟩⟩
  | succ f ih =>
    intro s fr
    have stop : s.data.length ≤ maxPkt → (s.recvOff ≤ bufCap → Inner.cont s fr ≠ .panic) ∧
        ∀ s2 fr', Inner.cont s fr = .cont s2 fr' →
          s2.recvOff = s.recvOff ∧ (s.data.length < f + 1 → s2.data.length ≤ maxPkt) :=
      fun hl => ⟨fun _ => nofun, fun s2 fr' h => by cases h; exact ⟨rfl, fun _ => hl⟩⟩
    rw [inner]
    cases h1 : decTL s.data with
    | none => exact stop (by have := decTL_none_short h1; simp only [maxPkt]; omega)
    | some x1 =>
      obtain ⟨typ, r1⟩ := x1
      have l1 := decTL_rest_lt h1
      simp only
      cases h2 : decTL r1 with
      | none =>
        refine stop ?_
        obtain ⟨hd, he, hl⟩ := decTL_split h1
        have := decTL_none_short h2
        rw [he, List.length_append, maxPkt]; omega
      | some x2 =>
        obtain ⟨len, r2⟩ := x2
        have l2 := decTL_rest_lt h2
        simp only
        by_cases hb : len > bufCap
        · rw [if_pos hb]; exact ⟨fun _ => nofun, nofun⟩
        · rw [if_neg hb]
          -- `k`: the size of the block handed on, header included
          generalize hk : s.data.length - r2.length + len = k
          have hk2 : 2 ≤ k := hk ▸ Nat.le_trans (Nat.le_sub_of_add_le'
            (Nat.succ_le_of_lt (Nat.lt_of_le_of_lt (Nat.succ_le_of_lt l2) l1))) (Nat.le_add_right ..)
          by_cases hge : s.data.length ≥ k
          · rw [if_pos hge]
            by_cases hc : s.tlvOff + k ≤ bufCap
            · rw [if_pos hc]
              obtain ⟨ih1, ih2⟩ := ih ⟨s.tlvOff + k, s.data.drop k⟩ (fr ++ [s.data.take k])
              have e0 : (⟨s.tlvOff + k, s.data.drop k⟩ : StreamSt).recvOff = s.recvOff := by
                simp only [StreamSt.recvOff, List.length_drop, Nat.add_assoc, Nat.add_sub_cancel' hge]
              refine ⟨fun hs => ih1 (e0 ▸ hs), fun s2 fr' h => ?_⟩
              obtain ⟨e1, e2⟩ := ih2 s2 fr' h
              refine ⟨e1.trans e0, fun hf => e2 ?_⟩
              simp only [List.length_drop]; omega
            · rw [if_neg hc]
              exact ⟨fun hs => absurd (Nat.le_trans (Nat.add_le_add_left hge _) hs) hc, nofun⟩
          · rw [if_neg hge]
            by_cases hm : s.data.length > maxPkt
            · rw [if_pos hm]; exact ⟨fun _ => nofun, nofun⟩
            · rw [if_neg hm]; exact stop (Nat.le_of_not_lt hm)

end Ndn.C04
