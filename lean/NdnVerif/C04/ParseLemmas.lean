/-
  C04/ParseLemmas.lean — one induction over every schema serving the three parse theorems of
  C04/Props.lean (never panics on inputs ≤ 2^40 bytes, never runs out of fuel, allocation is
  linear in the input length).

  Contract of a field reader for an input bound `M` (`GoodRead M`): on `rest.length ≤ M` the reader
    * returns `ok (_, r') a` with `r'` no longer than `rest` and `a + 16·|r'| ≤ 16·|rest| + 32`, or
    * returns `err a` with `a ≤ 16·|rest| + 32`, or
    * panics — only possible when `M > maxInput`,
    * never reports `fuel`.
  The `+ 32` is paid by the two header bytes (T and L) every loop iteration consumes before a reader
  is called, so at loop level the bound is exactly `16 · consumed`.
  Taking `M = maxInput` gives totality and the allocation bound, `M = b.length` gives fuel-freeness
  without any bound on the input.
-/
import NdnVerif.C13.Model
namespace Ndn.C04
open Ndn.C13

def maxInput : Nat := 2 ^ 40

theorem maxInput_eq : maxInput = 1099511627776 := by decide

def Sat {α : Type} (Pan : Prop) (r : Res α) (P : α → Nat → Prop) (E : Nat → Prop) : Prop :=
  match r with
  | .ok a n => P a n
  | .err n => E n
  | .panic => Pan
  | .fuel => False

variable {α β : Type} {Pan : Prop}

theorem sat_bind {r : Res α} {f : α → Res β}
    {P : α → Nat → Prop} {E : Nat → Prop} {Q : β → Nat → Prop} {E' : Nat → Prop}
    (hr : Sat Pan r P E) (hE : ∀ n, E n → E' n)
    (hf : ∀ a n, P a n → Sat Pan (f a) (fun b m => Q b (n + m)) (fun m => E' (n + m))) :
    Sat Pan (r.bind f) Q E' := by
  cases r with
  | ok a n =>
    have h := hf a n hr
    simp only [Res.bind]
    revert h
    cases f a <;> exact id
  | err n => exact hE n hr
  | panic => exact hr
  | fuel => exact hr

theorem sat_mono {r : Res α}
    {P Q : α → Nat → Prop} {E E' : Nat → Prop}
    (hr : Sat Pan r P E) (hP : ∀ a n, P a n → Q a n) (hE : ∀ n, E n → E' n) : Sat Pan r Q E' := by
  cases r with
  | ok a n => exact hP a n hr
  | err n => exact hE n hr
  | panic => exact hr
  | fuel => exact hr

theorem sat_ite {c : Prop} [Decidable c] {x y : Res α} {P : α → Nat → Prop}
    {E : Nat → Prop} (ht : c → Sat Pan x P E) (hf : ¬ c → Sat Pan y P E) : Sat Pan (if c then x else y) P E := by
  by_cases h : c
  · rw [if_pos h]; exact ht h
  · rw [if_neg h]; exact hf h

def Bounded {α : Type} (Pan : Prop) (r : Res α) (B : Nat) : Prop :=
  Sat Pan r (fun _ a => a ≤ B) (fun a => a ≤ B)

theorem bounded_mono {r : Res α} {B B' : Nat} (h : Bounded Pan r B) (hB : B ≤ B') :
    Bounded Pan r B' :=
  sat_mono h (fun _ _ h => Nat.le_trans h hB) (fun _ h => Nat.le_trans h hB)

/-- `k`: what the step leaves of the budget `B` for the continuation -/
theorem bounded_bind {r : Res α} {f : α → Res β} {B : Nat} {P : α → Nat → Prop}
    (hr : Sat Pan r P (fun a => a ≤ B)) (hP : ∀ x a, P x a → ∃ k, a + k ≤ B ∧ Bounded Pan (f x) k) :
    Bounded Pan (r.bind f) B := by
  refine sat_bind hr (fun _ h => h) fun x a hx => ?_
  obtain ⟨k, hk, hb⟩ := hP x a hx
  exact sat_mono hb (fun _ m hm => Nat.le_trans (Nat.add_le_add_left hm a) hk)
    (fun m hm => Nat.le_trans (Nat.add_le_add_left hm a) hk)

theorem bounded_bind_ok0 {r : Res α} {B : Nat} (h : Bounded Pan r B) (g : α → β) :
    Bounded Pan (r.bind fun x => .ok (g x) 0) B :=
  sat_bind h (fun _ h => h) (fun _ _ h => h)

namespace Bounded

theorem ne_panic {r : Res α} {B : Nat} (h : Bounded Pan r B) (hp : ¬ Pan) : r ≠ .panic := by
  rintro rfl; exact hp h

theorem ne_fuel {r : Res α} {B : Nat} (h : Bounded Pan r B) : r ≠ .fuel := by
  rintro rfl; exact h

theorem alloc_le {r : Res α} {B : Nat} (h : Bounded Pan r B) : r.alloc ≤ B := by
  cases r with
  | ok _ _ => exact h
  | err _ => exact h
  | panic => exact Nat.zero_le _
  | fuel => exact Nat.zero_le _

end Bounded

def RdOk {α : Type} (n : Nat) (p : α × Bytes) (a : Nat) : Prop :=
  p.2.length ≤ n ∧ a + 16 * p.2.length ≤ 16 * n + 32

def RdErr (n a : Nat) : Prop := a ≤ 16 * n + 32

def GoodRead (M : Nat) (read : Nat → Bool → Bytes → Res (Val × Bytes)) : Prop :=
  ∀ l ic rest, rest.length ≤ M →
    Sat (maxInput < M) (read l ic rest) (RdOk rest.length) (RdErr rest.length)

def GoodSlots (M : Nat) (slots : List Slot) : Prop := ∀ s ∈ slots, GoodRead M s.read

namespace GoodSlots

theorem tail {M : Nat} {s : Slot} {ss : List Slot} (h : GoodSlots M (s :: ss)) :
    GoodSlots M ss := fun x hx => h x (List.mem_cons_of_mem _ hx)

theorem head {M : Nat} {s : Slot} {ss : List Slot} (h : GoodSlots M (s :: ss)) :
    GoodRead M s.read := h s (List.mem_cons_self ..)

end GoodSlots

theorem rdOk_refl {α : Type} (v : α) (rest : Bytes) : RdOk rest.length (v, rest) 0 :=
  ⟨Nat.le_refl _, by rw [Nat.zero_add]; exact Nat.le_add_right ..⟩

theorem le_budget (l : Nat) : l ≤ 16 * l + 32 :=
  Nat.le_trans (Nat.le_mul_of_pos_left l (by decide)) (Nat.le_add_right ..)

theorem rdOk_drop {α : Type} (v : α) {rest : Bytes} {l a : Nat} (hl : l ≤ rest.length) (ha : a ≤ 16 * l + 32) :
    RdOk rest.length (v, rest.drop l) a := by
  simp only [RdOk, List.length_drop]
  omega

theorem headers_sat (rest : Bytes) {K : Nat → Nat → Bytes → Res α} {P : α → Nat → Prop} {E : Nat → Prop}
    (hE : E 0) (hK : ∀ typ l r2, r2.length + 2 ≤ rest.length → Sat Pan (K typ l r2) P E) :
    Sat Pan
      (match decTL rest with
        | none => .err 0
        | some (typ, r1) =>
          match decTL r1 with
          | none => .err 0
          | some (l, r2) => K typ l r2) P E := by
  cases h1 : decTL rest with
  | none => exact hE
  | some x1 =>
    obtain ⟨typ, r1⟩ := x1
    show Sat Pan (match decTL r1 with | none => _ | some (l, r2) => _) P E
    cases h2 : decTL r1 with
    | none => exact hE
    | some x2 =>
      exact hK _ _ _ (Nat.succ_le_of_lt (Nat.lt_of_le_of_lt (Nat.succ_le_of_lt (decTL_rest_lt h2)) (decTL_rest_lt h1)))

theorem skipN_sat (Pan : Prop) (l : Nat) (rest : Bytes) :
    Sat Pan (skipN l rest) (fun r a => RdOk rest.length ((), r) a) (RdErr rest.length) := by
  exact sat_ite (fun _ => Nat.zero_le _) fun _ => sat_ite (fun _ => Nat.zero_le _) fun hl =>
    rdOk_drop () (Nat.le_of_not_lt hl) (Nat.zero_le _)

def StepUOk (n : Nat) (o : Option (Vals × Bytes)) (a : Nat) : Prop :=
  match o with
  | none => a = 0
  | some p => RdOk n p a

theorem stepU_sat (M : Nat) : ∀ slots, GoodSlots M slots → ∀ typ l ic rest acc, rest.length ≤ M →
    Sat (maxInput < M) (stepU slots typ l ic rest acc) (StepUOk rest.length) (RdErr rest.length) := by
  intro slots
  induction slots with
  | nil => intro _ typ l ic rest acc _; rfl
  | cons s ss ih =>
    intro hs typ l ic rest acc hle
    rw [stepU]
    refine sat_ite (fun _ => sat_bind (hs.head l ic rest hle) (fun _ h => h) ?_) fun _ =>
      sat_bind (ih hs.tail typ l ic rest acc.tail hle) (fun _ h => h) ?_
    · rintro ⟨v, r⟩ n hp
      exact hp
    · rintro (_ | ⟨v, r⟩) n ho <;> exact ho

theorem finishU_bounded (Pan : Prop) : ∀ slots acc, Bounded Pan (finishU slots acc) 0 := by
  intro slots
  induction slots with
  | nil => intro acc; exact Nat.le_refl 0
  | cons s ss ih =>
    intro acc
    rw [finishU]
    split
    · exact Nat.le_refl 0
    · exact bounded_bind_ok0 (ih acc.tail) _

theorem budget_after_headers {n2 n : Nat} (h : n2 + 2 ≤ n) : 16 * n2 + 32 ≤ 16 * n := by omega

theorem bounds_after_headers {n2 n M f : Nat} (h : n2 + 2 ≤ n) (hM : n ≤ M) (hf : n < f + 1) :
    n2 ≤ M ∧ n2 < f := by omega

theorem loopU_bounded (M : Nat) (slots : List Slot) (hs : GoodSlots M slots) (ic : Bool) :
    ∀ fuel rest acc, rest.length ≤ M → rest.length < fuel →
      Bounded (maxInput < M) (loopU slots ic fuel rest acc) (16 * rest.length) := by
  intro fuel
  induction fuel with
  | zero => intro rest acc _ h; exact absurd h (Nat.not_lt_zero _)
  | succ f ih =>
    intro rest acc hM hf
    rw [loopU]
    refine sat_ite (fun _ => bounded_mono (finishU_bounded _ slots acc) (Nat.zero_le _)) fun _ =>
      headers_sat rest (Nat.zero_le _) fun typ l r2 hh => ?_
    obtain ⟨hM2, hf2⟩ := bounds_after_headers hh hM hf
    refine bounded_mono (bounded_bind (stepU_sat M slots hs typ l ic r2 acc hM2) ?_)
      (budget_after_headers hh)
    rintro (_ | ⟨acc', r3⟩) a ho
    · -- no `case` matched (nothing allocated): a critical type fails, any other element is skipped
      refine ⟨16 * r2.length + 32, Nat.le_of_eq (ho ▸ Nat.zero_add _), ?_⟩
      refine sat_ite (fun _ => Nat.zero_le _) fun _ => bounded_bind (skipN_sat _ l r2) ?_
      rintro r3 a ⟨h3, ha⟩
      exact ⟨_, ha, ih r3 acc (Nat.le_trans h3 hM2) (Nat.lt_of_le_of_lt h3 hf2)⟩
    · exact ⟨_, ho.2, ih r3 acc' (Nat.le_trans ho.1 hM2) (Nat.lt_of_le_of_lt ho.1 hf2)⟩

/-- `GoodSlots M rem'`: the slots left must stay good for the next round of the loop -/
def StepOOk (M n : Nat) (o : StepO) (a : Nat) : Prop :=
  match o with
  | .at _ rem' _ r3 => GoodSlots M rem' ∧ r3.length ≤ n ∧ a + 16 * r3.length ≤ 16 * n + 32
  | .exhausted _ => a = 0

theorem stepO_sat (M : Nat) : ∀ rem, GoodSlots M rem → ∀ cur typ l ic rest, rest.length ≤ M →
    Sat (maxInput < M) (stepO rem cur typ l ic rest) (StepOOk M rest.length) (RdErr rest.length) := by
  intro rem
  induction rem with
  | nil => intro _ cur typ l ic rest _; rfl
  | cons s ss ih =>
    intro hs cur typ l ic rest hle
    rw [stepO]
    refine sat_ite (fun _ => sat_bind (hs.head l ic rest hle) (fun _ h => h) ?_) fun _ =>
      sat_ite (fun _ => Nat.zero_le _) fun _ =>
        sat_bind (ih hs.tail (headInit ss) typ l ic rest hle) (fun _ h => h) ?_
    · rintro ⟨v, r⟩ n hp
      exact sat_ite (fun _ => ⟨hs, hp⟩) fun _ => ⟨hs.tail, hp⟩
    · rintro (⟨p, rem', c, r⟩ | p) n ho <;> exact ho

theorem finishO_bounded (Pan : Prop) : ∀ slots cur, Bounded Pan (finishO slots cur) 0 := by
  intro slots
  induction slots with
  | nil => intro cur; exact Nat.le_refl 0
  | cons s ss ih =>
    intro cur
    rw [finishO]
    exact sat_ite (fun _ => Nat.le_refl 0) fun _ => bounded_bind_ok0 (ih (headInit ss)) _

theorem loopO_bounded (M : Nat) (slots : List Slot) (ic : Bool) :
    ∀ fuel st rest, (∀ x, st = some x → GoodSlots M x.1) → rest.length ≤ M → rest.length < fuel →
      Bounded (maxInput < M) (loopO slots ic fuel st rest) (16 * rest.length) := by
  intro fuel
  induction fuel with
  | zero => intro st rest _ _ h; exact absurd h (Nat.not_lt_zero _)
  | succ f ih =>
    intro st rest hst hM hf
    rcases st with _ | ⟨rem, cur⟩ <;> rw [loopO]
    · refine sat_ite (fun _ => Nat.zero_le _) fun _ => headers_sat rest (Nat.zero_le _) fun typ l r2 hh => ?_
      obtain ⟨hM2, hf2⟩ := bounds_after_headers hh hM hf
      exact bounded_mono (ih none r2 nofun hM2 hf2) (Nat.le_trans (Nat.le_add_right _ 32) (budget_after_headers hh))
    · refine sat_ite (fun _ => bounded_mono (finishO_bounded _ rem cur) (Nat.zero_le _)) fun _ =>
        headers_sat rest (Nat.zero_le _) fun typ l r2 hh => ?_
      obtain ⟨hM2, hf2⟩ := bounds_after_headers hh hM hf
      refine bounded_mono (sat_ite
        (fun _ => bounded_bind (stepO_sat M rem (hst _ rfl) cur typ l ic r2 hM2) ?_)
        fun _ => sat_ite (fun _ => Nat.zero_le _) fun _ =>
          bounded_bind (skipN_sat _ l r2) ?_) (budget_after_headers hh)
      · rintro (⟨p, rem', cur', r3⟩ | p) a ho
        · exact ⟨_, ho.2.2, bounded_bind_ok0 (ih (some (rem', cur')) r3 (fun _ h => Option.some.inj h ▸ ho.1)
            (Nat.le_trans ho.2.1 hM2) (Nat.lt_of_le_of_lt ho.2.1 hf2)) _⟩
        · exact ⟨16 * r2.length, Nat.le_trans (Nat.le_of_eq (ho ▸ Nat.zero_add _)) (Nat.le_add_right ..),
            bounded_bind_ok0 (ih none r2 nofun hM2 hf2) _⟩
      · rintro r3 a ⟨h3, ha⟩
        exact ⟨_, ha, ih (some (rem, cur)) r3 hst (Nat.le_trans h3 hM2) (Nat.lt_of_le_of_lt h3 hf2)⟩

theorem runSlots_bounded (M : Nat) (ord : Bool) (slots : List Slot) (hs : GoodSlots M slots) (ic : Bool)
    (b : Bytes) (hM : b.length ≤ M) :
    Bounded (maxInput < M) (runSlots ord slots ic b) (16 * b.length) := by
  unfold runSlots
  cases ord with
  | true => exact loopO_bounded M slots ic _ _ b (fun _ h => Option.some.inj h ▸ hs) hM (Nat.lt_succ_self _)
  | false => exact loopU_bounded M slots hs ic _ b _ hM (Nat.lt_succ_self _)

theorem readUintLoop_sat (Pan : Prop) (w l : Nat) (rest : Bytes) :
    Sat Pan (readUintLoop w l rest) (RdOk rest.length) (RdErr rest.length) := by
  exact sat_ite (fun _ => rdOk_refl _ rest) fun _ => sat_ite (fun _ => Nat.zero_le _) fun hl =>
    rdOk_drop _ (Nat.le_of_not_lt hl) (Nat.zero_le _)

theorem readNatLoop_sat (Pan : Prop) (l : Nat) (rest : Bytes) :
    Sat Pan (readNatLoop l rest) (RdOk rest.length) (RdErr rest.length) := by
  exact sat_ite (fun _ => readUintLoop_sat Pan 8 l rest) fun _ => Nat.zero_le _

theorem readWire_sat (Pan : Prop) (l : Nat) (rest : Bytes) :
    Sat Pan (readWire l rest) (RdOk rest.length) (RdErr rest.length) := by
  exact sat_ite (fun _ => Nat.zero_le _) fun _ => sat_ite (fun _ => Nat.zero_le _) fun _ =>
    sat_ite (fun _ => Nat.zero_le _) fun hl => rdOk_drop _ (Nat.le_of_not_lt hl) (Nat.zero_le _)

/-- `l`: a length that passed the remaining-bytes guard.  `make` of `n ≤ l + 1` elements of at most 32 bytes passes
    both tests of `goMake` (`n` fits an `int`: `2^63`; size within `maxAlloc = 2^48`) while the input is at most
    `maxInput = 2^40` bytes: `(2^40 + 1) · 32 < 2^48`. -/
theorem goMake_sat {M l : Nat} (hl : l ≤ M) {n esz : Nat} (hn : n ≤ l + 1) (he : esz ≤ 32) :
    Sat (maxInput < M) (goMake n esz) (fun _ a => a = n * esz) (fun _ => False) := by
  unfold goMake maxAlloc
  by_cases hc : n ≥ 2 ^ 63 ∨ n * esz > 2 ^ 48
  · rw [if_pos hc]
    refine Nat.lt_of_not_le fun hM => ?_
    have h1 : n ≤ maxInput + 1 := Nat.le_trans hn (Nat.succ_le_succ (Nat.le_trans hl hM))
    have h2 : n * esz ≤ (maxInput + 1) * 32 := Nat.mul_le_mul h1 he
    rw [maxInput_eq] at h1 h2
    omega
  · rw [if_neg hc]; rfl

theorem le_length_of_fits {l : Nat} {rest : Bytes} (h : ¬ (!fits l rest) = true) : l ≤ rest.length := by
  simpa [fits] using h

theorem readName_sat (M l : Nat) (rest : Bytes) (hM : rest.length ≤ M) :
    Sat (maxInput < M) (readName l rest) (RdOk rest.length) (RdErr rest.length) := by
  refine sat_ite (fun _ => Nat.zero_le _) fun hf => ?_
  have hl := le_length_of_fits hf
  refine sat_bind (goMake_sat (Nat.le_trans hl hM) (Nat.succ_le_succ (Nat.div_le_self l 2)) (Nat.le_refl 32))
    (fun _ h => h.elim) ?_
  rintro _ n rfl
  -- `make(enc.Name, l/2+1)`: 32 bytes per two input bytes, and 32 more
  have ha : (l / 2 + 1) * 32 ≤ 16 * l + 32 := by omega
  generalize (l / 2 + 1) * 32 = a at ha ⊢
  cases decComps (l + 1) (rest.take l) with
  | none => exact Nat.le_trans ha (Nat.add_le_add_right (Nat.mul_le_mul_left 16 hl) 32)
  | some cs => exact rdOk_drop _ hl ha

theorem readMap_good {M : Nat} {rk rv : Nat → Bool → Bytes → Res (Val × Bytes)} (vt : Nat)
    (hk : GoodRead M rk) (hv : GoodRead M rv) : GoodRead M (readMap rk rv vt) := by
  intro l ic rest hM
  unfold readMap
  refine sat_bind (hk l ic rest hM) (fun _ h => h) ?_
  rintro ⟨k, r0⟩ n hp
  obtain ⟨h0, hn⟩ : r0.length ≤ rest.length ∧ n + 16 * r0.length ≤ 16 * rest.length + 32 := hp
  have hE : RdErr rest.length (n + 0) := Nat.le_trans (Nat.le_add_right n _) hn
  refine headers_sat r0 hE fun typ l2 r2 hh => ?_
  have hM2 : r2.length ≤ M := Nat.le_trans (Nat.le_trans (Nat.le_add_right _ 2) hh) (Nat.le_trans h0 hM)
  refine sat_ite (fun _ => hE) fun _ => sat_bind (hv l2 ic r2 hM2) (fun m hm =>
    Nat.le_trans (Nat.le_trans (Nat.add_le_add_left hm n) (Nat.add_le_add_left (budget_after_headers hh) n)) hn) ?_
  rintro ⟨v, r3⟩ m ⟨h3, hm⟩
  exact ⟨Nat.le_trans h3 (Nat.le_trans (Nat.le_trans (Nat.le_add_right _ 2) hh) h0),
    Nat.le_trans (Nat.le_trans ((Nat.add_assoc n m _).symm ▸ Nat.add_le_add_left hm n)
      (Nat.add_le_add_left (budget_after_headers hh) n)) hn⟩

theorem delegate_length (l : Nat) (rest : Bytes) :
    (delegate l rest).1.length + (delegate l rest).2.length = rest.length := by
  unfold delegate
  split
  · exact Nat.zero_add _
  · rw [List.length_take, List.length_drop]; omega

mutual
theorem readKind_good (M : Nat) : ∀ k, GoodRead M (readKind k)
  | .natural _ => fun l _ rest _ => readNatLoop_sat _ l rest
  | .time _ => fun l ic rest _ => by
      refine sat_bind (readNatLoop_sat _ l rest) (fun _ h => h) ?_
      rintro ⟨v, r⟩ n hp
      cases v <;> exact hp
  | .fixedUint w _ => fun l ic rest _ => by
      -- the definition matches the literal width 1 before the general `w`
      by_cases hw : w = 1
      · subst hw
        rw [readKind.eq_def]
        simp only
        cases rest with
        | nil => exact Nat.zero_le _
        | cons x r => exact rdOk_drop (rest := x :: r) _ (Nat.succ_le_succ (Nat.zero_le _)) (Nat.zero_le _)
      · rw [readKind.eq_def]
        simp only
        exact readUintLoop_sat _ _ l rest
  | .bool => fun _ _ rest _ => rdOk_refl _ rest
  | .binary => fun l ic rest hM => by
      refine sat_ite (fun _ => Nat.zero_le _) fun hf => ?_
      have hl := le_length_of_fits hf
      refine sat_bind (goMake_sat (Nat.le_trans hl hM) (Nat.le_succ l) (by decide)) (fun _ h => h.elim) ?_
      rintro _ n rfl
      exact rdOk_drop _ hl (by rw [Nat.mul_one]; exact le_budget l)
  | .string _ => fun l ic rest _ => by
      exact sat_ite (fun _ => rdOk_refl _ rest) fun _ => sat_ite (fun _ => le_budget _) fun hl =>
        rdOk_drop _ (Nat.le_of_not_lt hl) (le_budget l)
  | .wire => fun l _ rest _ => readWire_sat _ l rest
  | .signature => fun l _ rest _ => readWire_sat _ l rest
  | .name => fun l _ rest hM => readName_sat M l rest hM
  | .interestName => fun l _ rest hM => readName_sat M l rest hM
  | .struct ord fs => fun l ic rest hM => by
      have hd := delegate_length l rest
      have h1 : (delegate l rest).1.length ≤ rest.length := Nat.le.intro hd
      refine sat_bind (f := fun vs => Res.ok (Val.struct vs, (delegate l rest).2) 0)
        (runSlots_bounded M ord (compile fs) (compile_good M fs) ic (delegate l rest).1 (Nat.le_trans h1 hM)) ?_ ?_
      · exact fun n hn => Nat.le_trans hn (Nat.le_trans (Nat.mul_le_mul_left 16 h1) (Nat.le_add_right ..))
      · exact fun vs n hn => ⟨Nat.le.intro (Nat.add_comm .. ▸ hd), by
          rw [← hd, Nat.mul_add]; exact Nat.le_trans (Nat.add_le_add_right hn _) (Nat.le_add_right ..)⟩
  | .seq sub => fun l ic rest hM => readKind_good M sub l ic rest hM
  | .map kk vt vk => fun l ic rest hM => readMap_good vt (readKind_good M kk) (readKind_good M vk) l ic rest hM
  | .marker => fun _ _ rest _ => rdOk_refl _ rest
theorem compile_good (M : Nat) : ∀ fs, GoodSlots M (compile fs)
  | .nil => fun _ hs => nomatch hs
  | .cons t k fs => by
      intro s hs
      rcases List.mem_cons.mp hs with rfl | hs
      · exact readKind_good M k
      · exact compile_good M fs s hs
end

end Ndn.C04
