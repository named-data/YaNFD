/-
  C04/Props.lean — property theorems of C04: no byte sequence crashes or exhausts a decoder or the
  forwarder's receive path.  Every theorem is for EVERY input.  Part I: the generated TLV decoders (= the schema
  interpreter `Ndn.C13.parse` under any schema, no well-formedness hypothesis).  Part II: GetFWThread, the NDNLP
  link service, readTlvStream.  Part III: the same decoders over any healthy `enc.ParseReader`.  Core Lean only.
-/
import NdnVerif.C04.LinkLemmas
import NdnVerif.C04.ParseLemmas
import NdnVerif.C04.SegmentedLemmas
import NdnVerif.C03.Props
namespace Ndn.C04

section Decoders
open Ndn.C13

/-- the three properties in one statement, for an arbitrary input bound `M`: a panic is only
    possible when `M` exceeds `maxInput` -/
theorem parse_bounded (M : Nat) (s : Schema) (ic : Bool) (b : Bytes) (hM : b.length ≤ M) :
    Bounded (maxInput < M) (parse s ic b) (16 * b.length) :=
  runSlots_bounded M s.ordered (compile s.fields) (compile_good M s.fields) ic b hM

/-- one name field of type 7 -/
def exName : Schema := ⟨"x", false, .cons 7 .name .nil⟩
/-- ordered model: required natural (type 1), binary (type 2), nested unordered struct (type 3) with a
    sequence of names -/
def exNested : Schema :=
  ⟨"y", true, .cons 1 (.natural false) (.cons 2 .binary (.cons 3 (.struct false (.cons 7 (.seq .name) .nil)) .nil))⟩

/-- PROPERTY (no panic): parsing at most 2^40 arbitrary bytes under any schema never panics. -/
theorem parse_total (s : Schema) (ic : Bool) (b : Bytes) :
    b.length ≤ maxInput → parse s ic b ≠ .panic :=
  fun hb => (parse_bounded maxInput s ic b hb).ne_panic (Nat.lt_irrefl _)

/-- non-vacuity: a well-formed input really is decoded (one name `/8=A`), -/
example : parse exName false [7, 3, 8, 1, 65] = .ok (.cons (.name [⟨8, [65]⟩]) .nil) 64 := by rfl
/-- a length field larger than the input is an error, not a panic, -/
example : parse exName false [7, 0xfe, 0xff, 0xff, 0xff, 0xff, 8, 1, 65] = .err 0 := by rfl
/-- and the panic outcome is real in the model: `make` with a huge length is `panic`, only the
    remaining-bytes guards keep the readers away from it. -/
example : goMake (2 ^ 44) 32 = .panic := by rfl

/-- PROPERTY (termination): fuel `b.length + 1` always suffices, whatever the input length. -/
theorem parse_fuel_free (s : Schema) (ic : Bool) (b : Bytes) : parse s ic b ≠ .fuel :=
  (parse_bounded b.length s ic b (Nat.le_refl _)).ne_fuel

/-- non-vacuity: nested model, three elements + two inner ones, every loop runs to completion; one
    fuel unit less than `b.length + 1` is NOT always enough (empty input needs the one iteration). -/
example : parse exNested false [1, 1, 5, 2, 2, 9, 9, 3, 6, 7, 0, 7, 2, 8, 0]
    = .ok (.cons (.nat 5) (.cons (.bytes [9, 9])
        (.cons (.struct (.cons (.seq (.cons (.name []) (.cons (.name [⟨8, []⟩]) .nil))) .nil)) .nil))) 98 := by
  rfl
example : loopU (compile exName.fields) false 0 [] (initAcc (compile exName.fields)) = .fuel := by rfl

/-- PROPERTY (allocation): what a parse allocates on the say-so of length fields is at most 16 bytes
    per input byte. -/
theorem parse_alloc_linear (s : Schema) (ic : Bool) (b : Bytes) :
    b.length ≤ maxInput → (parse s ic b).alloc ≤ 16 * b.length :=
  fun hb => (parse_bounded maxInput s ic b hb).alloc_le

/-- non-vacuity and tightness: an empty name (2 input bytes) allocates `make(enc.Name, 1)` = 32 bytes
    = 16 · 2; the constant 16 cannot be lowered. -/
example : (parse exName false [7, 0]).alloc = 32 ∧ 16 * [7, 0].length = 32 := ⟨rfl, rfl⟩
example : (parse exName false [7, 3, 8, 1, 65]).alloc = 64 := rfl

end Decoders


/-- GetFWThread never indexes out of range and only returns existing threads. -/
theorem dispatch_total (n id : Nat) :
    ∃ r, getThread n id = some r ∧ (∀ i, r = some i → i < n) :=
  getThread_some n id

example : getThread 4 3 = some (some 3) := rfl
example : getThread 4 4 = some none := rfl       -- the repaired boundary `id == len`

/-- every partial message has between 1 and `maxFragments` slots -/
def StoreOk (st : LinkSt) : Prop :=
  ∀ e ∈ st.store, e.2.length ≤ maxFragments ∧ 0 < e.2.length

/-- number of fragment slots allocated in the partial-message store -/
def slots (st : LinkSt) : Nat := (st.store.map (·.2.length)).sum

/-- number of fragment bytes held in the partial-message store -/
def storeBytes (st : LinkSt) : Nat := (st.store.map (fun e => (e.2.map List.length).sum)).sum

/-- the link service's initial state: empty store -/
def initSt : LinkSt := { store := [] }

/-- process a sequence of frames; `none` = some frame made the Go code panic -/
def runFrames (c : Cfg) : LinkSt → List Bytes → Option LinkSt
  | st, [] => some st
  | st, f :: fs =>
    match handleFrame c st f with
    | none => none
    | some (st', _) => runFrames c st' fs

theorem storeOk_init : StoreOk initSt := by
  intro e he; simp [initSt] at he

/-- `reassemblePacket` never panics (no index out of range, no absurd `make`), for every stored
    state — the repaired code does not even need the store invariant. -/
theorem reassemble_total (st : LinkSt) (base idx cnt : Nat) (frag : Bytes) :
    reassemble st base idx cnt frag ≠ none :=
  reassemble_ne_none st base idx cnt frag

-- FragIndex ≥ FragCount (the F-04c crash input) is dropped, state unchanged
example : reassemble initSt 7 5 2 [1] = some (initSt, none) := by rfl
-- FragCount = 2^32 (the makeslice input) is dropped
example : reassemble initSt 7 0 (2 ^ 32) [1] = some (initSt, none) := by rfl
-- the interesting branch: first fragment of two is stored
example : reassemble initSt 7 0 2 [1] = some ({ store := [(7, [[1], []])] }, none) := by rfl

theorem reassemble_preserves_storeOk (st : LinkSt) (base idx cnt : Nat) (frag : Bytes)
    (st' : LinkSt) (w : Option Bytes)
    (h : reassemble st base idx cnt frag = some (st', w)) (hs : StoreOk st) : StoreOk st' := by
  unfold StoreOk
  rcases reassemble_store h with e | e | ⟨s, hl, h0, h1, _, e⟩ <;> rw [e]
  · exact hs
  · exact fun x hx => hs x (List.mem_filter.mp hx).1
  · intro x hx
    rcases mem_storeSet hx with rfl | hx
    · rw [List.length_set, hl]; exact ⟨h1, h0⟩
    · exact hs x hx

example : StoreOk { store := [(7, [[1], []])] } := by unfold StoreOk; decide

/-- **One frame, one packet** (F-09c, also what C09 relies on): whenever the link service dispatches anything, the bytes
    it hands to the forwarding threads — and which are forwarded on as they are — are exactly ONE TLV: the bare frame,
    the Fragment field, or the reassembled message. A second packet appended behind the first (a Data `/localhost/…`
    behind an ordinary Interest) is never carried along. -/
theorem only_single_packets_are_dispatched (c : Cfg) (st : LinkSt) (frame : Bytes) (st' : LinkSt) (d : Deliver)
    (h : handleFrame c st frame = some (st', d)) (hd : d ≠ .nothing) :
    singleTlv frame = true ∨ singleTlv (fragOf c frame) = true ∨
    ∃ base idx cnt st'' whole, reassemble st base idx cnt (fragOf c frame) = some (st'', some whole) ∧ singleTlv whole = true := by
  rcases handleFrame_cases c st frame with e | ⟨tok, wire, hw, e⟩ | ⟨base, idx, cnt, st1, w, tok, hr, e⟩
  · cases e.symm.trans h; exact absurd rfl hd
  · have hs := deliver_single (e.symm.trans h) hd
    rcases hw with rfl | rfl
    · exact .inl hs
    · exact .inr (.inl hs)
  · cases w with
    | none => cases e.symm.trans h; exact absurd rfl hd
    | some whole => exact .inr (.inr ⟨base, idx, cnt, st1, whole, hr, deliver_single (e.symm.trans h) hd⟩)

theorem handleFrame_never_panics (c : Cfg) (st : LinkSt) (frame : Bytes) :
    handleFrame c st frame ≠ none := by
  obtain ⟨st', d, h, _⟩ := handleFrame_shape c st frame
  rw [h]; simp

theorem handleFrame_total (c : Cfg) (st : LinkSt) (frame : Bytes) :
    StoreOk st → handleFrame c st frame ≠ none :=
  fun _ => handleFrame_never_panics c st frame

theorem handleFrame_preserves_storeOk (c : Cfg) (st : LinkSt) (frame : Bytes)
    (st' : LinkSt) (d : Deliver)
    (h : handleFrame c st frame = some (st', d)) (hs : StoreOk st) : StoreOk st' := by
  obtain ⟨st1, d1, h1, hc⟩ := handleFrame_shape c st frame
  rw [h] at h1; cases h1
  rcases hc with hc | ⟨base, idx, cnt, st'', w, hr, hc⟩
  · unfold StoreOk; rw [hc]; exact hs
  · have := reassemble_preserves_storeOk st base idx cnt _ st'' w hr hs
    unfold StoreOk; rw [hc]; exact this

/-- a decoder for the examples: a frame `[s, i, n, x]` is an LpPacket with Sequence `s`,
    FragIndex `i`, FragCount `n` and the one-byte fragment `[x]`; `[5, 0]` is a bare Interest (type 5, length 0),
    `[6, 0]` a bare Data; everything else fails to decode. -/
def exDec : Bytes → Option Pkt
  | [s, i, n, x] =>
    some { interest := false, data := false,
           lp := some { seq := some s, idx := some i, cnt := some n, token := none,
                        fragment := some [x] } }
  | [5, 0] => some { interest := true, data := false, lp := none }
  | [6, 0] => some { interest := false, data := true, lp := none }
  | _ => none

def exCfg : Cfg := { reassembly := true, threads := 2, dec := exDec }

-- the interesting branch: a fragment 1 of 3 goes through `reassemble` and is stored
example : handleFrame exCfg initSt [9, 1, 3, 5] =
    some ({ store := [(8, [[], [5], []])] }, .nothing) := by rfl
-- the crash input of F-04c (FragIndex 7 ≥ FragCount 3) is dropped
example : handleFrame exCfg initSt [9, 7, 3, 5] = some (initSt, .nothing) := by rfl
-- the second fragment completes the two-fragment Interest `[5, 0]`: entry erased, Interest delivered
example : handleFrame exCfg { store := [(9, [[5], []])] } [10, 1, 2, 0] =
    some ({ store := [], nInInterests := 1 }, .interest) := by rfl
example : (runFrames exCfg initSt [[9, 0, 2, 5], [10, 1, 2, 0]]) =
    some { store := [], nInInterests := 1 } := by rfl
-- (F-09c) a payload with a second TLV behind the first is not ONE packet: dropped, not dispatched
example : singleTlv [5, 0] = true ∧ singleTlv [5, 0, 6, 0] = false ∧ singleTlv [5, 1, 7] = true ∧ singleTlv [5, 2, 7] = false := ⟨rfl, rfl, rfl, rfl⟩
-- a fragment whose FragCount disagrees with the stored entry is dropped, entry kept
example : handleFrame exCfg { store := [(9, [[5], []])] } [10, 1, 3, 5] =
    some ({ store := [(9, [[5], []])] }, .nothing) := by rfl

/-- no frame sequence makes the link service panic, and the store invariant rides along (panic-freedom
    itself does not need it: `handleFrame_never_panics`) -/
theorem runFrames_total (c : Cfg) (frames : List Bytes) :
    ∀ st, StoreOk st → ∃ st', runFrames c st frames = some st' ∧ StoreOk st' := by
  induction frames with
  | nil => intro st hs; exact ⟨st, rfl, hs⟩
  | cons f fs ih =>
    intro st hs
    obtain ⟨st1, d1, h1, _⟩ := handleFrame_shape c st f
    have hs1 := handleFrame_preserves_storeOk c st f st1 d1 h1 hs
    obtain ⟨st', h', hs'⟩ := ih st1 hs1
    exact ⟨st', by simp only [runFrames, h1, h'], hs'⟩

theorem frames_total (c : Cfg) (frames : List Bytes) : runFrames c initSt frames ≠ none := by
  obtain ⟨st', h, _⟩ := runFrames_total c frames initSt storeOk_init
  rw [h]; simp

example : runFrames exCfg initSt [[9, 1, 3, 5], [9, 7, 3, 5], [1, 2]] =
    some { store := [(8, [[], [5], []])] } := by rfl

theorem reassemble_slots (st : LinkSt) (base idx cnt : Nat) (frag : Bytes)
    (st' : LinkSt) (w : Option Bytes)
    (h : reassemble st base idx cnt frag = some (st', w)) : slots st' ≤ slots st + maxFragments := by
  unfold slots
  rcases reassemble_store h with e | e | ⟨s, hl, _, h1, _, e⟩ <;> rw [e]
  · exact Nat.le_add_right _ _
  · exact Nat.le_trans (sum_storeErase_le List.length st.store base) (Nat.le_add_right _ _)
  · have := sum_storeSet List.length st.store base (s.set idx frag)
    rw [List.length_set, hl] at this
    omega

/-- one frame allocates at most `maxFragments` slots -/
theorem store_bounded_step (c : Cfg) (st : LinkSt) (frame : Bytes) (st' : LinkSt) (d : Deliver)
    (h : handleFrame c st frame = some (st', d)) : slots st' ≤ slots st + maxFragments := by
  obtain ⟨st1, d1, h1, hc⟩ := handleFrame_shape c st frame
  rw [h] at h1; cases h1
  rcases hc with hc | ⟨base, idx, cnt, st'', w, hr, hc⟩
  · simp only [slots, hc]; omega
  · have := reassemble_slots st base idx cnt _ st'' w hr
    simp only [slots, hc] at this ⊢; exact this

/-- a measure `μ` of the link state that one frame `f` raises by at most `w f` is raised by a frame sequence
    by at most the sum -/
theorem runFrames_sum_le (c : Cfg) (μ : LinkSt → Nat) (w : Bytes → Nat)
    (hstep : ∀ st f st' d, handleFrame c st f = some (st', d) → μ st' ≤ μ st + w f) (frames : List Bytes) :
    ∀ st st', runFrames c st frames = some st' → μ st' ≤ μ st + (frames.map w).sum := by
  induction frames with
  | nil => intro st st' h; cases h; exact Nat.le_refl _
  | cons f fs ih =>
    intro st st' h
    obtain ⟨st1, d1, h1, _⟩ := handleFrame_shape c st f
    simp only [runFrames, h1] at h
    have := hstep st f st1 d1 h1
    have := ih st1 st' h
    simp only [List.map_cons, List.sum_cons]; omega

/-- from the empty store, after `k` frames at most `maxFragments * k` slots are allocated -/
theorem store_bounded (c : Cfg) (frames : List Bytes) (st' : LinkSt)
    (h : runFrames c initSt frames = some st') : slots st' ≤ maxFragments * frames.length := by
  have := runFrames_sum_le c slots (fun _ => maxFragments) (store_bounded_step c) frames initSt st' h
  simpa [slots, initSt, List.map_const', List.sum_replicate_nat, Nat.mul_comm] using this

example : slots { store := [(8, [[], [5], []])] } = 3 := rfl

theorem reassemble_bytes (st : LinkSt) (base idx cnt : Nat) (frag : Bytes)
    (st' : LinkSt) (w : Option Bytes)
    (h : reassemble st base idx cnt frag = some (st', w)) :
    storeBytes st' ≤ storeBytes st + frag.length := by
  unfold storeBytes
  rcases reassemble_store h with e | e | ⟨s, _, _, _, hf, e⟩ <;> rw [e]
  · exact Nat.le_add_right _ _
  · exact Nat.le_trans (sum_storeErase_le (fun v => (v.map List.length).sum) st.store base) (Nat.le_add_right _ _)
  · have := sum_storeSet (fun v => (v.map List.length).sum) st.store base (s.set idx frag)
    have hset := sum_length_set s idx frag
    rcases hf with hf | ⟨hf, rfl⟩
    · rw [hf, Option.elim_some] at this; omega
    · rw [hf, Option.elim_none] at this
      rw [sum_length_replicate] at hset
      omega

/-- one frame adds at most the length of its Fragment field to the bytes held in the store -/
theorem store_bytes_bounded (c : Cfg) (st : LinkSt) (frame : Bytes) (st' : LinkSt) (d : Deliver)
    (h : handleFrame c st frame = some (st', d)) :
    storeBytes st' ≤ storeBytes st + (fragOf c frame).length := by
  obtain ⟨st1, d1, h1, hc⟩ := handleFrame_shape c st frame
  rw [h] at h1; cases h1
  rcases hc with hc | ⟨base, idx, cnt, st'', w, hr, hc⟩
  · simp only [storeBytes, hc]; omega
  · have := reassemble_bytes st base idx cnt _ st'' w hr
    simp only [storeBytes, hc] at this ⊢; exact this

/-- sequence version: the bytes held never exceed the sum of the Fragment lengths seen so far -/
theorem store_bytes_bounded_from (c : Cfg) (frames : List Bytes) :
    ∀ st st', runFrames c st frames = some st' →
      storeBytes st' ≤ storeBytes st + (frames.map (fun f => (fragOf c f).length)).sum :=
  runFrames_sum_le c storeBytes _ (store_bytes_bounded c) frames

example : fragOf exCfg [9, 1, 3, 5] = [5] ∧ storeBytes { store := [(8, [[], [5], []])] } = 1 := by
  decide

theorem reject_no_state_change (c : Cfg) (st : LinkSt) (frame : Bytes) :
    c.dec frame = none → handleFrame c st frame = some (st, .nothing) := by
  intro h; simp only [handleFrame, h]

example : exCfg.dec [1, 2] = none := rfl

/-- loop invariant at the top of the outer loop: the buffer was compacted and holds at most one
    packet's worth of unread bytes -/
def Inv (s : StreamSt) : Prop := s.tlvOff = 0 ∧ s.data.length ≤ maxPkt

theorem inv_init : Inv ⟨0, []⟩ := by simp [Inv]

theorem inv_step {s : StreamSt} {d : Bytes} {s2 : StreamSt} {fr fr' : List Bytes}
    (hi : inner ((s.data ++ d).length + 1) ⟨s.tlvOff, s.data ++ d⟩ fr = .cont s2 fr') :
    Inv (if s2.data.length ≤ maxPkt then ⟨0, s2.data⟩ else s2) := by
  obtain ⟨_, h2⟩ := (inner_spec _ _ _).2 _ _ hi
  have := h2 (by simp only; omega)
  simp only [this, if_true, Inv, and_self]

/-- How the outer loop can end: no slice panic while `recvOff` is within the buffer; under the loop
    invariant no zero-length read, and no running out of fuel (every round uses up a chunk or part of one). -/
theorem stream_end (f : Nat) : ∀ (cs : List Bytes) (s : StreamSt) (fr : List Bytes),
    (s.recvOff ≤ bufCap → (stream f cs s fr).2 ≠ .panic) ∧
    (Inv s → (stream f cs s fr).2 ≠ .spin ∧ (chunksFuel cs ≤ f → (stream f cs s fr).2 ≠ .fuel)) := by
  induction f with
  | zero => intro cs s fr; exact ⟨fun _ => nofun, fun _ => ⟨nofun, fun hf => absurd hf (Nat.not_succ_le_zero _)⟩⟩
  | succ f ih =>
    intro cs s fr
    cases cs with
    | nil => exact ⟨fun _ => nofun, fun _ => ⟨nofun, fun _ => nofun⟩⟩
    | cons c cs =>
      rw [stream]
      by_cases hfree : bufCap - s.recvOff = 0
      · rw [if_pos hfree]
        refine ⟨fun _ => nofun, fun hs => absurd hfree ?_⟩
        obtain ⟨h0, h1⟩ := hs
        simp only [StreamSt.recvOff, bufCap, maxPkt] at h0 h1 ⊢; omega
      · rw [if_neg hfree]
        -- `n`: the number of bytes this read takes from the chunk: all of it, or a positive part (`h2`), so
        -- `chunksFuel` (one unit per chunk and per byte) goes down in either case
        generalize hn : min c.length (bufCap - s.recvOff) = n
        have h0 : n ≤ c.length := hn ▸ Nat.min_le_left ..
        have h1 : n ≤ bufCap - s.recvOff := hn ▸ Nat.min_le_right ..
        have h2 : n ≠ c.length → 0 < n := fun h => by
          rw [Nat.min_def] at hn
          split at hn
          · exact absurd hn.symm h
          · exact hn ▸ Nat.pos_of_ne_zero hfree
        clear hn
        have hs1 : s.recvOff ≤ bufCap → (⟨s.tlvOff, s.data ++ c.take n⟩ : StreamSt).recvOff ≤ bufCap := fun hs => by
          simp only [StreamSt.recvOff, List.length_append, List.length_take, Nat.min_eq_left h0] at hs h1 ⊢; omega
        simp only
        cases hi : inner _ _ fr with
        | panic => exact ⟨fun hs => absurd hi ((inner_spec _ _ _).1 (hs1 hs)), fun _ => ⟨nofun, fun _ => nofun⟩⟩
        | fail fr' => exact ⟨fun _ => nofun, fun _ => ⟨nofun, fun _ => nofun⟩⟩
        | cont s2 fr' =>
          obtain ⟨ih1, ih2⟩ := ih (if n = c.length then cs else c.drop n :: cs)
            (if s2.data.length ≤ maxPkt then ⟨0, s2.data⟩ else s2) fr'
          refine ⟨fun hs => ih1 ?_, fun _ => ⟨(ih2 (inv_step hi)).1, fun hf => (ih2 (inv_step hi)).2 ?_⟩⟩
          · have e := ((inner_spec _ _ _).2 _ _ hi).1
            by_cases hc : s2.data.length ≤ maxPkt
            · rw [if_pos hc]; simp only [StreamSt.recvOff, bufCap, maxPkt] at hc ⊢; omega
            · rw [if_neg hc, e]; exact hs1 hs
          · simp only [chunksFuel, List.map_cons, List.sum_cons] at hf ⊢
            by_cases hc : n = c.length
            · rw [if_pos hc]; omega
            · have := h2 hc
              rw [if_neg hc, List.map_cons, List.sum_cons, List.length_drop]; omega

theorem stream_no_panic (f : Nat) : ∀ (cs : List Bytes) (s : StreamSt) (fr : List Bytes),
    s.recvOff ≤ bufCap → (stream f cs s fr).2 ≠ .panic :=
  fun cs s fr => (stream_end f cs s fr).1

theorem stream_progress (f : Nat) : ∀ (cs : List Bytes) (s : StreamSt) (fr : List Bytes),
    Inv s → (stream f cs s fr).2 ≠ .spin :=
  fun cs s fr hs => ((stream_end f cs s fr).2 hs).1

theorem stream_fuel (f : Nat) : ∀ (cs : List Bytes) (s : StreamSt) (fr : List Bytes),
    Inv s → chunksFuel cs ≤ f → (stream f cs s fr).2 ≠ .fuel :=
  fun cs s fr hs => ((stream_end f cs s fr).2 hs).2

/-- for every chunking of the input, the framing loop ends with EOF or an error return: no slice
    panic, no zero-length read spin, and the model's fuel is never the reason it stops -/
theorem stream_total (chunks : List Bytes) :
    (runStream chunks).2 ≠ .panic ∧ (runStream chunks).2 ≠ .spin ∧ (runStream chunks).2 ≠ .fuel := by
  refine ⟨?_, ?_, ?_⟩
  · exact stream_no_panic _ _ _ _ (by decide)
  · exact stream_progress _ _ _ _ inv_init
  · exact stream_fuel _ _ _ _ inv_init (Nat.le_refl _)

-- the initial state meets the hypothesis of `stream_no_panic`
example : (⟨0, []⟩ : StreamSt).recvOff ≤ bufCap := by decide

theorem stream_total' (chunks : List Bytes) :
    (runStream chunks).2 = .eof ∨ (runStream chunks).2 = .err := by
  obtain ⟨h1, h2, h3⟩ := stream_total chunks
  cases h : (runStream chunks).2 with
  | eof => exact .inl rfl
  | err => exact .inr rfl
  | spin => exact absurd h h2
  | panic => exact absurd h h1
  | fuel => exact absurd h h3

-- a two-byte TLV `[1,0]` delivered across two reads, then EOF
example : runStream [[1], [0]] = ([[1, 0]], .eof) := by rfl
-- a length above the buffer capacity: error return, not a panic (F-04b)
example : runStream [[1, 0xfe, 0xff, 0xff, 0xff, 0xff]] = ([], .err) := by rfl

end Ndn.C04

/-! # Part III — the decoders over ANY healthy reader (segmented WireReader included)

  `parseR` (SegmentedModel.lean) is the generated `Parse<Model>` code performing every access through the reader
  operations of `std/encoding/readers.go` as modelled in C03/Reader.lean.
  Hypothesis on the segmentation: `At` needs the segments AFTER THE FIRST to be non-empty
  (`WireReader.nextSeg` skips empty segments but `Delegate`/`Skip` index `wire[seg]` directly);
  `NonEmptySegs` (all segments non-empty) is what the link layer produces.  Both forms are stated.
  No further hypothesis: any schema, any `ignoreCritical`, any bytes.
-/
namespace Ndn.C04.Seg
open Ndn.C13
open Ndn.C03 (Rd newWireReader newBufferReader At NonEmptySegs)

def exName : Schema := ⟨"x", false, .cons 7 .name .nil⟩
def exNested : Schema :=
  ⟨"y", true, .cons 1 (.natural false) (.cons 2 .binary (.cons 3 (.struct false (.cons 7 (.seq .name) .nil)) .nil))⟩
def exSegs : List Bytes := [[7], [3, 8], [1, 65]]
/-- `[1,1,5, 2,2,9,9, 3,6, 7,0, 7,2,8,0]` cut so that T/L numbers, the binary value, the struct value
    (→ `WireReader.Delegate` returns a WireReader) and a name component all cross segment borders -/
def exSegs2 : List Bytes := [[1, 1], [5, 2, 2, 9], [9, 3, 6, 7, 0, 7], [2, 8], [0]]

theorem exSegs_ne : NonEmptySegs exSegs := by
  unfold NonEmptySegs; decide
theorem exSegs2_ne : NonEmptySegs exSegs2 := by
  unfold NonEmptySegs; decide

/-- On a healthy reader over logical buffer `b` at position `p` the reader-based decoder returns
    exactly what the contiguous decoder returns on the remaining bytes (value, allocation counter,
    and every failure outcome). -/
theorem parseR_eq_parse (s : Schema) (ic : Bool) (r : Rd) (b : Bytes) (p : Nat) :
    At r b p → parseR s ic r = parse s ic (b.drop p) := runSlotsR_eq (compileR_sim s.fields) s.ordered ic

/-- non-vacuity: a healthy WireReader in the middle of its second segment -/
example : At (.wire ⟨[[9, 9], [9, 7, 3], [8, 1, 65]], 1, 1, 0⟩) [9, 9, 9, 7, 3, 8, 1, 65] 3 := by
  refine ⟨⟨by decide, by decide, by decide, ?_, by decide⟩, rfl, by decide⟩
  intro i h0 hi
  match i, h0, hi with
  | 1, _, _ => decide
  | 2, _, _ => decide
example : parseR exName false (.wire ⟨[[9, 9], [9, 7, 3], [8, 1, 65]], 1, 1, 0⟩)
    = .ok (.cons (.name [⟨8, [65]⟩]) .nil) 64 := by rfl

/-- The same for one field reader, with the reader that is left: it is healthy over the same buffer
    at the position `p' ≥ p` the contiguous reader has reached. -/
theorem readKind_any_reader (k : Kind) (l : Nat) (ic : Bool) (r : Rd) (b : Bytes) (p : Nat) (h : At r b p) :
    match readKind k l ic (b.drop p) with
    | .ok (v, rest') a => ∃ r' p', readKindR k l ic r = .ok (v, r') a ∧ p ≤ p' ∧ p' ≤ b.length
                            ∧ At r' b p' ∧ rest' = b.drop p'
    | .err a => readKindR k l ic r = .err a
    | .panic => readKindR k l ic r = .panic
    | .fuel => readKindR k l ic r = .fuel := by
  have hs := relG_right (readKindR_sim k l ic r b p h)
  revert hs
  cases readKind k l ic (b.drop p) with
  | ok y a =>
    rintro ⟨⟨v, r'⟩, e, hv, p', hp, ha, hrest⟩
    exact ⟨r', p', hv ▸ e, hp, At_le ha, ha, hrest⟩
  | err a => exact id
  | panic => exact id
  | fuel => exact id

/-- non-vacuity: a name field whose value crosses two segment borders; the reader that is left is
    parked at the end of the last segment -/
example : readKindR .name 3 false (.wire ⟨[[7, 3, 8], [1], [65]], 0, 2, 0⟩)
    = .ok (.name [⟨8, [65]⟩], .wire ⟨[[7, 3, 8], [1], [65]], 2, 1, 0⟩) 64 := by rfl
/-- a component that overruns the announced name length is an error over the segmented reader as it
    is over the contiguous one (`decComps` refuses it, the Go loop ends with `Pos() != endName`) -/
example : readKindR .name 3 false (.wire ⟨[[8, 2], [65, 66, 67]], 0, 0, 0⟩) = .err 64
    ∧ readKind .name 3 false [8, 2, 65, 66, 67] = .err 64 := ⟨by rfl, by rfl⟩

/-- PROPERTY (any segmentation): decoding over a WireReader on ANY segmentation whose segments after
    the first are non-empty gives exactly the outcome of decoding the joined bytes. -/
theorem parse_segmented_eq_contiguous' (s : Schema) (ic : Bool) (segs : List Bytes)
    (h : ∀ i, 0 < i → i < segs.length → segs.getD i [] ≠ []) :
    parseR s ic (newWireReader segs) = parse s ic segs.flatten := by
  have := parseR_eq_parse s ic _ _ _ (C03.at_newWireReader segs h)
  rwa [List.drop_zero] at this

theorem parse_segmented_eq_contiguous (s : Schema) (ic : Bool) (segs : List Bytes) (h : NonEmptySegs segs) :
    parseR s ic (newWireReader segs) = parse s ic segs.flatten :=
  parse_segmented_eq_contiguous' s ic segs fun i _ hi =>
    h _ (by simp only [List.getD, List.getElem?_eq_getElem hi, Option.getD_some]; exact List.getElem_mem hi)

/-- non-vacuity: the hypotheses are met and both sides really decode -/
example : NonEmptySegs exSegs := exSegs_ne
example : parseR exName false (newWireReader exSegs) = .ok (.cons (.name [⟨8, [65]⟩]) .nil) 64 := by rfl
example : parse exName false exSegs.flatten = .ok (.cons (.name [⟨8, [65]⟩]) .nil) 64 := by rfl
example : parseR exNested false (newWireReader exSegs2)
    = .ok (.cons (.nat 5) (.cons (.bytes [9, 9])
        (.cons (.struct (.cons (.seq (.cons (.name []) (.cons (.name [⟨8, []⟩]) .nil))) .nil)) .nil))) 98 := by
  rfl
/-- an empty FIRST segment is covered by the primed form -/
example : parseR exName false (newWireReader [[], [7, 3, 8], [1, 65]]) = parse exName false [7, 3, 8, 1, 65] :=
  parse_segmented_eq_contiguous' exName false [[], [7, 3, 8], [1, 65]] (by
    intro i h0 hi
    match i, h0, hi with
    | 1, _, _ => decide
    | 2, _, _ => decide)

/-- the BufferReader instance: `parseR` over `enc.NewBufferReader(b)` is `parse` -/
theorem parse_buffer_eq_contiguous (s : Schema) (ic : Bool) (b : Bytes) :
    parseR s ic (newBufferReader b) = parse s ic b := by
  have := parseR_eq_parse s ic _ _ _ (C03.at_newBufferReader b)
  rwa [List.drop_zero] at this

example : parseR exName false (newBufferReader [7, 3, 8, 1, 65]) = .ok (.cons (.name [⟨8, [65]⟩]) .nil) 64 := by rfl

/-- the three decoder properties in one statement, on any healthy reader -/
theorem parseR_bounded (M : Nat) (s : Schema) (ic : Bool) (r : Rd) (b : Bytes) (p : Nat) (h : At r b p)
    (hM : b.length ≤ M) : Bounded (maxInput < M) (parseR s ic r) (16 * (b.length - p)) := by
  rw [parseR_eq_parse s ic r b p h, ← List.length_drop]
  exact parse_bounded M s ic _ (Nat.le_trans (List.length_drop ▸ Nat.sub_le ..) hM)

theorem parse_total_reader (s : Schema) (ic : Bool) (r : Rd) (b : Bytes) (p : Nat) (h : At r b p)
    (hl : b.length ≤ maxInput) : parseR s ic r ≠ .panic :=
  (parseR_bounded maxInput s ic r b p h hl).ne_panic (Nat.lt_irrefl _)

theorem parse_fuel_free_reader (s : Schema) (ic : Bool) (r : Rd) (b : Bytes) (p : Nat) (h : At r b p) :
    parseR s ic r ≠ .fuel :=
  (parseR_bounded b.length s ic r b p h (Nat.le_refl _)).ne_fuel

theorem parse_alloc_linear_reader (s : Schema) (ic : Bool) (r : Rd) (b : Bytes) (p : Nat) (h : At r b p)
    (hl : b.length ≤ maxInput) : (parseR s ic r).alloc ≤ 16 * (b.length - p) :=
  (parseR_bounded maxInput s ic r b p h hl).alloc_le

/-- PROPERTY (no panic): at most 2^40 bytes, in any segmentation, under any schema: no panic. -/
theorem parse_total_segmented (s : Schema) (ic : Bool) (segs : List Bytes) (h : NonEmptySegs segs) :
    segs.flatten.length ≤ maxInput → parseR s ic (newWireReader segs) ≠ .panic := by
  intro hl
  rw [parse_segmented_eq_contiguous s ic segs h]
  exact parse_total s ic _ hl

/-- non-vacuity: a length field far beyond the input, cut in the middle of the length number, is an
    error (nothing allocated), not a panic -/
example : NonEmptySegs [[7, 0xfe, 0xff], [0xff, 0xff, 0xff, 8], [1, 65]] := by
  unfold NonEmptySegs; decide
example : parseR exName false (newWireReader [[7, 0xfe, 0xff], [0xff, 0xff, 0xff, 8], [1, 65]]) = .err 0 := by rfl

/-- PROPERTY (termination): fuel `Length() - Pos() + 1` always suffices, whatever the input. -/
theorem parse_fuel_free_segmented (s : Schema) (ic : Bool) (segs : List Bytes) (h : NonEmptySegs segs) :
    parseR s ic (newWireReader segs) ≠ .fuel := by
  rw [parse_segmented_eq_contiguous s ic segs h]
  exact parse_fuel_free s ic _

/-- non-vacuity: the fuel outcome is real in the reader-based model (no fuel, no iteration) -/
example : loopUR (compileR exName.fields) false 0 (newWireReader exSegs) (initAccR (compileR exName.fields))
    = .fuel := by rfl
example : NonEmptySegs exSegs2 := exSegs2_ne

/-- PROPERTY (allocation): what a parse allocates on the say-so of length fields is at most 16 bytes
    per input byte, whatever the segmentation. -/
theorem parse_alloc_linear_segmented (s : Schema) (ic : Bool) (segs : List Bytes) (h : NonEmptySegs segs) :
    segs.flatten.length ≤ maxInput → (parseR s ic (newWireReader segs)).alloc ≤ 16 * segs.flatten.length := by
  intro hl
  rw [parse_segmented_eq_contiguous s ic segs h]
  exact parse_alloc_linear s ic _ hl

/-- non-vacuity and tightness: an empty name in two one-byte segments allocates 32 = 16 · 2 bytes -/
example : (parseR exName false (newWireReader [[7], [0]])).alloc = 32 ∧ 16 * [[7], [0]].flatten.length = 32 :=
  ⟨by rfl, by rfl⟩
example : NonEmptySegs [[7], [0]] := by unfold NonEmptySegs; decide

end Ndn.C04.Seg

namespace Ndn.C04

/-- **C04, a repeated fragment changes nothing** (`soak` of the correspondence: a lossy peer that repeats
    first fragments for any length of time).  Whenever a fragment leaves its message incomplete, handing the
    link service the very same fragment again — same base sequence, index, count and bytes — leaves the whole
    link state (partial message store and counters) exactly as it is: the store never grows with the number
    of repetitions. -/
theorem repeated_fragment_changes_nothing (st st' : LinkSt) (base idx cnt : Nat) (frag : Bytes)
    (h : reassemble st base idx cnt frag = some (st', none)) :
    reassemble st' base idx cnt frag = some (st', none) := by
  rcases reassemble_cases st base idx cnt frag with hc | ⟨e, _, _, _, _, hc⟩
  · cases h.symm.trans hc; exact h
  · rw [h] at hc
    by_cases hcomp : ((e.set idx frag).filter (· ≠ [])).length = (e.set idx frag).length
    · rw [if_pos hcomp] at hc; cases hc
    · rw [if_neg hcomp] at hc
      cases hc
      -- the second call finds the slot list the first one stored, overwrites the slot with the same bytes
      -- and stores the same list
      rcases reassemble_cases { st with store := storeSet st.store base (e.set idx frag) } base idx cnt frag
        with hc | ⟨e2, _, _, _, hf, hc⟩
      · exact hc
      · have he : e2 = e.set idx frag := by
          rw [storeFind_storeSet] at hf
          rcases hf with hf | ⟨hf, _⟩
          · exact (Option.some.inj hf).symm
          · cases hf
        subst he
        rw [hc, List.set_set, if_neg hcomp, storeSet_storeSet]

example : reassemble ({ store := [] } : LinkSt) 77 0 2 [6, 18] = some ({ store := [(77, [[6, 18], []])] }, none) := by rfl

end Ndn.C04
