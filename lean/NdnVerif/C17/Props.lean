/-
  C17 — property theorems (the lemmas about the model are in Lemmas.lean).

  Everything is stated for EVERY model state satisfying the invariant `StWF` (established for the
  initial state and preserved by every step: `wf_init`, `wf_step`, hence for every history:
  `wf_history`), every arrival face, every name, every decoded ControlParameters value, every
  answer of the oracles (`Ext`: RIB→FIB flattening, C06; `routed`: forwarding plane, C02/C05).
  `check` is the same executable predicate the driver evaluates on the implementation's outputs.
-/
import NdnVerif.C17.Lemmas
namespace Ndn.C17

deriving instance DecidableEq for Dataset, Resp

structure Input where
  ext : Ext
  routed : Bool
  face : Nat
  name : Name
  params : Params
  closes : Bool := false     -- instead of an arrival: face `face` closes on its own

def stepIn (st : St) (i : Input) : St :=
  if i.closes then faceClosed st i.ext i.face else (sysStep st i.ext i.routed i.face i.name i.params).1

def runHistory (st : St) (h : List Input) : St := h.foldl stepIn st

theorem wf_init (lh : Bool) : StWF (init lh) :=
  have : ∀ f ∈ initFaces, f.ndnlp = false → schemeUpdatable f = false := by decide +kernel
  ⟨⟨fun f hf hs => Decidable.byContradiction fun hn => Bool.noConfusion (hs.symm.trans (this f hf (Bool.eq_false_iff.2 hn))),
    (by decide : ∀ g ∈ initFaces, g.id < 8)⟩, (by decide : (0 : Int) ≤ 1024), (by decide : (1024 : Int) ≤ maxInt)⟩

/-- `usable` (every chosen strategy is instantiated, every face MTU carries a packet, capacity ≥ 0)
    holds initially -/
theorem usable_init (lh : Bool) : usable (tablesOf (init lh)) = true := by
  simp only [usable, tablesOf, init, List.all_cons, instantiated, beq_self_eq_true]; rfl

theorem wf_step (st : St) (ext : Ext) (routed : Bool) (face : Nat) (name : Name) (p : Params) (h : StWF st) :
    StWF (sysStep st ext routed face name p).1 := by
  obtain ⟨⟨hwf, hid⟩, h0, h1⟩ := h
  rcases step_cases st ext routed face name p ⟨hwf, hid⟩ with ⟨⟨htb, _, hnf, _⟩, _⟩ | ⟨v, a, _, rfl, hval, _, _, hag, _⟩
  · simp only [tbl, Prod.mk.injEq] at htb
    obtain ⟨_, _, _, hcs, hfa⟩ := htb
    exact ⟨⟨hfa ▸ hwf, by rw [hfa, hnf]; exact hid⟩, hcs ▸ h0, hcs ▸ h1⟩
  · exact stWF_of_agrees ⟨⟨hwf, hid⟩, h0, h1⟩ hval hag

theorem wf_closed (st : St) (ext : Ext) (f : Nat) (h : StWF st) : StWF (faceClosed st ext f) := by
  unfold faceClosed
  split
  · obtain ⟨⟨hwf, hid⟩, h0, h1⟩ := h
    exact ⟨⟨fun g hg hs => hwf g (mem_faceRemove hg) hs, fun g hg => hid g (mem_faceRemove hg)⟩, h0, h1⟩
  · exact h

theorem usable_closed (st : St) (ext : Ext) (f : Nat) (h : usable (tablesOf st) = true) :
    usable (tablesOf (faceClosed st ext f)) = true := by
  unfold faceClosed
  split
  · rw [usable_iff] at h ⊢
    exact ⟨h.1, fun g hg => h.2.1 g (mem_faceRemove hg), h.2.2⟩
  · exact h

theorem stepIn_wf (st : St) (i : Input) (h : StWF st) : StWF (stepIn st i) := by
  unfold stepIn; split
  · exact wf_closed _ _ _ h
  · exact wf_step _ _ _ _ _ _ h

theorem wf_history (lh : Bool) (h : List Input) : StWF (runHistory (init lh) h) :=
  List.foldlRecOn h _ (wf_init lh) fun st hst i _ => stepIn_wf st i hst

theorem outcomeOf_eq {r : Resp} :
    (∀ {c e}, outcomeOf r = .ctrl c e → r = .ctrl c e) ∧ (outcomeOf r = .none → r = .none) := by
  cases r <;> exact ⟨fun h => (by cases h <;> rfl), fun h => (by cases h <;> rfl)⟩

/-- for every state (invariant), arrival face, name and parameters — decodable or
    not, any field present or absent, any values — the management plane answers or stays silent;
    no Go panic outcome of the model is reachable. -/
theorem handle_total (st : St) (ext : Ext) (routed : Bool) (face : Nat) (name : Name) (p : Params)
    (hwf : StWF st) : ∀ m, (sysStep st ext routed face name p).2 ≠ .panic m := by
  intro m hm
  rcases step_cases st ext routed face name p hwf.1 with ⟨⟨_, _, _, h | ⟨_, _, h, _⟩ | ⟨_, _, _, _, h, _⟩⟩, _⟩ |
      ⟨_, _, _, _, _, _, _, _, h | ⟨h, _⟩⟩ <;>
    cases h.symm.trans hm

-- a Strategy that is the bare prefix (no strategy component) is answered 404, not a panic (F-17a)
example : (sysStep (init false) ⟨[]⟩ true 2 (lhPrefix ++ [gc "strategy-choice", gc "set", ⟨8, []⟩])
    (.args { name := some [], strategy := some strategyPrefix })).2 = .ctrl 404 noArgs := by decide +kernel

/-- if any table (RIB, FIB, strategy choices, CS capacity, face
    table) differs after a step, the Interest arrived under /localhost/nfd on a local face, or
    under /localhop/nfd for the RIB module with localhop management enabled — and was delivered. -/
theorem state_changes_only_if_authorised (st : St) (ext : Ext) (routed : Bool) (face : Nat) (name : Name)
    (p : Params) (hwf : StWF st)
    (hch : tablesOf (sysStep st ext routed face name p).1 ≠ tablesOf st) :
    authorised st.lh st.faces face name = true ∧ routed = true := by
  rcases step_cases st ext routed face name p hwf.1 with ⟨hb, _⟩ | ⟨_, _, _, _, _, ha, hr, _⟩
  · exact absurd (tablesOf_eq_of_tbl hb.1) hch
  · exact ⟨ha, hr⟩

/-- with localhop management off, nothing arriving under /localhop/nfd changes anything (F-17d) -/
theorem localhop_disabled_no_change (st : St) (ext : Ext) (routed : Bool) (face : Nat) (name : Name)
    (p : Params) (hwf : StWF st) (hlh : st.lh = false) (hn : lhPrefix.isPrefixOf name = false) :
    tablesOf (sysStep st ext routed face name p).1 = tablesOf st := by
  apply Classical.byContradiction
  intro hch
  have := (state_changes_only_if_authorised st ext routed face name p hwf hch).1
  simp [authorised, hlh, hn] at this

theorem nonlocal_localhost_no_change (st : St) (ext : Ext) (routed : Bool) (face : Nat) (name : Name)
    (p : Params) (hwf : StWF st) (hf : faceIsLocal st.faces face = false) (hn : lpPrefix.isPrefixOf name = false) :
    tablesOf (sysStep st ext routed face name p).1 = tablesOf st := by
  apply Classical.byContradiction
  intro hch
  have := (state_changes_only_if_authorised st ext routed face name p hwf hch).1
  simp [authorised, hf, hn] at this

example : authorised true initFaces 4 (lpPrefix ++ [gc "rib", gc "register"]) = true ∧
    authorised false initFaces 4 (lpPrefix ++ [gc "rib", gc "register"]) = false ∧
    authorised true initFaces 4 (lhPrefix ++ [gc "rib", gc "register"]) = false := by decide +kernel

theorem datasetOk_of {st : St} {d : Dataset} (hwf : StWF st) (hd : DatasetOf st d) : datasetOk d (tablesOf st) = true := by
  -- every table test of `datasetOk` is a conjunct of `Tables.same t t`, taken at the face list the dataset shows
  have s := fun fs => same_refl { tablesOf st with faces := fs }
  simp only [Tables.same, Bool.and_eq_true] at s
  rcases hd with rfl | rfl | rfl | rfl | rfl | rfl | ⟨q, rfl⟩
  · exact (s st.faces).1.1.1.1
  · exact (s st.faces).1.1.1.2
  · exact (s st.faces).1.1.2
  · exact Bool.and_eq_true_iff.2 ⟨decide_eq_true (toU64_of_nonneg hwf.2.1 hwf.2.2), rfl⟩
  · exact decide_eq_true rfl
  · exact (s _).2
  · exact (s _).2

theorem check_nil_iff (o : Obs) : check o = [] ↔
    cLive o = true ∧ cAuth o = true ∧ cEffect o = true ∧ cNoChange o = true ∧ cDataset o = true ∧
    cValidity o = true ∧ cUsable o = true := by
  simp only [check, List.append_eq_nil_iff, ite_eq_left_iff, Bool.not_eq_true, List.cons_ne_self, imp_false,
    Bool.not_eq_false, and_assoc]

/-- the predicate the driver evaluates on the implementation's outputs
    (`check`: live, authorised, effect, nochange, dataset, accepted/refused, usable) finds nothing
    to object to in ANY step of the model. -/
theorem model_satisfies_spec (st : St) (ext : Ext) (routed : Bool) (face : Nat) (name : Name) (p : Params)
    (hwf : StWF st) : check (obsOf st ext routed face name p) = [] := by
  have hs := obs_shape st ext routed face name p hwf.1
  generalize hob : obsOf st ext routed face name p = o at hs
  have hbefore : o.before = tablesOf st := by rw [← hob]; rfl
  have noval (hnv : ∀ v, verbOf o.name = some v → o.auth = true → o.routed = true → ∃ c e, o.out = .ctrl c e ∧
      validity o.before o.face v o.hasP o.params ≠ .valid ∧ 400 ≤ c ∧ c < 500) : cValidity o = true := by
    unfold cValidity
    cases hvo : verbOf o.name with
    | none => rfl
    | some v =>
      dsimp only
      cases ha : o.auth
      · rfl
      cases hr : o.routed
      · rfl
      obtain ⟨c, e, h1, hnvd, hc1, hc2⟩ := hnv v hvo ha hr
      rw [h1]
      cases hvd : validity o.before o.face v o.hasP o.params
      · exact absurd hvd hnvd
      · simp [hc1, hc2]
      · rfl
  refine (check_nil_iff o).2 ?_
  cases hs with
  | quiet h1 h2 hnv =>
    simp only [cLive, cAuth, cEffect, cNoChange, cDataset, cUsable, Obs.changed, h1, h2, same_refl, Bool.not_true,
      Bool.not_false, Bool.true_or, Bool.not_or_self, true_and, and_true]
    exact noval fun v a b c => (hnv v a b c).elim
  | refused c e h1 hc h2 hnv =>
    simp only [cLive, cAuth, cDataset, cUsable, Obs.changed, h1, h2, same_refl, Bool.not_true, Bool.not_false,
      Bool.true_or, Bool.not_or_self, true_and, and_true]
    refine ⟨?_, ?_, noval fun v a b d => ⟨c, e, h1, hnv v a b d⟩⟩
    · rw [cEffect, h1]; split
      · rename_i heq; cases heq; exact absurd rfl hc
      · rfl
    · rw [cNoChange, h1, Obs.changed, h2, same_refl]; split <;> rfl
  | listed pf mv v d h1 h2 hd hnv =>
    simp only [cLive, cAuth, cEffect, cNoChange, cDataset, cUsable, Obs.changed, h1, h2, same_refl, Bool.not_true,
      Bool.not_false, Bool.true_or, Bool.not_or_self, true_and, and_true, hbefore]
    exact ⟨datasetOk_of hwf hd, noval fun v a b c => (hnv v a b c).elim⟩
  | accepted v a hv hp hvd ha hr nid hnid hm hu ho =>
    have hus : cUsable o = true := by
      rw [cUsable]; cases hb : usable o.before
      · rfl
      · exact hu hb
    rw [hp] at hvd
    have hb (x : Args) : (x == x) = true := beq_self_eq_true x
    rcases ho with ho | ho <;>
      simp only [cLive, cAuth, cEffect, cNoChange, cDataset, cValidity, ho, hv, hp, hnid, hm, ha, hr, hvd, hus, hb,
        Nat.reduceBEq, Bool.and_self, Bool.or_true, ite_true, and_self]

theorem model_satisfies_spec_history (lh : Bool) (h : List Input) (i : Input) :
    check (obsOf (runHistory (init lh) h) i.ext i.routed i.face i.name i.params) = [] :=
  model_satisfies_spec _ _ _ _ _ _ (wf_history lh h)

/-- whenever the requester sees status 200 for a command of one of the ten
    state-changing verbs, the parameters were decodable and valid, the echoed parameters are the
    ones the specification prescribes, and strategy choices, CS capacity and face table — plus the
    FIB for FIB commands and the RIB for RIB commands — are exactly `effect` of the old tables
    (the FIB after a RIB command or a face destruction is C06's; the RIB after a destruction is `ribCleanFace`). -/
theorem accepted_effect_exact (st : St) (ext : Ext) (routed : Bool) (face : Nat) (name : Name) (p : Params)
    (hwf : StWF st) (v : Verb) (hv : verbOf name = some v) (echo : Args)
    (h200 : (sysStep st ext routed face name p).2 = .ctrl 200 echo) :
    ∃ a, p = .args a ∧ validity (tablesOf st) face v (hasParams name) p = .valid ∧
      echo = (effect (tablesOf st) face v a (newIdOf v echo)).echo ∧
      (effect (tablesOf st) face v a (newIdOf v echo)).matches (tablesOf (sysStep st ext routed face name p).1) = true := by
  rcases step_cases st ext routed face name p hwf.1 with ⟨⟨_, _, _, h | ⟨_, _, h, hc⟩ | ⟨_, _, _, _, h, _⟩⟩, _⟩ |
      ⟨v', a, hv', hp, hval, _, _, hag, h | ⟨h, _⟩⟩ <;>
    cases h.symm.trans h200
  · exact absurd rfl hc
  · cases hv'.symm.trans hv
    have hnid := effect_newId_fix (tablesOf st) face v a (modelNewId v st)
    exact ⟨a, hp, hval, (congrArg Effect.echo hnid).symm, (congrArg (Effect.matches · _) hnid).trans (agrees_matches hag)⟩

/-- the documented defaults of rib/register: requesting face, origin 0 (app), cost 0,
    flags 1 (child-inherit) -/
theorem rib_register_defaults (t : Tables) (inFace : Nat) (n : Name) :
    (effect t inFace .ribRegister { name := some n }).echo =
      { name := some n, faceId := some inFace, origin := some 0, cost := some 0, flags := some 1 } ∧
    (effect t inFace .ribRegister { name := some n }).t.rib = ribAdd t.rib n ⟨inFace, 0, 0, 1, none⟩ := by
  simp [effect, targetFace]

/-- fib/add-nexthop defaults: requesting face, cost 0; FaceId 0 also means the requesting face -/
theorem fib_add_defaults (t : Tables) (inFace : Nat) (n : Name) :
    (effect t inFace .fibAdd { name := some n }).t.fib = fibInsert t.fib n inFace 0 ∧
    (effect t inFace .fibAdd { name := some n, faceId := some 0 }).t.fib = fibInsert t.fib n inFace 0 := by
  simp [effect, targetFace]

/-- a delivered, authorised command of a known verb whose parameters are
    valid is answered 200 (unless it destroyed the requester's own face) -/
theorem accepted_reports_200 (st : St) (ext : Ext) (face : Nat) (name : Name) (p : Params)
    (hwf : StWF st) (v : Verb) (hv : verbOf name = some v)
    (hauth : authorised st.lh st.faces face name = true)
    (hval : validity (tablesOf st) face v (hasParams name) p = .valid) :
    (∃ echo, (sysStep st ext true face name p).2 = .ctrl 200 echo) ∨
    ((sysStep st ext true face name p).2 = .none ∧
      (faceGet (sysStep st ext true face name p).1.faces face).isNone = true) := by
  rcases step_cases st ext true face name p hwf.1 with ⟨_, hnv⟩ | ⟨_, _, _, _, _, _, _, _, ho⟩
  · exact absurd hval (hnv v hv hauth rfl).1
  · exact ho.imp_left fun h => ⟨_, h⟩

/-- a delivered, authorised command of a known verb whose parameters are
    missing, undecodable or out of range (no Name, non-existent face, unknown / malformed strategy
    name, Flags without Mask, capacity ≥ 2^63, MTU that cannot carry a packet, unknown face,
    unacceptable persistency, no FaceId for destroy) is answered with a 4xx status and every
    table is exactly as before. -/
theorem bad_params_4xx_no_change (st : St) (ext : Ext) (face : Nat) (name : Name) (p : Params)
    (hwf : StWF st) (v : Verb) (hv : verbOf name = some v)
    (hauth : authorised st.lh st.faces face name = true)
    (hbad : validity (tablesOf st) face v (hasParams name) p ≠ .valid) :
    (∃ c e, (sysStep st ext true face name p).2 = .ctrl c e ∧ 400 ≤ c ∧ c < 500) ∧
    tablesOf (sysStep st ext true face name p).1 = tablesOf st := by
  rcases step_cases st ext true face name p hwf.1 with ⟨hb, hnv⟩ | ⟨v', _, hv', _, hval, _⟩
  · exact ⟨(hnv v hv hauth rfl).2, tablesOf_eq_of_tbl hb.1⟩
  · cases hv'.symm.trans hv
    exact absurd hval hbad

theorem non200_no_change (st : St) (ext : Ext) (routed : Bool) (face : Nat) (name : Name) (p : Params)
    (hwf : StWF st) (c : Nat) (e : Args) (hc : c ≠ 200)
    (h : (sysStep st ext routed face name p).2 = .ctrl c e) :
    tablesOf (sysStep st ext routed face name p).1 = tablesOf st := by
  rcases step_cases st ext routed face name p hwf.1 with ⟨hb, _⟩ | ⟨_, _, _, _, _, _, _, _, ho | ⟨ho, _⟩⟩
  · exact tablesOf_eq_of_tbl hb.1
  all_goals cases ho.symm.trans h
  exact absurd rfl hc

/-- strategy-choice/unset of the root prefix is refused with 400 by the handler (with `root_strategy_kept`:
    `FindStrategyEnc` always finds a strategy, F-05b is unreachable through management) -/
theorem strategy_unset_root_rejected (st : St) (name : Name) (a : Args) (hn : a.name = some [])
    (hp : hasParams name = true) :
    scUnsetCmd st name (.args a) = (st, .ctrl 400 noArgs) := by
  simp [scUnsetCmd, hp, hn, r400]

theorem root_strategy_kept (st : St) (ext : Ext) (routed : Bool) (face : Nat) (name : Name) (p : Params)
    (hwf : StWF st) (hroot : ∃ s, ([], s) ∈ st.sc) :
    ∃ s, ([], s) ∈ (sysStep st ext routed face name p).1.sc := by
  rcases step_cases st ext routed face name p hwf.1 with ⟨⟨htb, _⟩, _⟩ | ⟨v, a, _, rfl, hval, _, _, hag, _⟩
  · simp only [tbl, Prod.mk.injEq] at htb
    rw [htb.2.2.1]; exact hroot
  · obtain ⟨_, _, _, _, _, _, _, hsc, _⟩ := hag
    rw [hsc]
    rcases (effect_sc_cs (tablesOf st) face v a (modelNewId v st)).1 with h | ⟨rfl, h⟩ | ⟨rfl, h⟩ <;> rw [h]
    · exact hroot
    · exact scSet_keeps_key hroot
    · obtain ⟨x, hx⟩ := hroot
      obtain ⟨c, n, hn⟩ := valid_scUnset hval
      exact ⟨x, List.mem_filter.2 ⟨hx, by simp [hn]⟩⟩

example : ∃ s, ([], s) ∈ (init true).sc := ⟨bestRouteV1, List.mem_singleton.2 rfl⟩

/-- with fragmentation on, an MTU above the largest overhead and a forwarder-size PIT token, a
    packet is never dropped: it leaves as at least one frame -/
theorem sendOutcome_ok (mtu tokLen : Nat) (inFaceInd hasMark : Bool) (wholeLen len : Nat)
    (h : maxOverhead < mtu) (ht : tokLen ≤ 6) (hl : 0 < len) :
    ∃ n, 0 < n ∧ sendOutcome mtu true tokLen inFaceInd hasMark wholeLen len = .frames n := by
  -- `maxOverhead` is 60: the fixed 28 and at most 8 + 12 + 12
  have b (c : Prop) [Decidable c] (x : Nat) : (if c then x else 0) ≤ x := by
    split
    · exact Nat.le_refl _
    · exact Nat.zero_le _
  have ho : overhead tokLen inFaceInd hasMark < mtu :=
    Nat.lt_of_le_of_lt (Nat.add_le_add (Nat.add_le_add (Nat.add_le_add_left
      (Nat.le_trans (b _ _) (Nat.add_le_add_left ht 2)) 28) (b _ _)) (b _ _)) h
  unfold sendOutcome
  by_cases hw : wholeLen ≤ mtu
  · exact ⟨1, Nat.one_pos, if_pos hw⟩
  · rw [if_neg hw, if_neg (by decide), if_neg (Nat.not_le_of_lt ho)]
    exact ⟨_, Nat.div_pos (Nat.le_sub_one_of_lt (Nat.lt_add_of_pos_left hl)) (Nat.sub_pos_of_lt ho), rfl⟩

/-- an MTU that faces/update accepts (status 200) is at least
    `minMtu`, and on the resulting MTU `sendPacket` emits every packet (fragmentation on, PIT token
    of forwarder size, any congestion mark / IncomingFaceId setting) as ≥ 1 frame -/
theorem mtu_accepted_implies_sendable (st : St) (inFace : Nat) (name : Name) (a : Args) (m : Nat)
    (hm : a.mtu = some m) (st' : St) (echo : Args)
    (h : faceUpdate st inFace name (.args a) = (st', .ctrl 200 echo)) :
    minMtu ≤ m ∧ ∀ tokLen ifi mark wholeLen len, tokLen ≤ 6 → 0 < len →
      ∃ n, 0 < n ∧ sendOutcome (if m > maxPacket then maxPacket else m) true tokLen ifi mark wholeLen len = .frames n := by
  have hmin : minMtu ≤ m := by
    -- otherwise `mtuOk` fails and every path of `faceUpdate` answers something other than 200
    apply Classical.byContradiction; intro hn
    have hk : mtuOk a.mtu = false := by rw [hm]; exact decide_eq_false hn
    replace h := congrArg (·.2) h
    unfold faceUpdate at h
    dsimp only at h
    generalize hasParams name = b, faceGet st.faces _ = o at h
    cases b <;> cases o <;> try cases h
    rename_i f
    dsimp only at h
    generalize (f.rscheme == "null" || f.rscheme == "internal") = c at h
    rw [hk, Bool.and_false] at h
    cases c <;> cases h
  refine ⟨hmin, fun tokLen ifi mark wholeLen len ht hl => sendOutcome_ok _ _ _ _ _ _ ?_ ht hl⟩
  split
  · decide
  · exact Nat.lt_of_lt_of_le (by decide) hmin

/-- … and the face table as a whole stays sendable along every history (`usable` includes
    `∀ face, 60 < mtu`; `model_satisfies_spec` shows it is preserved, `usable_init` that it holds
    initially) -/
theorem usable_history (lh : Bool) (h : List Input) : usable (tablesOf (runHistory (init lh) h)) = true := by
  refine (List.foldlRecOn (motive := fun st => StWF st ∧ usable (tablesOf st) = true) h stepIn
    ⟨wf_init lh, usable_init lh⟩ fun st ⟨hst, hu⟩ i _ => ⟨stepIn_wf st i hst, ?_⟩).2
  unfold stepIn
  split
  · exact usable_closed _ _ _ hu
  have hcu := ((check_nil_iff _).1 (model_satisfies_spec st i.ext i.routed i.face i.name i.params hst)).2.2.2.2.2.2
  simp only [cUsable, obsOf, hu, Bool.not_true, Bool.false_or] at hcu
  exact hcu

/-- every strategy ever installed through management is one the forwarding threads instantiate
    (F-17e), every face can send (F-17b) and the CS capacity is a non-negative int (F-17c), after
    any history -/
theorem history_strategies_instantiated_faces_sendable (lh : Bool) (h : List Input) :
    (∀ e ∈ (runHistory (init lh) h).sc, instantiated e.2 = true) ∧
    (∀ f ∈ (runHistory (init lh) h).faces, ∀ tokLen ifi mark wholeLen len, tokLen ≤ 6 → 0 < len →
      ∃ n, 0 < n ∧ sendOutcome f.mtu true tokLen ifi mark wholeLen len = .frames n) ∧
    0 ≤ (runHistory (init lh) h).cs := by
  have := (usable_iff _).1 (usable_history lh h)
  refine ⟨this.1, ?_, this.2.2⟩
  intro f hf tokLen ifi mark wholeLen len ht hl
  exact sendOutcome_ok _ _ _ _ _ _ (by have := this.2.1 f hf; simpa [specMaxOverhead, maxOverhead, overhead] using this) ht hl

/-- every status dataset management emits lists exactly the current contents
    of the table it reports on (RIB routes, FIB next hops, strategy choices, CS capacity and flags,
    face table; forwarder status: the number of FIB entries) and leaves the tables unchanged -/
theorem dataset_eq_tables (st : St) (ext : Ext) (routed : Bool) (face : Nat) (name : Name) (p : Params)
    (hwf : StWF st) (pf : Name) (mv : String) (ver : Nat) (d : Dataset)
    (h : (sysStep st ext routed face name p).2 = .dataset pf mv ver d) :
    DatasetOf st d ∧ tablesOf (sysStep st ext routed face name p).1 = tablesOf st ∧
    datasetOk d (tablesOf (sysStep st ext routed face name p).1) = true := by
  rcases step_cases st ext routed face name p hwf.1 with ⟨⟨htb, _, _, h' | ⟨_, _, h', _⟩ | ⟨_, _, _, _, h', hd⟩⟩, _⟩ |
      ⟨_, _, _, _, _, _, _, _, h' | ⟨h', _⟩⟩ <;>
    cases h'.symm.trans h
  exact ⟨hd, tablesOf_eq_of_tbl htb, (tablesOf_eq_of_tbl htb).symm ▸ datasetOk_of hwf hd⟩

def ribGet (rib : Rib) (n : Name) : List Route :=
  match rib.find? (fun e => e.1 == n) with | some e => e.2 | none => []

def fibGet (fib : Fib) (n : Name) : List (Nat × Nat) :=
  match fib.find? (fun e => e.1 == n) with | some e => e.2 | none => []

theorem routesAdd_mem (rs : List Route) (r : Route) : r ∈ routesAdd rs r := by
  induction rs with
  | nil => simp [routesAdd]
  | cons x t ih => simp only [routesAdd]; split <;> simp [ih]

theorem routesAdd_other (rs : List Route) (r x : Route) (hk : ¬(x.face = r.face ∧ x.origin = r.origin)) :
    x ∈ routesAdd rs r ↔ x ∈ rs := by
  induction rs with
  | nil =>
    simp only [routesAdd, List.mem_singleton, List.not_mem_nil, iff_false]
    intro h; subst h; exact hk ⟨rfl, rfl⟩
  | cons y t ih =>
    simp only [routesAdd]
    split
    · rename_i hy
      simp at hy
      simp only [List.mem_cons]
      constructor
      · rintro (h | h)
        · subst h; exact absurd ⟨rfl, rfl⟩ hk
        · exact Or.inr h
      · rintro (h | h)
        · subst h; exact absurd ⟨hy.1, hy.2⟩ hk
        · exact Or.inr h
    · simp only [List.mem_cons, ih]

theorem ribAdd_get_same (rib : Rib) (n : Name) (r : Route) : ribGet (ribAdd rib n r) n = routesAdd (ribGet rib n) r := by
  induction rib with
  | nil => simp [ribAdd, ribGet, routesAdd]
  | cons e t ih =>
    obtain ⟨m, rs⟩ := e
    by_cases hm : m = n
    · subst hm; simp [ribAdd, ribGet]
    · have : (m == n) = false := by simpa using hm
      simp only [ribAdd, this, Bool.false_eq_true, ↓reduceIte, ribGet, List.find?] at ih ⊢
      exact ih

theorem ribAdd_get_other (rib : Rib) (n m : Name) (r : Route) (h : m ≠ n) : ribGet (ribAdd rib n r) m = ribGet rib m := by
  have hnm : (n == m) = false := beq_false_of_ne (Ne.symm h)
  induction rib with
  | nil => rw [ribAdd, ribGet, List.find?, hnm]; rfl
  | cons e t ih =>
    obtain ⟨k, rs⟩ := e
    unfold ribGet at ih ⊢
    rw [ribAdd]
    by_cases hk : (k == n) = true
    · rw [if_pos hk, List.find?, List.find?]
      rw [beq_iff_eq.1 hk, hnm]
    · rw [if_neg hk, List.find?, List.find?]
      cases (k, rs).fst == m
      · exact ih
      · rfl

theorem routesRemove_sub (rs : List Route) (f o : Nat) (x : Route) (h : x ∈ routesRemove rs f o) : x ∈ rs := by
  induction rs with
  | nil => simp [routesRemove] at h
  | cons y t ih =>
    simp only [routesRemove] at h
    split at h
    · exact List.mem_cons_of_mem _ h
    · rcases List.mem_cons.1 h with h | h
      · simp [h]
      · exact List.mem_cons_of_mem _ (ih h)

/-- when (face, origin) identifies a route, the removed key is gone -/
theorem routesRemove_gone (rs : List Route) (f o : Nat)
    (huniq : rs.Pairwise (fun a b => ¬(a.face = b.face ∧ a.origin = b.origin))) :
    ∀ x ∈ routesRemove rs f o, ¬(x.face = f ∧ x.origin = o) := by
  induction rs with
  | nil => simp [routesRemove]
  | cons y t ih =>
    intro x hx
    simp only [routesRemove] at hx
    rw [List.pairwise_cons] at huniq
    split at hx
    · rename_i hy
      simp at hy
      intro hxk
      exact huniq.1 x hx ⟨hy.1.trans hxk.1.symm, hy.2.trans hxk.2.symm⟩
    · rename_i hy
      rcases List.mem_cons.1 hx with h | h
      · subst h; simpa using hy
      · exact ih huniq.2 x h

theorem hopsInsert_mem (hs : List (Nat × Nat)) (f c : Nat) : (f, c) ∈ hopsInsert hs f c := by
  induction hs with
  | nil => simp [hopsInsert]
  | cons x t ih =>
    obtain ⟨g, d⟩ := x
    simp only [hopsInsert]; split
    · rename_i h; simp at h; simp [h]
    · simp [ih]

theorem fibInsert_get_same (fib : Fib) (n : Name) (f c : Nat) :
    fibGet (fibInsert fib n f c) n = hopsInsert (fibGet fib n) f c := by
  induction fib with
  | nil => simp [fibInsert, fibGet, hopsInsert]
  | cons e t ih =>
    obtain ⟨m, hs⟩ := e
    by_cases hm : m = n
    · subst hm; simp [fibInsert, fibGet]
    · have : (m == n) = false := by simpa using hm
      simp only [fibInsert, this, Bool.false_eq_true, ↓reduceIte, fibGet, List.find?] at ih ⊢
      exact ih

theorem scSet_mem (sc : Sc) (n s : Name) : (n, s) ∈ scSet sc n s := by
  induction sc with
  | nil => simp [scSet]
  | cons e t ih =>
    obtain ⟨m, x⟩ := e
    simp only [scSet]; split
    · rename_i h; simp at h; simp [h]
    · simp [ih]

theorem scUnset_gone (sc : Sc) (n : Name) : ∀ e ∈ scUnset sc n, e.1 ≠ n := by
  intro e he
  simp only [scUnset, List.mem_filter] at he
  simpa using he.2

/-- after faces/destroy nothing in the RIB refers to the destroyed face (what rib/list shows right
    after the 200 answer), and no entry is left without routes -/
theorem ribCleanFace_gone (rib : Rib) (f : Nat) :
    ∀ e ∈ ribCleanFace rib f, e.2 ≠ [] ∧ ∀ r ∈ e.2, r.face ≠ f := by
  intro e he
  obtain ⟨he, hne⟩ := List.mem_filter.1 he
  obtain ⟨x, _, rfl⟩ := List.mem_map.1 he
  exact ⟨fun h => (by rw [h] at hne; cases hne), fun r hr => bne_iff_ne.1 (List.mem_filter.1 hr).2⟩

theorem ribCleanFace_keeps (rib : Rib) (f : Nat) (n : Name) (rs : List Route) (r : Route)
    (he : (n, rs) ∈ rib) (hr : r ∈ rs) (hf : r.face ≠ f) :
    ∃ rs', (n, rs') ∈ ribCleanFace rib f ∧ r ∈ rs' := by
  refine ⟨rs.filter (fun r => r.face != f), ?_, ?_⟩
  · simp only [ribCleanFace, List.mem_filter, List.mem_map]
    refine ⟨⟨(n, rs), he, rfl⟩, ?_⟩
    simp only [Bool.not_eq_true', List.isEmpty_eq_false_iff]
    intro hnil
    have : r ∈ rs.filter (fun r => r.face != f) := List.mem_filter.2 ⟨hr, by simpa using hf⟩
    rw [hnil] at this; cases this
  · exact List.mem_filter.2 ⟨hr, by simpa using hf⟩

theorem created_face_fresh (st : St) (hwf : StWF st) : faceGet st.faces st.nextFace = none :=
  faceGet_none_of_below hwf.1.2

def exRegister : Name := lhPrefix ++ [gc "rib", gc "register", ⟨8, []⟩]
def exArgs : Args := { name := some [gc "a"], cost := some 5 }

-- accepted_effect_exact / accepted_reports_200: a local app registers /a with cost 5
example : verbOf exRegister = some .ribRegister ∧ authorised false initFaces 2 exRegister = true ∧
    validity (tablesOf (init false)) 2 .ribRegister (hasParams exRegister) (.args exArgs) = .valid := by decide +kernel
example : (sysStep (init false) ⟨[]⟩ true 2 exRegister (.args exArgs)).2 =
    .ctrl 200 { name := some [gc "a"], faceId := some 2, origin := some 0, cost := some 5, flags := some 1 } := by rfl
example : (sysStep (init false) ⟨[]⟩ true 2 exRegister (.args exArgs)).1.rib = [([gc "a"], [⟨2, 0, 5, 1, none⟩])] := by rfl

-- bad_params_4xx_no_change: a face that does not exist; an MTU of 10; a capacity of 2^63
example : validity (tablesOf (init false)) 2 .ribRegister true (.args { exArgs with faceId := some 50 }) = .invalid := by decide
example : validity (tablesOf (init false)) 2 .faceUpdate true (.args { faceId := some 3, mtu := some 10 }) = .invalid := by decide
example : validity (tablesOf (init false)) 2 .csConfig true (.args { capacity := some (2 ^ 63) }) = .invalid := by decide
example : (sysStep (init false) ⟨[]⟩ true 2 (lhPrefix ++ [gc "faces", gc "update", ⟨8, []⟩])
    (.args { faceId := some 3, mtu := some 10 })).2 = .ctrl 409 noArgs := by decide +kernel

-- state_changes_only_if_authorised: the same registration from the non-local face 4 is dropped,
-- and under /localhop/nfd it is dropped when localhop management is off (even if routed)
example : (sysStep (init false) ⟨[]⟩ true 4 exRegister (.args exArgs)).1.rib = [] := by rfl
example : (sysStep (init false) ⟨[]⟩ true 5 (lpPrefix ++ [gc "rib", gc "register", ⟨8, []⟩]) (.args exArgs)).1.rib = [] := by rfl
example : (sysStep (init true) ⟨[]⟩ true 5 (lpPrefix ++ [gc "rib", gc "register", ⟨8, []⟩]) (.args exArgs)).1.rib =
    [([gc "a"], [⟨5, 0, 5, 1, none⟩])] := by rfl

-- dataset_eq_tables: rib/list after the registration lists it
example : (sysStep (sysStep (init false) ⟨[]⟩ true 2 exRegister (.args exArgs)).1 ⟨[]⟩ true 2
    (lhPrefix ++ [gc "rib", gc "list"]) .undecodable).2 =
    .dataset lhPrefix "rib/list" 0 (.rib [([gc "a"], [⟨2, 0, 5, 1, none⟩])]) := by decide +kernel

-- mtu_accepted_implies_sendable: MTU 64 on face 3 is accepted
example : (faceUpdate (init false) 2 exRegister (.args { faceId := some 3, mtu := some 64 })).2 =
    .ctrl 200 { faceId := some 3, pers := some 0, mtu := some 64, flags := some 0, bcmi := some 100000000, dct := some 65536 } := by rfl

-- the hypothesis `hasParams name` of the handler-level theorems holds of a five-component name
example : hasParams exRegister = true := by decide

-- faces/create: a unicast UDP face to a loopback address with MTU 1000 gets id 8 and is listed
def exCreate : Name := lhPrefix ++ [gc "faces", gc "create", ⟨8, []⟩]
example : validity (tablesOf (init false)) 2 .faceCreate true
    (.args { uri := some (strBytes "udp4://127.0.0.1:7101"), mtu := some 1000 }) = .valid := by decide +kernel
example : ((sysStep (init false) ⟨[]⟩ true 2 exCreate (.args { uri := some (strBytes "udp4://127.0.0.1:7101"), mtu := some 1000 })).1.faces.map
    fun f => (f.id, f.mtu)) = [(1, 8800), (2, 8800), (3, 8800), (4, 8800), (5, 8800), (6, 8800), (7, 8800), (8, 1000)] := by decide +kernel
-- … MTU 10 is refused (406), the remote URI of face 2 conflicts (409)
example : validity (tablesOf (init false)) 2 .faceCreate true
    (.args { uri := some (strBytes "udp4://127.0.0.1:7101"), mtu := some 10 }) = .invalid := by decide +kernel
example : validity (tablesOf (init false)) 2 .faceCreate true
    (.args { uri := some (strBytes "udp4://127.0.0.1:7001") }) = .invalid := by decide +kernel
-- faces/query for local faces; rib/announce with a prefix announcement object: 501
example : ((sysStep (init false) ⟨[]⟩ true 2 (lhPrefix ++ [gc "faces", gc "query", ⟨8, []⟩]) (.filter { scope := some 1 })).1.vFaces) = 1 := by decide +kernel
example : (sysStep (init false) ⟨[]⟩ true 2 (lhPrefix ++ [gc "rib", gc "announce", ⟨2, []⟩]) (.app .data)).2 = .ctrl 501 noArgs := by decide +kernel

end Ndn.C17
