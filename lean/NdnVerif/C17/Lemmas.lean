/-
  C17 — from the handlers to the shapes of an observation.  `Char`: a handler's answer is what `validity` / `effect` prescribe
  (one `*_char` per verb); `Answers`: a module answers each of its names so, or harmlessly (`Benign`); `run_paths`, `sysStep_char`
  and `step_cases` carry this through `Thread.Run` and the forwarding thread's guard; `obs_shape` is `step_cases` said of the
  observation.  The theorems of Props.lean are read off these last two.
-/
import NdnVerif.C17.Obs
import NdnVerif.Base.NameLemmas
namespace Ndn.C17

def tbl (st : St) : Rib × Fib × Sc × Int × List Face := (st.rib, st.fib, st.sc, st.cs, st.faces)

theorem tablesOf_eq_of_tbl {a b : St} (h : tbl a = tbl b) : tablesOf a = tablesOf b := by
  simp [tbl] at h; simp [tablesOf, h]

/-- `st'` is `st` with the tables the effect describes (FIB / RIB left to the oracle where the
    specification leaves them free), everything else untouched -/
def Agrees (st' st : St) (e : Effect) : Prop :=
  st'.lh = st.lh ∧ st'.vRib = st.vRib ∧ st'.vFib = st.vFib ∧ st'.vSc = st.vSc ∧ st'.vCs = st.vCs ∧
  st'.vFaces = st.vFaces ∧ st'.vStatus = st.vStatus ∧
  st'.sc = e.t.sc ∧ st'.cs = e.t.cs ∧ st'.faces = e.t.faces ∧
  (e.fibFree = false → st'.fib = e.t.fib) ∧ (e.ribFree = false → st'.rib = e.t.rib) ∧
  st'.nextFace = st.nextFace + e.consumesId.toNat ∧ e.ok = true

/-- the id a created face gets: the face table's counter (0 for the other verbs, which ignore it) -/
def modelNewId (v : Verb) (st : St) : Nat := match v with | .faceCreate => st.nextFace | _ => 0

/-- the answer `res` of a handler is what the specification prescribes: 200, echo and tables of `effect` if
    `valid`, else 4xx and no change. (Shadows core `Char` here.) -/
def Char (st : St) (inFace : Nat) (v : Verb) (name : Name) (p : Params) (res : St × Resp) : Prop :=
  match validity (tablesOf st) inFace v (hasParams name) p with
  | .valid => ∃ a, p = .args a ∧ res.2 = .ctrl 200 (effect (tablesOf st) inFace v a (modelNewId v st)).echo ∧
      Agrees res.1 st (effect (tablesOf st) inFace v a (modelNewId v st))
  | _ => res.1 = st ∧ ∃ c e, res.2 = .ctrl c e ∧ 400 ≤ c ∧ c < 500

theorem agrees_of_eq {st' st : St} {e : Effect} {fib : Fib}
    (h : st' = { st with rib := e.t.rib, fib := fib, sc := e.t.sc, cs := e.t.cs, faces := e.t.faces,
                         nextFace := st.nextFace + e.consumesId.toNat })
    (hok : e.ok = true) (hf : e.fibFree = false → fib = e.t.fib) : Agrees st' st e := by
  subst h
  exact ⟨rfl, rfl, rfl, rfl, rfl, rfl, rfl, rfl, rfl, rfl, hf, fun _ => rfl, rfl, hok⟩

theorem char_refused {st : St} {f : Nat} {v : Verb} {name : Name} {p : Params} {c : Nat} {e : Args}
    (hv : validity (tablesOf st) f v (hasParams name) p ≠ .valid) (hc : 400 ≤ c ∧ c < 500 := by decide) :
    Char st f v name p (st, .ctrl c e) := by
  unfold Char
  split
  · contradiction
  · exact ⟨rfl, c, e, rfl, hc⟩

theorem char_accepted {st : St} {f : Nat} {v : Verb} {name : Name} {a : Args} {res : St × Resp}
    (hv : validity (tablesOf st) f v (hasParams name) (.args a) = .valid)
    (hr : res.2 = .ctrl 200 (effect (tablesOf st) f v a (modelNewId v st)).echo)
    (hag : Agrees res.1 st (effect (tablesOf st) f v a (modelNewId v st))) :
    Char st f v name (.args a) res := by
  unfold Char
  rw [hv]
  exact ⟨a, rfl, hr, hag⟩

/-- every handler opens alike: no parameters component, or none that decodes to ControlParameters: 400 -/
theorem char_of_args {st : St} {f : Nat} {v : Verb} {name : Name} {p : Params} {body : Args → St × Resp}
    (h : ∀ a, hasParams name = true → Char st f v name (.args a) (body a)) :
    Char st f v name p
      (if !hasParams name then (st, r400) else
       match p with
       | .undecodable | .filter _ | .app _ => (st, r400)
       | .args a => body a) := by
  cases hp : hasParams name
  · exact char_refused (by simp [validity, hp])
  · cases p with
    | args a => exact h a hp
    | _ => exact char_refused (by simp [validity, hp])

/-- one refusal of a handler: `if q then 4xx else …` -/
theorem char_if {st : St} {f : Nat} {v : Verb} {name : Name} {p : Params} {q : Prop} [Decidable q] {k : Nat} {e : Args}
    {r : St × Resp} (hv : validity (tablesOf st) f v (hasParams name) p = .valid → ¬q) (h : ¬q → Char st f v name p r)
    (hk : 400 ≤ k ∧ k < 500 := by decide) : Char st f v name p (if q then (st, .ctrl k e) else r) := by
  by_cases hq : q
  · rw [if_pos hq]; exact char_refused (fun h => hv h hq) hk
  · rw [if_neg hq]; exact h hq

theorem compIs_iff (c : Component) (s : String) : compIs c s = true ↔ c = gc s := by
  simp [compIs]

theorem pickFace_eq (a : Args) (f : Nat) : pickFace a f = targetFace a f := by
  unfold pickFace targetFace
  cases a.faceId with
  | none => rfl
  | some x => by_cases hx : x = 0 <;> simp [hx]

theorem strategyPrefix_eq : strategyPrefix = [cLocalhost, gc "nfd", gc "strategy"] := rfl

theorem strategyPrefix_isPrefixOf (a b c : Component) (t : Name) :
    strategyPrefix.isPrefixOf (a :: b :: c :: t) = ([a, b, c] == strategyPrefix) := by
  simp [Name.isPrefixOf, strategyPrefix_eq]

theorem checkStrategy_eq (s : Name) :
    checkStrategy s = match knownStrategy s with | some c => .ok c | none => .error 404 := by
  rcases s with _ | ⟨a, _ | ⟨b, _ | ⟨c, _ | ⟨sn, rest⟩⟩⟩⟩
  iterate 3 rfl
  · unfold checkStrategy; cases strategyPrefix.isPrefixOf [a, b, c] <;> rfl
  -- four components or more: turn the tests the two sides share into variables; the rest is computation
  unfold checkStrategy bne
  rw [strategyPrefix_isPrefixOf]
  rcases rest with _ | ⟨vc, _ | ⟨x, rest⟩⟩ <;> unfold knownStrategy <;>
    dsimp only [List.getElem?_cons_succ, List.getElem?_cons_zero] <;>
    generalize ([a, b, c] == strategyPrefix) = p <;> generalize strategyVersions sn = o <;>
    (cases p; rfl)
  · rcases o with _ | _ | _ <;> rfl
  · generalize (vc.typ == versionType) = t
    generalize decNat vc.val = d
    cases t
    · rcases o with _ | _ | _ <;> rfl
    rcases o with _ | _ | ⟨v0, vs⟩ <;> cases d <;> try rfl
    dsimp only
    generalize (v0 :: vs).contains _ = m
    cases m <;> rfl
  · generalize (vc.typ == versionType) = t
    rcases o with _ | _ | _ <;> cases t <;> rfl

/-- every face management may update is an NDNLPv2 link service (true of every transport the
    forwarder creates: only the null face has another link service) -/
def FacesWF (fs : List Face) : Prop := ∀ f ∈ fs, schemeUpdatable f = true → f.ndnlp = true

theorem faceGet_some {fs : List Face} {id : Nat} {f : Face} (h : faceGet fs id = some f) : f ∈ fs ∧ f.id = id := by
  unfold faceGet at h
  exact ⟨List.mem_of_find?_eq_some h, by simpa using List.find?_some h⟩

theorem faceAfter_eq (f : Face) (a : Args) : faceAfter f a = specFaceAfter f a := rfl

def cappedMtu (mtu : Option Nat) (d : Nat) : Nat :=
  match mtu with | some m => (if m > 8800 then 8800 else m) | none => d

theorem applyFlags_keep (f : Face) (fl mk : Nat) :
    (applyFlags f fl mk).id = f.id ∧ (applyFlags f fl mk).ndnlp = f.ndnlp ∧ (applyFlags f fl mk).rscheme = f.rscheme ∧
    (applyFlags f fl mk).mtu = f.mtu := by
  unfold applyFlags; split <;> split <;> exact ⟨rfl, rfl, rfl, rfl⟩

theorem specFaceAfter_keep (f : Face) (a : Args) :
    (specFaceAfter f a).id = f.id ∧ (specFaceAfter f a).ndnlp = f.ndnlp ∧ (specFaceAfter f a).rscheme = f.rscheme ∧
    (specFaceAfter f a).mtu = cappedMtu a.mtu f.mtu := by
  -- `delta`: the unfolding equation has the five updates substituted into one another (13⁴ copies of `f`)
  delta specFaceAfter
  extract_lets f1 f2 f3 f4
  have h1 : f1.id = f.id ∧ f1.ndnlp = f.ndnlp ∧ f1.rscheme = f.rscheme ∧ f1.mtu = f.mtu := by
    unfold f1; split <;> exact ⟨rfl, rfl, rfl, rfl⟩
  have h2 : f2.id = f1.id ∧ f2.ndnlp = f1.ndnlp ∧ f2.rscheme = f1.rscheme ∧ f2.mtu = f1.mtu := by
    unfold f2; split <;> exact ⟨rfl, rfl, rfl, rfl⟩
  have h3 : f3.id = f2.id ∧ f3.ndnlp = f2.ndnlp ∧ f3.rscheme = f2.rscheme ∧ f3.mtu = f2.mtu := by
    unfold f3; split <;> exact ⟨rfl, rfl, rfl, rfl⟩
  have h4 : f4.id = f3.id ∧ f4.ndnlp = f3.ndnlp ∧ f4.rscheme = f3.rscheme ∧
      f4.mtu = cappedMtu a.mtu f3.mtu := by
    unfold f4; cases a.mtu <;> exact ⟨rfl, rfl, rfl, rfl⟩
  clear_value f1 f2 f3 f4
  split
  · simp only [applyFlags_keep, h1, h2, h3, h4]; cases a.mtu <;> simp
  · simp only [h1, h2, h3, h4]; cases a.mtu <;> simp

theorem mtuOk_iff (m : Option Nat) : mtuOk m = true ↔ mtuClass m = .valid := by
  cases m with
  | none => exact ⟨fun _ => rfl, fun _ => rfl⟩
  | some m =>
    show decide (_ ≤ m) = true ↔ (if m ≤ _ then _ else if m < _ then _ else _) = _
    rw [decide_eq_true_iff]
    by_cases h1 : m ≤ specMaxOverhead
    · rw [if_pos h1]; exact ⟨fun h => absurd (Nat.le_trans h h1) (by decide), nofun⟩
    by_cases h2 : m < specMinMtu
    · rw [if_neg h1, if_pos h2]; exact ⟨fun h => absurd h (Nat.not_le.2 h2), nofun⟩
    · rw [if_neg h1, if_neg h2]; exact ⟨fun _ => rfl, fun _ => Nat.not_lt.1 h2⟩

theorem ite_ind2 {α β} {P : α → β → Prop} {c : Prop} [Decidable c] {x y : α} {x' y' : β} (hx : P x x') (hy : P y y') :
    P (if c then x else y) (if c then x' else y') := by
  by_cases h : c
  · rw [if_pos h, if_pos h]; exact hx
  · rw [if_neg h, if_neg h]; exact hy

theorem ite_hasP {hasP : Bool} {x : Validity} (hp : hasP = true) :
    (if (!hasP) = true then .invalid else x) = .valid ↔ x = .valid := by subst hp; exact .rfl

/-- one step of the chain of refusals in `validity` -/
theorem ite_invalid_iff {c : Bool} {x : Validity} :
    (if c = true then Validity.invalid else x) = .valid ↔ c = false ∧ x = .valid := by
  cases c <;> simp

theorem ite_valid_iff {q : Prop} [Decidable q] : (if q then Validity.valid else .invalid) = .valid ↔ q := by
  by_cases h : q <;> simp [h]

theorem not_bnot_iff {c : Bool} : c = true ↔ ¬(!c) = true := Bool.not_not_eq.symm

/-- what the specification accepts, in the handlers' words. The split of `a` reaches `faceId`, its second field:
    none / 0 / another; there the two ways of testing the face agree by computation. -/
theorem valid_route_iff (t : Tables) (f : Nat) {hasP : Bool} (a : Args) (hp : hasP = true) :
    have ok := ¬(!match explicitFace a with | some f => (faceGet t.faces f).isSome | none => true) = true
    (validity t f .ribRegister hasP (.args a) = .valid ↔ (a.name.isSome = true ∧ ok) ∧ ¬(!expOk a.exp) = true) ∧
    (validity t f .fibAdd hasP (.args a) = .valid ↔ a.name.isSome = true ∧ ok) := by
  subst hp
  have h {x y : Bool} := Bool.and_eq_true_iff.trans (and_congr_right' (@not_bnot_iff y) (a := x = true))
  rcases a with ⟨_, _ | _ | _⟩ <;>
    exact ⟨ite_valid_iff.trans (Bool.and_eq_true_iff.trans (and_congr h not_bnot_iff)), ite_valid_iff.trans h⟩

theorem not_schemeUpdatable (f : Face) : (f.rscheme == "null" || f.rscheme == "internal") = !schemeUpdatable f := by
  unfold schemeUpdatable bne
  cases f.rscheme == "null" <;> cases f.rscheme == "internal" <;> rfl

theorem valid_update_iff (t : Tables) (f : Nat) {hasP : Bool} {a : Args} {fc : Face}
    (hp : hasP = true) (hg : faceGet t.faces (targetFace a f) = some fc) :
    validity t f .faceUpdate hasP (.args a) = .valid ↔
      schemeUpdatable fc = true ∧ flagsMaskOk a.flags a.mask = true ∧ persArgOk fc a.pers = true ∧
      mtuOk a.mtu = true := by
  simp only [validity, hp, hg, ite_invalid_iff, Bool.not_eq_false', mtuOk_iff, Bool.not_true, Bool.false_eq_true, if_false]

theorem faceGet_none_of_below {fs : List Face} {n : Nat} (h : ∀ g ∈ fs, g.id < n) : faceGet fs n = none := by
  unfold faceGet
  refine List.find?_eq_none.2 fun g hg => ?_
  have := h g hg
  simp; omega

/-- the URI of `a` is one of the modelled unicast UDP / TCP URIs, of class `c` with canonical text `canon` -/
def Unicast (a : Args) (c : UriClass) (canon : String) : Prop :=
  ∃ u, a.uri = some u ∧ uriClass u = some c ∧ (c = .udp canon ∨ c = .tcp canon)

theorem valid_create_iff (t : Tables) (f : Nat) {hasP : Bool} {a : Args} {c : UriClass} {canon : String}
    (hp : hasP = true) (h : Unicast a c canon) :
    validity t f .faceCreate hasP (.args a) = .valid ↔
      flagsMaskOk a.flags a.mask = true ∧ t.faces.find? (fun g => g.uri == canon) = none ∧
      createPersOk a.pers = true ∧ mtuOk a.mtu = true := by
  obtain ⟨u, hu, hc, hcc⟩ := h
  -- `cls`: with `uriClass u` in sight the kernel computes with the URI table when it checks a reduced `match`
  obtain ⟨cls, h⟩ : ∃ cls, cls = uriClass := ⟨_, rfl⟩
  unfold validity; rw [← h] at hc ⊢
  rcases hcc with rfl | rfl <;>
    simp only [hp, hu, hc, ite_invalid_iff, Bool.not_eq_false', mtuOk_iff, Bool.not_true, Bool.false_eq_true,
      if_false, Option.isSome_eq_false_iff, Option.isNone_iff_eq_none]

theorem create_refused {t : Tables} {f : Nat} {hasP : Bool} {a : Args} {u : Bytes} {o : Option UriClass}
    (hu : a.uri = some u) (hc : uriClass u = o) (ho : o = none ∨ o = some .early ∨ o = some .late) :
    validity t f .faceCreate hasP (.args a) ≠ .valid := by
  obtain ⟨cls, h⟩ : ∃ cls, cls = uriClass := ⟨_, rfl⟩
  unfold validity; rw [← h] at hc ⊢
  cases hasP
  · nofun
  · rcases ho with rfl | rfl | rfl <;> simp only [hu, hc, Bool.not_true, Bool.false_eq_true, if_false] <;> nofun

theorem effect_create (t : Tables) (f n : Nat) {a : Args} {c : UriClass} {canon : String} (h : Unicast a c canon) :
    effect t f .faceCreate a n =
      { t := { t with faces := t.faces ++ [newFace n c canon a] }, echo := faceFullProps (newFace n c canon a),
        ok := (faceGet t.faces n).isNone, consumesId := true } := by
  obtain ⟨u, hu, hc, rfl | rfl⟩ := h <;> simp only [effect, hu, hc, Option.bind]

section handlers
variable {st : St} {ext : Ext} {f : Nat} {name : Name} {p : Params}
attribute [local simp] Char validity effect Agrees tablesOf r400 pickFace_eq

theorem ribRegister_char : Char st f .ribRegister name p (ribRegister st ext f name p) := by
  refine char_of_args fun a hp => ?_
  have hv := (valid_route_iff (tablesOf st) f a hp).1
  rw [pickFace_eq]
  rcases a with ⟨_ | n⟩
  · exact char_refused fun h => nomatch (hv.1 h).1.1
  refine char_if (fun h => (hv.1 h).1.2) fun hok => char_if (fun h => (hv.1 h).2) fun hex => ?_
  exact char_accepted (hv.2 ⟨⟨rfl, hok⟩, hex⟩) rfl (agrees_of_eq rfl rfl nofun)

theorem ribUnregister_char :
    Char st f .ribUnregister name p (ribUnregister st ext f name p) := by
  refine char_of_args fun a hp => ?_
  cases hn : a.name <;> simp [hp, hn]

theorem fibAdd_char : Char st f .fibAdd name p (fibAdd st f name p) := by
  refine char_of_args fun a hp => ?_
  have hv := (valid_route_iff (tablesOf st) f a hp).2
  rw [pickFace_eq]
  rcases a with ⟨_ | n⟩
  · exact char_refused fun h => nomatch (hv.1 h).1
  refine char_if (fun h => (hv.1 h).2) fun hok => ?_
  exact char_accepted (hv.2 ⟨rfl, hok⟩) rfl (agrees_of_eq rfl rfl (fun _ => rfl))

theorem fibRemove_char :
    Char st f .fibRemove name p (fibRemoveCmd st f name p) := by
  refine char_of_args fun a hp => ?_
  cases hn : a.name <;> simp [hp, hn]

theorem scUnset_char :
    Char st f .scUnset name p (scUnsetCmd st name p) := by
  refine char_of_args fun a hp => ?_
  rcases hn : a.name with _ | _ | _ <;> simp [hp, hn]

theorem csConfig_char : Char st f .csConfig name p (csConfig st name p) := by
  refine char_of_args fun a hp => ?_
  have hv : validity (tablesOf st) f .csConfig (hasParams name) (.args a) = .valid ↔ _ := (ite_hasP hp).trans ite_invalid_iff
  rcases a with ⟨_, _, _, _, _, _, _ | k⟩ <;>
    refine char_if (fun h hc => nomatch hc.symm.trans (hv.1 h).1) fun hfm => ?_
  · exact char_accepted (hv.2 ⟨Bool.eq_false_iff.2 hfm, rfl⟩) rfl (agrees_of_eq rfl rfl (fun _ => rfl))
  refine char_if (fun h => Nat.not_lt.2 (ite_valid_iff.1 (hv.1 h).2)) fun hk => ?_
  exact char_accepted (hv.2 ⟨Bool.eq_false_iff.2 hfm, ite_valid_iff.2 (Nat.not_lt.1 hk)⟩) rfl
    (agrees_of_eq rfl rfl (fun _ => rfl))

theorem faceDestroy_char : Char st f .faceDestroy name p (faceDestroy st ext name p) := by
  refine char_of_args fun a hp => ?_
  rcases a with ⟨_, _ | x⟩
  · exact char_refused fun h => nomatch (ite_hasP hp).1 h
  refine char_accepted ((ite_hasP hp).2 rfl) ?_ ?_
  · exact ite_ind2 (P := fun (r : St × Resp) (e : Effect) => r.2 = .ctrl 200 e.echo) rfl rfl
  · exact ite_ind2 (P := fun (r : St × Resp) (e : Effect) => Agrees r.1 st e)
      (agrees_of_eq rfl rfl nofun) (agrees_of_eq rfl rfl nofun)

theorem scSet_char :
    Char st f .scSet name p (scSetCmd st name p) := by
  refine char_of_args fun a hp => ?_
  cases hn : a.name with
  | none => simp [hp, hn]
  | some n =>
    cases hs : a.strategy with
    | none => simp [hp, hn, hs]
    | some s => cases hk : knownStrategy s <;> simp [hp, hn, hs, hk, checkStrategy_eq]

theorem faceUpdate_char (hwf : FacesWF st.faces) :
    Char st f .faceUpdate name p (faceUpdate st f name p) := by
  refine char_of_args fun a hp => ?_
  simp only [pickFace_eq]
  cases hg : faceGet st.faces (targetFace a f) with
  | none => exact char_refused (by simp [validity, hp, tablesOf, hg])
  | some fc =>
    have hv := valid_update_iff (tablesOf st) f hp hg
    have ⟨hmem, hid⟩ := faceGet_some hg
    simp only []  -- reduces the `match` on the constructor just substituted (so below, too)
    cases hs : schemeUpdatable fc
    · rw [if_pos (by rw [not_schemeUpdatable, hs]; rfl)]
      exact char_refused fun h => nomatch hs.symm.trans (hv.1 h).1
    rw [if_neg (by rw [not_schemeUpdatable, hs]; decide)]
    cases hok : (persArgOk fc a.pers && flagsMaskOk a.flags a.mask && mtuOk a.mtu)
    · exact char_refused fun h => by simp [(hv.1 h).2] at hok
    simp only [Bool.and_eq_true] at hok
    have hk := specFaceAfter_keep fc a
    simp only [hwf fc hmem hs, Bool.not_true, Bool.false_eq_true, if_false, faceAfter_eq]
    refine char_accepted (hv.2 ⟨hs, hok.1.2, hok.1.1, hok.2⟩) ?_ ?_ <;> simp only [effect, tablesOf, hg]
    · simp only [faceProps, hk.1, hk.2.1, hwf fc hmem hs, hid, if_true]
    · exact agrees_of_eq (by rfl) (by rfl) (fun _ => rfl)

theorem createOn_char (st : St) (f : Nat) (name : Name) (a : Args) (c : UriClass) (canon : String)
    (hp : hasParams name = true) (huc : Unicast a c canon) (hid : ∀ g ∈ st.faces, g.id < st.nextFace) :
    Char st f .faceCreate name (.args a) (createOn st a c canon) := by
  have hv := valid_create_iff (tablesOf st) f hp huc
  unfold createOn
  cases hfm : flagsMaskOk a.flags a.mask
  · exact char_refused fun h => nomatch hfm.symm.trans (hv.1 h).1
  cases okM : mtuOk a.mtu
  · exact char_refused fun h => nomatch okM.symm.trans (hv.1 h).2.2.2
  cases hex : st.faces.find? (fun g => g.uri == canon) with
  | some ex => exact char_refused fun h => nomatch hex.symm.trans (hv.1 h).2.1
  | none =>
    cases okP : createPersOk a.pers
    · exact char_refused fun h => nomatch okP.symm.trans (hv.1 h).2.2.1
    refine char_accepted (hv.2 ⟨hfm, hex, okP, okM⟩) ?_ ?_ <;> rw [effect_create _ _ _ huc]
    · rfl
    · exact agrees_of_eq rfl (congrArg Option.isNone (faceGet_none_of_below hid)) (fun _ => rfl)

theorem faceCreate_char (hid : ∀ g ∈ st.faces, g.id < st.nextFace) :
    Char st f .faceCreate name p (faceCreate st name p) := by
  refine char_of_args fun a hp => ?_
  obtain ⟨cls, h⟩ : ∃ cls, cls = uriClass := ⟨_, rfl⟩
  rw [← h]
  cases hu : a.uri with
  | none => exact char_refused (by simp [validity, hp, hu])
  | some u =>
    simp only []
    subst h
    cases hc : uriClass u with
    | none => exact char_refused (create_refused hu hc (.inl rfl))
    | some c =>
      cases c with
      | early => exact char_refused (create_refused hu hc (.inr (.inl rfl)))
      | late =>
        simp only []
        split <;> exact char_refused (create_refused hu hc (.inr (.inr rfl)))
      | udp canon => exact createOn_char st f name a _ canon hp ⟨u, hu, hc, .inl rfl⟩ hid
      | tcp canon => exact createOn_char st f name a _ canon hp ⟨u, hu, hc, .inr rfl⟩ hid

end handlers

/-- the part of `StWF` the handlers need: updatable faces are NDNLPv2 faces, ids lie below the counter -/
def WF0 (st : St) : Prop := FacesWF st.faces ∧ ∀ g ∈ st.faces, g.id < st.nextFace

/-- the name-part of being authorised: what `Thread.Run` and the module guards let through -/
def mgmtAccepts (lh : Bool) (name : Name) : Bool :=
  lhPrefix.isPrefixOf name || (lh && lpPrefix.isPrefixOf name && (name[2]?.map modOf) == some Mod.rib)

def DatasetOf (st : St) (d : Dataset) : Prop :=
  d = .rib st.rib ∨ d = .fib st.fib ∨ d = .sc st.sc ∨ d = .cs (toU64 st.cs) 3 0 ∨ d = .status st.fib.length ∨
  d = .faces st.faces ∨ ∃ q, d = .query q (st.faces.filter (filterMatch q))

/-- an outcome that changes no table (only version counters may differ) -/
def Benign (st : St) (res : St × Resp) : Prop :=
  tbl res.1 = tbl st ∧ res.1.lh = st.lh ∧ res.1.nextFace = st.nextFace ∧
  (res.2 = .none ∨ (∃ c e, res.2 = .ctrl c e ∧ c ≠ 200) ∨ (∃ pfx mv v d, res.2 = .dataset pfx mv v d ∧ DatasetOf st d))

theorem benign_none (st : St) : Benign st (st, .none) := ⟨rfl, rfl, rfl, .inl rfl⟩
theorem benign_ctrl (st : St) (c : Nat) (e : Args) (h : c ≠ 200) : Benign st (st, .ctrl c e) :=
  ⟨rfl, rfl, rfl, .inr (.inl ⟨c, e, rfl, h⟩)⟩
theorem benign_dataset (st st' : St) (h : tbl st' = tbl st) (hl : st'.lh = st.lh) (hn : st'.nextFace = st.nextFace) (pfx : Name) (mv : String) (v : Nat)
    (d : Dataset) (hd : DatasetOf st d) : Benign st (st', .dataset pfx mv v d) :=
  ⟨h, hl, hn, Or.inr (Or.inr ⟨pfx, mv, v, d, rfl, hd⟩)⟩

theorem benign_list {st st' : St} {c : Prop} [Decidable c] {pfx : Name} {mv : String} {v : Nat} {d : Dataset}
    (h : tbl st' = tbl st) (hl : st'.lh = st.lh) (hn : st'.nextFace = st.nextFace) (hd : DatasetOf st d) :
    Benign st (if c then (st, .none) else (st', .dataset pfx mv v d)) := by
  split
  · exact benign_none st
  · exact benign_dataset _ _ h hl hn _ _ _ _ hd

/-- what `run_char` asks of the answer `res` to a name that is authorised (`acc`) or not -/
def Answers (st : St) (f : Nat) (name : Name) (p : Params) (acc : Bool) (res : St × Resp) (ov : Option Verb) : Prop :=
  ov.elim (Benign st res) fun v => if acc then Char st f v name p res else res = (st, .none)

def Routed (name : Name) (m v : Component) : Prop := name[2]? = some m ∧ name[3]? = some v

section modules
variable {st : St} {ext : Ext} {f : Nat} {name : Name} {p : Params} {acc : Bool} {res : St × Resp} {m v : Component}

theorem Answers.char {v : Verb} (h : Char st f v name p res) : Answers st f name p true res (some v) := h
theorem Answers.benign (h : Benign st res) : Answers st f name p acc res .none := h
theorem Answers.unknown : Answers st f name p acc (st, .ctrl 501 noArgs) .none := benign_ctrl st 501 _ (by decide)
theorem Answers.refused {ov : Option Verb} : Answers st f name p false (st, .none) ov := by
  cases ov; exact benign_none st; rfl

variable (hn : Routed name m v)
include hn

theorem csModule_char (hmod : modOf m = .cs) (hg : lhPrefix.isPrefixOf name = true) :
    Answers st f name p true (csModule st name p) (verbOf name) := by
  simp -iota only [csModule, verbOf, hn.1, hn.2, hg, Bool.not_true, Bool.false_eq_true, if_false]
  dsimp only; rw [hmod]
  cases wordOf v
  case config => exact .char csConfig_char
  case info => exact .benign (benign_list rfl rfl rfl (Or.inr (Or.inr (Or.inr (Or.inl rfl)))))
  case erase => exact .benign (benign_none _)
  case query => exact .benign (benign_none _)
  all_goals exact .unknown

theorem facesModule_char (hmod : modOf m = .faces) (hg : lhPrefix.isPrefixOf name = true) (hwf : WF0 st) :
    Answers st f name p true (facesModule st ext f name p) (verbOf name) := by
  simp -iota only [facesModule, verbOf, hn.1, hn.2, hg, Bool.not_true, Bool.false_eq_true, if_false]
  dsimp only; rw [hmod]
  cases wordOf v
  case update => exact .char (faceUpdate_char hwf.1)
  case destroy => exact .char faceDestroy_char
  case create => exact .char (faceCreate_char hwf.2)
  case list => exact .benign (benign_list rfl rfl rfl (Or.inr (Or.inr (Or.inr (Or.inr (Or.inr (Or.inl rfl)))))))
  case query =>
    refine .benign ?_; dsimp only; unfold faceQuery
    repeat' split
    · exact benign_none _
    · exact benign_dataset _ _ rfl rfl rfl _ _ _ _ (Or.inr (Or.inr (Or.inr (Or.inr (Or.inr (Or.inr ⟨_, rfl⟩))))))
    · exact benign_none _
  all_goals exact .unknown

theorem fibModule_char (hmod : modOf m = .fib) (hg : lhPrefix.isPrefixOf name = true) :
    Answers st f name p true (fibModule st f name p) (verbOf name) := by
  simp -iota only [fibModule, verbOf, hn.1, hn.2, hg, Bool.not_true, Bool.false_eq_true, if_false]
  dsimp only; rw [hmod]
  cases wordOf v
  case addNexthop => exact .char fibAdd_char
  case removeNexthop => exact .char fibRemove_char
  case list => exact .benign (benign_list rfl rfl rfl (Or.inr (Or.inl rfl)))
  all_goals exact .unknown

theorem ribModule_char (hmod : modOf m = .rib) :
    Answers st f name p true (ribModule st ext f name p) (verbOf name) := by
  simp -iota only [ribModule, verbOf, hn.1, hn.2]
  dsimp only; rw [hmod]
  cases wordOf v
  case register => exact .char ribRegister_char
  case unregister => exact .char ribUnregister_char
  case announce =>
    refine .benign ?_; dsimp only; unfold ribAnnounce
    repeat' split
    all_goals exact benign_ctrl _ _ _ (by decide)
  case list => exact .benign (benign_list rfl rfl rfl (Or.inl rfl))
  all_goals exact .unknown

theorem scModule_char (hmod : modOf m = .sc) (hg : lhPrefix.isPrefixOf name = true) :
    Answers st f name p true (scModule st name p) (verbOf name) := by
  simp -iota only [scModule, verbOf, hn.1, hn.2, hg, Bool.not_true, Bool.false_eq_true, if_false]
  dsimp only; rw [hmod]
  cases wordOf v
  case set => exact .char scSet_char
  case unset => exact .char scUnset_char
  case list => exact .benign (benign_list rfl rfl rfl (Or.inr (Or.inr (Or.inl rfl))))
  all_goals exact .unknown

theorem statusModule_char (hmod : modOf m = .status) (hg : lhPrefix.isPrefixOf name = true) :
    Answers st f name p true (statusModule st name) (verbOf name) := by
  simp -iota only [statusModule, verbOf, hn.1, hn.2, hg, Bool.not_true, Bool.false_eq_true, if_false]
  dsimp only; rw [hmod]
  cases wordOf v
  case general => exact .benign (benign_list rfl rfl rfl (Or.inr (Or.inr (Or.inr (Or.inr (Or.inl rfl))))))
  all_goals exact .unknown

end modules

theorem verbOf_none_of_short (name : Name) (h : name.length < 4) : verbOf name = none := by
  unfold verbOf
  rw [List.getElem?_eq_none (Nat.le_of_lt_succ h)]
  cases name[2]? <;> rfl

theorem verbOf_none_of_other {name : Name} {m : Component} (hm : name[2]? = some m) (hmod : modOf m = .other) :
    verbOf name = none := by
  unfold verbOf
  cases name[3]? <;> simp only [hm, hmod]

/-- what `run` does with a name: refuse it at a guard, hand it to its module, or answer 501 -/
theorem run_paths (st : St) (ext : Ext) (f : Nat) (name : Name) (p : Params) (hwf : WF0 st) :
    Answers st f name p (mgmtAccepts st.lh name) (run st ext f name p) (verbOf name) := by
  unfold run mgmtAccepts
  by_cases hlen : name.length < 4
  · rw [if_pos hlen, verbOf_none_of_short name hlen]; exact .benign (benign_none st)
  have hlt {i} (h : i < 4) : i < name.length := Nat.lt_of_lt_of_le h (Nat.le_of_not_lt hlen)
  obtain ⟨m, v, hn⟩ : ∃ m v, Routed name m v :=
    ⟨_, _, List.getElem?_eq_getElem (hlt (by decide)), List.getElem?_eq_getElem (hlt (by decide))⟩
  rw [if_neg hlen, hn.1, Option.map_some]; dsimp only
  cases hl : lhPrefix.isPrefixOf name
  · cases hlp : (st.lh && lpPrefix.isPrefixOf name)
    · exact .refused
    -- under /localhop/nfd only the RIB module answers: the others have a /localhost guard of their own
    unfold csModule facesModule fibModule statusModule scModule
    rw [hl]
    cases hmod : modOf m
    case rib => exact ribModule_char hn hmod
    case other => rw [verbOf_none_of_other hn.1 hmod]; exact .unknown
    all_goals exact .refused
  · simp only [Bool.true_or, Bool.not_true, Bool.false_and, Bool.false_eq_true, if_false]
    cases hmod : modOf m
    case cs => exact csModule_char hn hmod hl
    case faces => exact facesModule_char hn hmod hl hwf
    case fib => exact fibModule_char hn hmod hl
    case rib => exact ribModule_char hn hmod
    case status => exact statusModule_char hn hmod hl
    case sc => exact scModule_char hn hmod hl
    case other => rw [verbOf_none_of_other hn.1 hmod]; exact .unknown

theorem run_char (st : St) (ext : Ext) (f : Nat) (name : Name) (p : Params) (hwf : WF0 st) :
    match verbOf name with
    | some v => if mgmtAccepts st.lh name then Char st f v name p (run st ext f name p)
                else run st ext f name p = (st, .none)
    | none => Benign st (run st ext f name p) := by
  have h := run_paths st ext f name p hwf
  revert h; cases verbOf name <;> exact id

theorem mem_faceSet {fs : List Face} {f g : Face} (h : g ∈ faceSet fs f) : g ∈ fs ∨ g = f := by
  unfold faceSet at h
  obtain ⟨x, hx, hg⟩ := List.mem_map.1 h
  split at hg
  · exact Or.inr hg.symm
  · exact Or.inl (hg ▸ hx)

theorem mem_faceRemove {fs : List Face} {id : Nat} {g : Face} (h : g ∈ faceRemove fs id) : g ∈ fs :=
  (List.mem_filter.1 h).1

theorem valid_hasP {t : Tables} {f : Nat} {v : Verb} {hasP : Bool} {p : Params}
    (h : validity t f v hasP p = .valid) : hasP = true := by
  cases hasP
  · simp [validity] at h
  · rfl

theorem newFace_keep (id : Nat) (c : UriClass) (canon : String) (a : Args) :
    (newFace id c canon a).id = id ∧ (newFace id c canon a).ndnlp = true ∧
    (newFace id c canon a).mtu = cappedMtu a.mtu 8800 := by
  unfold newFace
  rcases a.flags with _ | fl
  · exact ⟨rfl, rfl, rfl⟩
  rcases a.mask with _ | mk
  · exact ⟨rfl, rfl, rfl⟩
  · exact (fun h => ⟨h.1, h.2.1, h.2.2.2⟩) (applyFlags_keep _ fl mk)

theorem effect_faces {t : Tables} {f : Nat} {v : Verb} {a : Args} {n : Nat} {g : Face}
    (hg : g ∈ (effect t f v a n).t.faces) :
    g ∈ t.faces ∨
    (∃ fc, v = .faceUpdate ∧ faceGet t.faces (targetFace a f) = some fc ∧ g = specFaceAfter fc a) ∨
    (∃ c canon, v = .faceCreate ∧ Unicast a c canon ∧ g = newFace n c canon a ∧ (effect t f v a n).consumesId = true) := by
  revert hg
  cases v
  case csConfig => rcases a with ⟨_, _, _, _, _, _, _ | _⟩ <;> exact .inl
  case faceUpdate =>
    dsimp only [effect]
    rcases hf : faceGet t.faces (targetFace a f) with _ | fc
    · exact .inl
    · exact fun hg => (mem_faceSet hg).imp_right fun h => .inl ⟨fc, rfl, rfl, h⟩
  case faceDestroy =>
    dsimp only [effect]
    cases (faceGet t.faces (a.faceId.getD 0)).isSome
    · exact .inl
    · exact fun hg => .inl (mem_faceRemove hg)
  case faceCreate =>
    dsimp only [effect]
    rcases hb : a.uri.bind uriClass with _ | canon | canon | _ | _ <;> try exact .inl
    all_goals
      obtain ⟨u, hu, hc⟩ := Option.bind_eq_some_iff.1 hb
      refine fun hg => (List.mem_append.1 hg).imp_right fun h => .inr ⟨_, canon, rfl, ⟨u, hu, hc, ?_⟩, List.mem_singleton.1 h, rfl⟩
    · exact .inl rfl
    · exact .inr rfl
  all_goals exact .inl

theorem effect_sc_cs (t : Tables) (f : Nat) (v : Verb) (a : Args) (n : Nat) :
    ((effect t f v a n).t.sc = t.sc ∨
     (v = .scSet ∧ (effect t f v a n).t.sc = scSet t.sc (a.name.getD []) ((knownStrategy (a.strategy.getD [])).getD [])) ∨
     (v = .scUnset ∧ (effect t f v a n).t.sc = scUnset t.sc (a.name.getD []))) ∧
    ((effect t f v a n).t.cs = t.cs ∨ ∃ k : Nat, v = .csConfig ∧ a.capacity = some k ∧ (effect t f v a n).t.cs = k) := by
  cases v
  case scSet => exact ⟨.inr (.inl ⟨rfl, rfl⟩), .inl rfl⟩
  case scUnset => exact ⟨.inr (.inr ⟨rfl, rfl⟩), .inl rfl⟩
  case csConfig =>
    rcases a with ⟨_, _, _, _, _, _, _ | k⟩
    · exact ⟨.inl rfl, .inl rfl⟩
    · exact ⟨.inl rfl, .inr ⟨k, rfl, rfl, rfl⟩⟩
  case faceUpdate => dsimp only [effect]; cases faceGet t.faces (targetFace a f) <;> exact ⟨.inl rfl, .inl rfl⟩
  case faceDestroy => dsimp only [effect]; cases (faceGet t.faces (a.faceId.getD 0)).isSome <;> exact ⟨.inl rfl, .inl rfl⟩
  case faceCreate => dsimp only [effect]; rcases a.uri.bind uriClass with _ | _ | _ | _ | _ <;> exact ⟨.inl rfl, .inl rfl⟩
  all_goals exact ⟨.inl rfl, .inl rfl⟩

theorem valid_scSet {t : Tables} {f : Nat} {hasP : Bool} {a : Args} (h : validity t f .scSet hasP (.args a) = .valid) :
    ∃ s c, a.strategy = some s ∧ knownStrategy s = some c := by
  simp only [validity, valid_hasP h] at h
  cases hn : a.name <;> cases hs : a.strategy <;> simp [hn, hs] at h
  next n s =>
  cases hk : knownStrategy s with
  | none => exact absurd hk h
  | some c => exact ⟨s, c, rfl, hk⟩

theorem valid_scUnset {t : Tables} {f : Nat} {hasP : Bool} {a : Args} (h : validity t f .scUnset hasP (.args a) = .valid) :
    ∃ c n, a.name = some (c :: n) := by
  simp only [validity, valid_hasP h] at h
  cases hn : a.name with
  | none => simp [hn] at h
  | some n => cases n <;> simp [hn] at h ⊢

theorem valid_csConfig {t : Tables} {f : Nat} {hasP : Bool} {a : Args} {k : Nat}
    (h : validity t f .csConfig hasP (.args a) = .valid) (hk : a.capacity = some k) : k ≤ maxInt := by
  simp only [validity, valid_hasP h, hk] at h
  by_cases hle : k ≤ maxInt
  · exact hle
  · simp [hle] at h

theorem usable_iff (t : Tables) : usable t = true ↔
    (∀ e ∈ t.sc, instantiated e.2 = true) ∧ (∀ f ∈ t.faces, specMaxOverhead < f.mtu) ∧ 0 ≤ t.cs := by
  simp only [usable, Bool.and_eq_true, List.all_eq_true, decide_eq_true_eq, and_assoc]

theorem cappedMtu_usable {mtu : Option Nat} {d : Nat} (h : mtuOk mtu = true) (hd : specMaxOverhead < d) :
    specMaxOverhead < cappedMtu mtu d := by
  unfold cappedMtu
  cases mtu with
  | none => exact hd
  | some m =>
    have h64 : 64 ≤ m := of_decide_eq_true h
    simp only [specMaxOverhead]
    split <;> omega

theorem encNat_one : encNat 1 = [1] := by decide

theorem knownStrategy_instantiated {s c : Name} (h : knownStrategy s = some c) : instantiated c = true := by
  -- the registry knows two strategies, each in version 1 only
  have key : ∀ {sn l}, strategyVersions sn = some l →
      l = [1] ∧ instantiated (strategyPrefix ++ [sn, ⟨versionType, encNat 1⟩]) = true := by
    intro sn l hl
    unfold strategyVersions at hl
    split at hl
    · next h1 => cases hl; rw [(compIs_iff _ _).1 h1]; exact ⟨rfl, by simp [instantiated, bestRouteV1, multicastV1, encNat_one]⟩
    · split at hl
      · next h2 => cases hl; rw [(compIs_iff _ _).1 h2]; exact ⟨rfl, by simp [instantiated, bestRouteV1, multicastV1, encNat_one]⟩
      · cases hl
  unfold knownStrategy at h
  split at h
  · split at h
    · split at h
      · next hsv => cases (key hsv).1; cases h; exact (key hsv).2
      · cases h
    · cases h
  · split at h
    · split at h
      · next hsv _ =>
        obtain ⟨rfl, hi⟩ := key hsv
        split at h
        · next hc => cases List.mem_singleton.1 (List.contains_iff_mem.1 hc); cases h; exact hi
        · cases h
      · cases h
    · cases h
  · cases h

theorem mem_scSet {sc : Sc} {n s : Name} {e : Name × Name} (h : e ∈ scSet sc n s) : e ∈ sc ∨ e = (n, s) := by
  induction sc with
  | nil => exact .inr (List.mem_singleton.1 h)
  | cons x t ih =>
    obtain ⟨m, y⟩ := x
    rw [scSet] at h
    split at h <;> rcases List.mem_cons.1 h with rfl | h
    · next hm => exact .inr (by rw [eq_of_beq hm])
    · exact .inl (List.mem_cons_of_mem _ h)
    · exact .inl List.mem_cons_self
    · exact (ih h).imp (List.mem_cons_of_mem _) id

theorem scSet_keeps_key {sc : Sc} {n s k : Name} (h : ∃ x, (k, x) ∈ sc) : ∃ x, (k, x) ∈ scSet sc n s := by
  obtain ⟨x, hx⟩ := h
  induction sc with
  | nil => cases hx
  | cons e t ih =>
    obtain ⟨m, y⟩ := e
    rw [scSet]
    split <;> rcases List.mem_cons.1 hx with h | h
    · cases h; exact ⟨s, List.mem_cons_self⟩
    · exact ⟨x, List.mem_cons_of_mem _ h⟩
    · cases h; exact ⟨x, List.mem_cons_self⟩
    · exact (ih h).imp fun _ => List.mem_cons_of_mem _

theorem mem_scUnset {sc : Sc} {n : Name} {e : Name × Name} (h : e ∈ scUnset sc n) : e ∈ sc := by
  unfold scUnset at h; exact (List.mem_filter.1 h).1

theorem effect_usable (t : Tables) (f : Nat) (v : Verb) (hasP : Bool) (a : Args) (newId : Nat)
    (hv : validity t f v hasP (.args a) = .valid) (hu : usable t = true) :
    usable (effect t f v a newId).t = true := by
  rw [usable_iff] at hu ⊢
  obtain ⟨hsc, hfa, hcs⟩ := hu
  refine ⟨?_, ?_, ?_⟩
  · rcases (effect_sc_cs t f v a newId).1 with h | ⟨rfl, h⟩ | ⟨rfl, h⟩ <;> rw [h]
    · exact hsc
    · -- `set` installs the canonical form of a known strategy
      obtain ⟨s, c, hs, hk⟩ := valid_scSet hv
      intro e he
      rcases mem_scSet he with he | rfl
      · exact hsc e he
      · rw [hs, Option.getD_some, hk]; exact knownStrategy_instantiated hk
    · exact fun e he => hsc e (mem_scUnset he)
  · intro g hg
    rcases effect_faces hg with h | ⟨fc, rfl, hf, rfl⟩ | ⟨c, canon, rfl, huc, rfl, _⟩
    · exact hfa g h
    · rw [(specFaceAfter_keep fc a).2.2.2]
      exact cappedMtu_usable ((valid_update_iff t f (valid_hasP hv) hf).1 hv).2.2.2 (hfa fc (faceGet_some hf).1)
    · rw [(newFace_keep newId c canon a).2.2]
      exact cappedMtu_usable ((valid_create_iff t f (valid_hasP hv) huc).1 hv).2.2.2 (by decide)
  · rcases (effect_sc_cs t f v a newId).2 with h | ⟨k, _, _, h⟩ <;> rw [h]
    · exact hcs
    · exact Int.natCast_nonneg k

theorem same_refl (t : Tables) : t.same t = true := by
  simp [Tables.same, sameRib, sameFib, sameSc, sameFaces]

theorem same_of_tbl {a b : St} (h : tbl a = tbl b) : (tablesOf a).same (tablesOf b) = true := by
  rw [tablesOf_eq_of_tbl h]; exact same_refl _

theorem agrees_matches {st' st : St} {e : Effect} (h : Agrees st' st e) : e.matches (tablesOf st') = true := by
  obtain ⟨_, _, _, _, _, _, _, hsc, hcs, hfa, hfib, hrib, _, hok⟩ := h
  have h1 : (e.ribFree || sameRib e.t.rib st'.rib) = true := by
    cases hr : e.ribFree
    · simp [sameRib, hrib hr]
    · rfl
  have h2 : (e.fibFree || sameFib e.t.fib st'.fib) = true := by
    cases hf : e.fibFree
    · simp [sameFib, hfib hf]
    · rfl
  simp only [Effect.matches, tablesOf, hok, h1, h2, hsc, hcs, hfa, sameSc, sameFaces, beq_self_eq_true, Bool.and_true]

/-- a /localhop name cannot trip the /localhost scope test; the face-exists conjunct is `fwGuard`'s -/
theorem authorised_eq (st : St) (face : Nat) (name : Name) :
    authorised st.lh st.faces face name = (fwGuard st face name && mgmtAccepts st.lh name) := by
  unfold authorised fwGuard mgmtAccepts faceIsLocal
  cases faceGet st.faces face with
  | none => simp
  | some f =>
    cases hl : lhPrefix.isPrefixOf name
    · cases hp : lpPrefix.isPrefixOf name
      · simp
      · obtain ⟨rest, rfl⟩ := head_of_isPrefixOf hp
        simp [show (cLocalhop.val == localhostVal) = false by decide]
    · obtain ⟨rest, rfl⟩ := head_of_isPrefixOf hl
      cases hp : lpPrefix.isPrefixOf (cLocalhost :: rest)
      · simp [show (cLocalhost.val == localhostVal) = true by decide]
      · obtain ⟨_, h⟩ := head_of_isPrefixOf hp
        exact absurd (List.cons.inj h).1 (by decide)

/-- what `sysStep` makes of the management thread's result: the answer reaches the requester only
    if its face still exists -/
def post (face : Nat) (r : St × Resp) : St × Resp :=
  match r.2 with
  | .panic m => (r.1, .panic m)
  | x => if (faceGet r.1.faces face).isSome then (r.1, x) else (r.1, .none)

theorem sysStep_char (st : St) (ext : Ext) (routed : Bool) (face : Nat) (name : Name) (p : Params)
    (hwf : WF0 st) :
    (sysStep st ext routed face name p = (st, .none) ∧ (authorised st.lh st.faces face name && routed) = false) ∨
    (fwGuard st face name = true ∧ routed = true ∧ sysStep st ext routed face name p = post face (run st ext face name p) ∧
      match verbOf name with
      | none => Benign st (run st ext face name p)
      | some v => if authorised st.lh st.faces face name then Char st face v name p (run st ext face name p)
                  else run st ext face name p = (st, .none)) := by
  rw [authorised_eq]
  cases hg : fwGuard st face name
  · exact .inl ⟨by simp [sysStep, hg], rfl⟩
  cases routed
  · exact .inl ⟨by simp [sysStep, hg], by simp⟩
  refine .inr ⟨rfl, rfl, ?_, ?_⟩
  · unfold sysStep post
    simp only [hg, Bool.not_true, Bool.false_eq_true, if_false]
    cases (run st ext face name p).2 <;> rfl
  · have := run_char st ext face name p hwf
    cases hv : verbOf name <;> simp only [hv, Bool.true_and] at this ⊢ <;> exact this

theorem char_cases {st : St} {f : Nat} {v : Verb} {name : Name} {p : Params} {res : St × Resp}
    (h : Char st f v name p res) :
    (validity (tablesOf st) f v (hasParams name) p = .valid ∧ ∃ a, p = .args a ∧
        res.2 = .ctrl 200 (effect (tablesOf st) f v a (modelNewId v st)).echo ∧
        Agrees res.1 st (effect (tablesOf st) f v a (modelNewId v st))) ∨
    (validity (tablesOf st) f v (hasParams name) p ≠ .valid ∧ res.1 = st ∧
        ∃ c e, res.2 = .ctrl c e ∧ 400 ≤ c ∧ c < 500) := by
  unfold Char at h
  cases hv : validity (tablesOf st) f v (hasParams name) p <;> simp only [hv] at h
  · exact Or.inl ⟨rfl, h⟩
  · exact Or.inr ⟨by simp, h⟩
  · exact Or.inr ⟨by simp, h⟩

theorem post_fst (face : Nat) (r : St × Resp) : (post face r).1 = r.1 := by
  unfold post; split
  · rfl
  · split <;> rfl

theorem post_ctrl (face : Nat) (r : St × Resp) (c : Nat) (e : Args) (h : r.2 = .ctrl c e) :
    (post face r).2 = if (faceGet r.1.faces face).isSome then .ctrl c e else .none := by
  unfold post; rw [h]; simp only []; split <;> rfl

theorem fwGuard_face {st : St} {face : Nat} {name : Name} (h : fwGuard st face name = true) :
    (faceGet st.faces face).isSome = true := by
  unfold fwGuard at h
  cases hf : faceGet st.faces face <;> simp_all

/-- while the face table is as it was, the requester still exists and sees the answer -/
theorem post_benign {st : St} {face : Nat} {res : St × Resp} (hb : Benign st res)
    (hf : (faceGet st.faces face).isSome = true) : post face res = res := by
  obtain ⟨s, r⟩ := res
  obtain ⟨ht, _, _, h⟩ := hb
  have hs : (faceGet s.faces face).isSome = true := (congrArg (fun t => (faceGet t.2.2.2.2 face).isSome) ht).trans hf
  unfold post
  rcases h with h | ⟨c, e, h, _⟩ | ⟨pf, mv, v, d, h, _⟩ <;> cases h <;> exact if_pos hs

/-- what one step does: it leaves the tables alone and answers harmlessly (a known verb, authorised and delivered, is then
    invalid and answered 4xx), or it carries out a valid, authorised, delivered command as `effect` prescribes; the
    answer 200 is lost only if the command removed the requester's own face -/
theorem step_cases (st : St) (ext : Ext) (routed : Bool) (face : Nat) (name : Name) (p : Params) (hwf : WF0 st) :
    let res := sysStep st ext routed face name p
    (Benign st res ∧
      ∀ v, verbOf name = some v → authorised st.lh st.faces face name = true → routed = true →
        validity (tablesOf st) face v (hasParams name) p ≠ .valid ∧ ∃ c e, res.2 = .ctrl c e ∧ 400 ≤ c ∧ c < 500) ∨
    ∃ v a, verbOf name = some v ∧ p = .args a ∧ validity (tablesOf st) face v (hasParams name) p = .valid ∧
      authorised st.lh st.faces face name = true ∧ routed = true ∧
      let e := effect (tablesOf st) face v a (modelNewId v st)
      Agrees res.1 st e ∧ (res.2 = .ctrl 200 e.echo ∨ res.2 = .none ∧ (faceGet res.1.faces face).isNone = true) := by
  dsimp only
  rcases sysStep_char st ext routed face name p hwf with ⟨h, hna⟩ | ⟨hg, rfl, h, hv⟩
  · rw [h]
    exact .inl ⟨benign_none st, fun v _ ha hr => by rw [ha, hr] at hna; cases hna⟩
  rw [h]
  generalize run st ext face name p = res at hv
  have quiet (hb : Benign st res) := (post_benign hb (fwGuard_face hg)).symm ▸ hb
  cases hvo : verbOf name with
  | none => rw [hvo] at hv; exact .inl ⟨quiet hv, nofun⟩
  | some v =>
    simp only [hvo] at hv
    by_cases ha : authorised st.lh st.faces face name = true
    · rw [if_pos ha] at hv
      rcases char_cases hv with ⟨hval, a, hp, h3, hag⟩ | ⟨hval, hst, c, e, h3, hc⟩
      · refine .inr ⟨v, a, rfl, hp, hval, ha, rfl, (post_fst face res).symm ▸ hag, ?_⟩
        rw [post_ctrl face res _ _ h3, post_fst]
        cases hq : (faceGet res.1.faces face).isSome
        · exact .inr ⟨rfl, (Option.not_isSome _).symm.trans (congrArg (!·) hq)⟩
        · exact .inl rfl
      · obtain ⟨s, r⟩ := res
        cases hst; cases h3
        have hb := benign_ctrl s c e (by omega)
        refine .inl ⟨quiet hb, fun v' hv' _ _ => ?_⟩
        cases hv'
        exact ⟨hval, c, e, congrArg Prod.snd (post_benign hb (fwGuard_face hg)), hc⟩
    · rw [if_neg ha] at hv
      subst hv
      exact .inl ⟨quiet (benign_none st), fun _ _ ha' => absurd ha' ha⟩

def StWF (st : St) : Prop := WF0 st ∧ 0 ≤ st.cs ∧ st.cs ≤ (maxInt : Int)

theorem stWF_of_agrees {st' st : St} {f : Nat} {v : Verb} {hasP : Bool} {a : Args} (h : StWF st)
    (hval : validity (tablesOf st) f v hasP (.args a) = .valid)
    (hag : Agrees st' st (effect (tablesOf st) f v a (modelNewId v st))) : StWF st' := by
  obtain ⟨⟨hwf, hid⟩, h0, h1⟩ := h
  obtain ⟨_, _, _, _, _, _, _, _, hcs, hfa, _, _, hnf, _⟩ := hag
  have hface : ∀ g ∈ st'.faces, (schemeUpdatable g = true → g.ndnlp = true) ∧ g.id < st'.nextFace := by
    intro g hg
    rw [hfa] at hg; rw [hnf]
    rcases effect_faces hg with hm | ⟨fc, _, hf, rfl⟩ | ⟨c, canon, rfl, _, rfl, hc⟩
    · exact ⟨hwf g hm, Nat.lt_add_right _ (hid g hm)⟩
    · have hk := specFaceAfter_keep fc a
      rw [schemeUpdatable, hk.2.2.1, hk.2.1, hk.1]
      exact ⟨hwf fc (faceGet_some hf).1, Nat.lt_add_right _ (hid fc (faceGet_some hf).1)⟩
    · have hk := newFace_keep (modelNewId .faceCreate st) c canon a
      rw [hk.1, hc]
      exact ⟨fun _ => hk.2.1, Nat.lt_succ_self _⟩
  refine ⟨⟨fun g hg => (hface g hg).1, fun g hg => (hface g hg).2⟩, ?_⟩
  rw [hcs]
  rcases (effect_sc_cs (tablesOf st) f v a (modelNewId v st)).2 with h | ⟨k, rfl, hk, h⟩ <;> rw [h]
  · exact ⟨h0, h1⟩
  · exact ⟨Int.natCast_nonneg k, Int.ofNat_le.2 (valid_csConfig hval hk)⟩

theorem toU64_of_nonneg {i : Int} (h0 : 0 ≤ i) (h1 : i ≤ (maxInt : Int)) : ((toU64 i : Nat) : Int) = i := by
  unfold toU64 u64
  unfold maxInt at h1
  rw [Int.emod_eq_of_lt h0 (by omega)]
  exact Int.toNat_of_nonneg h0

/-- the four shapes of an observation. `hnv`: what holds of an authorised, delivered command of a known verb;
    `nid`/`hnid`: the id of a created face, read back from the echo (`effect_newId_fix`); `st` serves `DatasetOf`. -/
inductive Shape (st : St) (o : Obs) : Prop
  | quiet (h1 : o.out = .none) (h2 : o.after = o.before)
      (hnv : ∀ v, verbOf o.name = some v → o.auth = true → o.routed = true → False)
  | refused (c : Nat) (e : Args) (h1 : o.out = .ctrl c e) (hc : c ≠ 200) (h2 : o.after = o.before)
      (hnv : ∀ v, verbOf o.name = some v → o.auth = true → o.routed = true →
        validity o.before o.face v o.hasP o.params ≠ .valid ∧ 400 ≤ c ∧ c < 500)
  | listed (pf : Name) (mv : String) (ver : Nat) (d : Dataset) (h1 : o.out = .dataset pf mv ver d)
      (h2 : o.after = o.before) (hd : DatasetOf st d)
      (hnv : ∀ v, verbOf o.name = some v → o.auth = true → o.routed = true → False)
  | accepted (v : Verb) (a : Args) (hv : verbOf o.name = some v) (hp : o.params = .args a)
      (hval : validity o.before o.face v o.hasP o.params = .valid) (hauth : o.auth = true) (hr : o.routed = true)
      (nid : Nat)
      (hnid : effect o.before o.face v a (newIdOf v (effect o.before o.face v a nid).echo) = effect o.before o.face v a nid)
      (hm : (effect o.before o.face v a nid).matches o.after = true)
      (hu : usable o.before = true → usable o.after = true)
      (hout : o.out = .ctrl 200 (effect o.before o.face v a nid).echo ∨ (o.out = .none ∧ o.requesterGone = true))

theorem effect_newId_fix (t : Tables) (f : Nat) (v : Verb) (a : Args) (n : Nat) :
    effect t f v a (newIdOf v (effect t f v a n).echo) = effect t f v a n := by
  cases v
  case faceCreate =>
    dsimp only [effect]
    rcases a.uri.bind uriClass with _ | _ | _ | _ | _ <;> dsimp only
    iterate 2 rw [show newIdOf .faceCreate (faceFullProps _) = _ from (newFace_keep _ _ _ a).1]
  all_goals rfl

theorem usable_congr {t u : Tables} (h1 : t.sc = u.sc) (h2 : t.cs = u.cs) (h3 : t.faces = u.faces) :
    usable t = usable u := by
  simp [usable, h1, h2, h3]

theorem obs_shape (st : St) (ext : Ext) (routed : Bool) (face : Nat) (name : Name) (p : Params)
    (hwf : WF0 st) : Shape st (obsOf st ext routed face name p) := by
  rcases step_cases st ext routed face name p hwf with ⟨⟨htb, _, _, hout⟩, hnv⟩ | ⟨v, a, hvo, hp, hval, ha, hr, hag, hout⟩
  · have h2 : (obsOf st ext routed face name p).after = (obsOf st ext routed face name p).before :=
      tablesOf_eq_of_tbl htb
    rcases hout with h | ⟨c, e, h, hc⟩ | ⟨pf, mv, ver, d, h, hd⟩
    · refine .quiet (congrArg outcomeOf h) h2 fun v hv ha hr => ?_
      obtain ⟨_, c, e, h', _⟩ := hnv v hv ha hr
      cases h.symm.trans h'
    · refine .refused c e (congrArg outcomeOf h) hc h2 fun v hv ha hr => ?_
      obtain ⟨hval, c', e', h', hc'⟩ := hnv v hv ha hr
      cases h.symm.trans h'
      exact ⟨hval, hc'⟩
    · refine .listed pf mv ver d (congrArg outcomeOf h) h2 hd fun v hv ha hr => ?_
      obtain ⟨_, c, e, h', _⟩ := hnv v hv ha hr
      cases h.symm.trans h'
  · refine .accepted v a hvo hp hval ha hr (modelNewId v st) (effect_newId_fix _ _ _ _ _) (agrees_matches hag)
      (fun hu => ?_) ?_
    · obtain ⟨_, _, _, _, _, _, _, hsc, hcs, hfa, _⟩ := hag
      exact (usable_congr hsc hcs hfa).trans (effect_usable _ face v _ a _ (hp ▸ hval) hu)
    · rcases hout with h | ⟨h, hgone⟩
      · exact .inl (congrArg outcomeOf h)
      · exact .inr ⟨congrArg outcomeOf h, hgone⟩

end Ndn.C17
