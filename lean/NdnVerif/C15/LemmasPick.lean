/-
  C15 — the selection loop of `rrSegFetcher.doCheck` (model: `pick`, `Client.doCheck`), after fix
  8e7a43d: it always returns (the fuel the model passes is never used up, `spin` stays false), it
  returns only streams that have a segment to request, and when it returns nothing although
  streams are queued, a stream that is waiting for outstanding Interests is queued (so a later
  result re-triggers the check).
-/
import NdnVerif.C15.LemmasOps
namespace Ndn.C15

/-- termination of `pick`: `j` more `next()` calls from index `rr` close the circle — they reach the stream
    remembered as `first`; while none is remembered a full circle and one call are granted.  Any such `j`
    will do (the loop may stop earlier); the measure is `length * (length + 1) + j`: a removal shrinks
    the list (`near_erase`), every other iteration that goes on uses up one call (`near_step`). -/
def Near (streams : List Nat) (rr : Nat) (first : Option Nat) (j : Nat) : Prop :=
  match first with
  | none => j = streams.length + 1
  | some f => 1 ≤ j ∧ j ≤ streams.length ∧ streams.getD ((rr + j) % streams.length) 0 = f

theorem near_bounds {streams : List Nat} {rr : Nat} {first : Option Nat} {j : Nat} (h : Near streams rr first j) :
    1 ≤ j ∧ j ≤ streams.length + 1 := by
  cases first with
  | none => exact ⟨h ▸ Nat.le_add_left _ _, Nat.le_of_eq h⟩
  | some f => exact ⟨h.1, Nat.le_succ_of_le h.2.1⟩

/-- a stream of the list is reached within one circle: the way from `rr % length` up to its index, around the
    end if need be -/
theorem near_of_mem {streams : List Nat} (rr : Nat) {f : Nat} (h : f ∈ streams) : ∃ j, Near streams rr (some f) j := by
  obtain ⟨i, hi, hf⟩ := List.getElem_of_mem h
  have hr : rr % streams.length < streams.length := Nat.mod_lt _ (Nat.zero_lt_of_lt hi)
  have hget : streams.getD i 0 = f := by rw [List.getD_eq_getElem?_getD, List.getElem?_eq_getElem hi]; exact hf
  by_cases hlt : rr % streams.length < i
  · refine ⟨i - rr % streams.length, Nat.sub_pos_of_lt hlt, Nat.le_trans (Nat.sub_le _ _) (Nat.le_of_lt hi), ?_⟩
    rw [← Nat.mod_add_mod, Nat.add_sub_cancel' (Nat.le_of_lt hlt), Nat.mod_eq_of_lt hi]
    exact hget
  · have hle : rr % streams.length ≤ i + streams.length := Nat.le_trans (Nat.le_of_lt hr) (Nat.le_add_left _ _)
    refine ⟨i + streams.length - rr % streams.length, Nat.sub_pos_of_lt (Nat.lt_of_lt_of_le hr (Nat.le_add_left _ _)),
      Nat.sub_le_of_le_add (Nat.add_comm _ (rr % _) ▸ Nat.add_le_add_right (Nat.le_of_not_lt hlt) _), ?_⟩
    rw [← Nat.mod_add_mod, Nat.add_sub_cancel' hle, Nat.add_mod_right, Nat.mod_eq_of_lt hi]
    exact hget


theorem mem_eraseIdx_of_ne {l : List Nat} {i a : Nat} (h : a ∈ l) (hne : l.getD i 0 ≠ a) : a ∈ l.eraseIdx i := by
  obtain ⟨j, hj⟩ := List.mem_iff_getElem?.mp h
  refine List.mem_eraseIdx_iff_getElem?.mpr ⟨j, fun e => hne ?_, hj⟩
  rw [← e, List.getD_eq_getElem?_getD, hj]; rfl

theorem fOf_eq (c : Client) (x : Nat) : fOf c.cons x = (c.getCons x).f := rfl

theorem next_mem {streams : List Nat} (rr : Nat) (h : ¬ streams.isEmpty = true) :
    (rr + 1) % streams.length < streams.length ∧ streams.getD ((rr + 1) % streams.length) 0 ∈ streams := by
  have hL := Nat.mod_lt (rr + 1) (List.length_pos_iff.mpr (mt List.isEmpty_iff.mpr h))
  refine ⟨hL, ?_⟩
  rw [List.getD_eq_getElem?_getD, List.getElem?_eq_getElem hL]
  exact List.getElem_mem _

theorem first_next {Q : Nat → Prop} {streams : List Nat} {first : Option Nat} {s : Nat} (hs : s ∈ streams ∧ Q s)
    (hf : ∀ f, first = some f → f ∈ streams ∧ Q f) :
    ∀ f, (if first.isNone = true then some s else first) = some f → f ∈ streams ∧ Q f := by
  intro f hx
  cases first with
  | none => cases hx; exact hs
  | some f0 => exact hf f hx

theorem first_erase {Q : Nat → Prop} {streams : List Nat} {first : Option Nat} (i : Nat)
    (hf : ∀ f, first = some f → f ∈ streams ∧ Q f) :
    ∀ f, (if (if first.isNone = true then some (streams.getD i 0) else first) = some (streams.getD i 0) then none
        else (if first.isNone = true then some (streams.getD i 0) else first)) = some f →
      f ∈ streams.eraseIdx i ∧ Q f := by
  intro f hx
  cases first with
  | none => simp at hx
  | some f0 =>
    simp only [Option.isNone_some, Bool.false_eq_true, if_false] at hx
    split at hx
    · cases hx
    · rename_i hne
      cases hx
      exact ⟨mem_eraseIdx_of_ne (hf f rfl).1 (fun e => hne (by rw [e])), (hf f rfl).2⟩

theorem waiting_of_skip {f : Fetch} (hc : ¬ f.complete = true) (h : skipWait f = true ∨ skipOut f = true) :
    waiting f = true := by
  rw [waiting, Bool.eq_false_iff.mpr hc]
  rcases h with h | h <;> rw [h]
  · rfl
  · exact Bool.or_true _

/-- removing a stream pays for a whole circle, whatever `first` is afterwards -/
theorem near_erase {streams : List Nat} {i : Nat} (hi : i < streams.length) (rr : Nat) (first : Option Nat)
    (hmem : ∀ f : Nat, first = some f → f ∈ streams.eraseIdx i) :
    ∃ j, Near (streams.eraseIdx i) rr first j ∧
      (streams.eraseIdx i).length * ((streams.eraseIdx i).length + 1) + j ≤ streams.length * (streams.length + 1) := by
  have hj : ∃ j, Near (streams.eraseIdx i) rr first j := by
    cases first with
    | none => exact ⟨_, rfl⟩
    | some f => exact near_of_mem rr (hmem f rfl)
  obtain ⟨j, hj⟩ := hj
  refine ⟨j, hj, ?_⟩
  have hb := (near_bounds hj).2
  rw [List.length_eraseIdx_of_lt hi] at hb ⊢
  obtain ⟨m, hm⟩ : ∃ m : Nat, streams.length = m + 1 :=
    ⟨streams.length - 1, (Nat.sub_add_cancel (Nat.zero_lt_of_lt hi)).symm⟩
  rw [hm, Nat.add_sub_cancel] at hb ⊢
  have hexp : (m + 1) * (m + 1 + 1) = m * (m + 1) + (m + 1) + (m + 1) := by rw [Nat.mul_succ, Nat.succ_mul]
  omega

/-- an iteration that neither returns nor removes uses up one call -/
theorem near_step {streams : List Nat} {rr : Nat} {first : Option Nat} {j : Nat} (hne : ¬ streams.isEmpty = true)
    (hj : Near streams rr first j) (hfs : ¬ first = some (streams.getD ((rr + 1) % streams.length) 0)) :
    ∃ j', Near streams ((rr + 1) % streams.length)
      (if first.isNone = true then some (streams.getD ((rr + 1) % streams.length) 0) else first) j' ∧ j' < j := by
  have hL := (next_mem rr hne).1
  cases first with
  | none =>
    refine ⟨streams.length, ⟨Nat.zero_lt_of_lt hL, Nat.le_refl _, ?_⟩, hj ▸ Nat.lt_succ_self _⟩
    rw [Nat.add_mod_right, Nat.mod_mod]
  | some f =>
    obtain ⟨h1, h2, h3⟩ := hj
    have hj1 : j ≠ 1 := fun e => hfs (by rw [← h3, e])
    have h1' : 1 ≤ j - 1 := Nat.le_sub_one_of_lt (Nat.lt_of_le_of_ne h1 (Ne.symm hj1))
    refine ⟨j - 1, ⟨h1', Nat.le_trans (Nat.sub_le _ _) h2, ?_⟩, Nat.sub_lt h1 Nat.one_pos⟩
    rw [Nat.mod_add_mod, Nat.add_assoc, Nat.add_sub_cancel' h1]
    exact h3


theorem pick_spec (cons : List Cons) (fuel : Nat) (streams : List Nat) (rr : Nat) (first : Option Nat) :
    (∀ f : Nat, first = some f → f ∈ streams ∧ waiting (fOf cons f) = true) →
    (∀ x ∈ (pick cons fuel streams rr first).1, x ∈ streams) ∧
    (∀ x ∈ streams, x ∈ (pick cons fuel streams rr first).1 ∨ (fOf cons x).complete = true) ∧
    (∀ s : Nat, (pick cons fuel streams rr first).2.2.1 = some s →
      s ∈ (pick cons fuel streams rr first).1 ∧ eligible (fOf cons s) = true) ∧
    ((pick cons fuel streams rr first).2.2.1 = none → (pick cons fuel streams rr first).2.2.2 = false →
      (pick cons fuel streams rr first).1 = [] ∨
      ∃ x ∈ (pick cons fuel streams rr first).1, waiting (fOf cons x) = true) ∧
    (∀ j, Near streams rr first j → streams.length * (streams.length + 1) + j < fuel →
      (pick cons fuel streams rr first).2.2.2 = false) := by
  -- the hypothesis on `first`: when an iteration goes on, `first` (if set) is a queued stream the loop has skipped,
  -- i.e. one that is `waiting` — a removal resets a `first` that is the removed stream (`first_erase`); so the
  -- full-circle exit (case3) has a waiting stream to show for the fourth clause
  fun_induction pick cons fuel streams rr first with
  | case1 =>
    exact fun _ => ⟨fun _ h => h, fun _ h => Or.inl h, (fun _ h => by cases h), (fun _ h => by cases h),
      fun _ _ h => absurd h (Nat.not_lt_zero _)⟩
  | case2 fuel streams rr first he =>
    exact fun _ => ⟨fun _ h => h, fun _ h => Or.inl h, (fun _ h => by cases h),
      fun _ _ => Or.inl (List.isEmpty_iff.mp he), fun _ _ _ => rfl⟩
  | case3 fuel streams rr hne rr' s =>
    exact fun hf => ⟨fun _ h => h, fun _ h => Or.inl h, (fun _ h => by cases h),
      fun _ _ => Or.inr ⟨s, (hf s rfl).1, (hf s rfl).2⟩, fun _ _ _ => rfl⟩
  | case4 fuel streams rr first hne rr' s hfs first' f hc ih =>
    intro hf
    obtain ⟨i1, i2, i3, i4, i5⟩ := ih (first_erase rr' hf)
    refine ⟨fun x h => (List.eraseIdx_sublist streams rr').subset (i1 x h), fun x hx => ?_, i3, i4, fun j hj hlt => ?_⟩
    · by_cases he : s = x
      · exact Or.inr (he ▸ hc)
      · exact i2 x (mem_eraseIdx_of_ne hx he)
    · obtain ⟨j', hj', hle⟩ := near_erase (next_mem rr hne).1 rr' _ (fun f h => (first_erase rr' hf f h).1)
      exact i5 j' hj' (Nat.lt_of_le_of_lt hle (Nat.lt_of_lt_of_le (Nat.lt_add_of_pos_right (near_bounds hj).1)
        (Nat.le_of_lt_succ hlt)))
  | case5 fuel streams rr first hne rr' s hfs first' f hc hw ih =>
    intro hf
    obtain ⟨i1, i2, i3, i4, i5⟩ := ih (first_next ⟨(next_mem rr hne).2, waiting_of_skip hc (Or.inl hw)⟩ hf)
    refine ⟨i1, i2, i3, i4, fun j hj hlt => ?_⟩
    obtain ⟨j', hj', hlt'⟩ := near_step hne hj hfs
    exact i5 j' hj' (Nat.lt_of_lt_of_le (Nat.add_lt_add_left hlt' _) (Nat.le_of_lt_succ hlt))
  | case6 fuel streams rr first hne rr' s hfs first' f hc hw ho ih =>
    intro hf
    obtain ⟨i1, i2, i3, i4, i5⟩ := ih (first_next ⟨(next_mem rr hne).2, waiting_of_skip hc (Or.inr ho)⟩ hf)
    refine ⟨i1, i2, i3, i4, fun j hj hlt => ?_⟩
    obtain ⟨j', hj', hlt'⟩ := near_step hne hj hfs
    exact i5 j' hj' (Nat.lt_of_lt_of_le (Nat.add_lt_add_left hlt' _) (Nat.le_of_lt_succ hlt))
  | case7 fuel streams rr first hne rr' s hfs f hc hw ho =>
    intro _
    refine ⟨fun _ h => h, fun _ h => Or.inl h, fun s' hs' => ?_, (fun h => by cases h), fun _ _ _ => rfl⟩
    cases hs'
    have e1 : (fOf cons s).complete = false := Bool.eq_false_iff.mpr hc
    have e2 : skipWait (fOf cons s) = false := Bool.eq_false_iff.mpr hw
    have e3 : skipOut (fOf cons s) = false := Bool.eq_false_iff.mpr ho
    exact ⟨(next_mem rr hne).2, by rw [eligible, e1, e2, e3]; rfl⟩

/-- what holds after a completed `doCheck`: the window is full, or no stream is queued, or a queued
    stream is waiting for results of Interests that are out (and its results will call `doCheck`
    again) -/
def Served (c : Client) : Prop :=
  c.outstanding ≥ window ∨ c.streams = [] ∨ ∃ x ∈ c.streams, waiting (fOf c.cons x) = true

def NoMeta (c : Client) : Prop := ∀ o ∈ c.streams, (c.getCons o).metaPending = false

theorem pickOf_returns (c : Client) : (pickOf c).2.2.2 = false := by
  refine (pick_spec c.cons _ c.streams c.rrIndex none (fun _ h => by cases h)).2.2.2.2 _ rfl ?_
  rw [Nat.add_mul]
  omega

theorem pickOf_spec (c : Client) :
    (∀ x ∈ (pickOf c).1, x ∈ c.streams) ∧
    (∀ x ∈ c.streams, x ∈ (pickOf c).1 ∨ (fOf c.cons x).complete = true) ∧
    (∀ s : Nat, (pickOf c).2.2.1 = some s → s ∈ (pickOf c).1 ∧ eligible (fOf c.cons s) = true) ∧
    ((pickOf c).2.2.1 = none → (pickOf c).1 = [] ∨ ∃ x ∈ (pickOf c).1, waiting (fOf c.cons x) = true) :=
  have h := pick_spec c.cons ((c.streams.length + 1) * (c.streams.length + 1) + 1) c.streams c.rrIndex none
    (fun _ h => by cases h)
  ⟨h.1, h.2.1, h.2.2.1, fun hn => h.2.2.2.1 hn (pickOf_returns c)⟩

theorem doCheck_keeps (fuel : Nat) (c : Client) :
    (c.doCheck fuel).1.spin = c.spin ∧ (∀ x ∈ (c.doCheck fuel).1.streams, x ∈ c.streams) ∧
    ∀ o, ((c.doCheck fuel).1.getCons o).metaPending = (c.getCons o).metaPending := by
  refine doCheck_induct (P := fun c' => c'.spin = c.spin ∧ (∀ x ∈ c'.streams, x ∈ c.streams) ∧
    ∀ o, (c'.getCons o).metaPending = (c.getCons o).metaPending) ?_ ?_ fuel c ⟨rfl, fun _ h => h, fun _ => rfl⟩
  · intro c1 ⟨h1, h2, h3⟩
    refine ⟨?_, fun x hx => h2 x ((pickOf_spec c1).1 x hx), h3⟩
    show (c1.spin || (pickOf c1).2.2.2) = c.spin
    rw [pickOf_returns, Bool.or_false]; exact h1
  · intro c1 s ⟨h1, h2, h3⟩ _
    refine ⟨h1, h2, fun o => ?_⟩
    rw [← h3 o]
    show ((afterPick c1 (pickOf c1)).setCons s _ |>.getCons o).metaPending = _
    rcases getCons_setCons_or (afterPick c1 (pickOf c1)) s o _ with ⟨h, e⟩ | e <;> rw [e]
    rw [h]

theorem doCheck_served : ∀ (fuel : Nat) (c : Client), window - c.outstanding < fuel → Served (c.doCheck fuel).1 := by
  intro fuel
  induction fuel with
  | zero => intro c h; exact absurd h (Nat.not_lt_zero _)
  | succ fuel ih =>
    intro c hf
    rw [doCheck_succ]
    by_cases hw : c.outstanding ≥ window
    · rw [if_pos hw]; exact Or.inl hw
    · rw [if_neg hw]
      cases hsel : (pickOf c).2.2.1 with
      | none => exact Or.inr ((pickOf_spec c).2.2.2 hsel)
      | some s => exact ih _ (by show window - (c.outstanding + 1) < fuel; omega)

theorem noMeta_add {c : Client} (hm : NoMeta c) {o : Nat} (hmp : (c.getCons o).metaPending = false) :
    NoMeta ({ c with streams := c.streams ++ [o] } : Client) := by
  intro o' ho'
  rcases List.mem_append.mp ho' with h | h
  · exact hm o' h
  · rw [List.mem_singleton.mp h]; exact hmp

theorem consumeObject_touches (c : Client) (o : Nat) (v : Bool) :
    (∀ x ∈ (c.consumeObject o v).1.streams, x ∈ c.streams ∨ x = o) ∧
    (∀ o' : Nat, o' ≠ o → ((c.consumeObject o v).1.getCons o').metaPending = (c.getCons o').metaPending) := by
  refine consumeObject_cases (P := fun _ r => (∀ x ∈ r.1.streams, x ∈ c.streams ∨ x = o) ∧
    ∀ o' : Nat, o' ≠ o → (r.1.getCons o').metaPending = (c.getCons o').metaPending) c o v ?_ ?_ ?_
  · exact ⟨fun x h => Or.inl h, fun o' hne => by unfold Client.fail; dsimp only; rw [getCons_setCons_ne c _ hne]⟩
  · exact ⟨fun x h => Or.inl h, fun o' hne => by dsimp only; rw [getCons_setCons_ne c _ hne]⟩
  · have ⟨_, k2, k3⟩ := doCheck_keeps (window + 1) ({ c with streams := c.streams ++ [o] } : Client)
    refine ⟨fun x hx => ?_, fun o' _ => k3 o'⟩
    rcases List.mem_append.mp (k2 x hx) with h | h
    · exact Or.inl h
    · exact Or.inr (List.mem_singleton.mp h)

/-- scheduler invariant, after every event: the selection loop has returned, the fetcher is `Served`, no
    queued stream waits for its metadata -/
structure Inv4 (c : Client) : Prop where
  spin : c.spin = false
  served : Served c
  nometa : NoMeta c

namespace Inv4

theorem congr {c c' : Client} (I : Inv4 c) (h1 : c'.spin = c.spin) (h2 : c'.streams = c.streams)
    (h3 : c'.outstanding = c.outstanding)
    (h4 : ∀ o ∈ c.streams, (c'.getCons o).f = (c.getCons o).f ∧
      (c'.getCons o).metaPending = (c.getCons o).metaPending) : Inv4 c' := by
  refine ⟨by rw [h1]; exact I.spin, ?_, ?_⟩
  · rcases I.served with h | h | ⟨x, hx, hw⟩
    · exact Or.inl (by rw [h3]; exact h)
    · exact Or.inr (Or.inl (by rw [h2]; exact h))
    · exact Or.inr (Or.inr ⟨x, by rw [h2]; exact hx, by rw [fOf_eq, (h4 x hx).1, ← fOf_eq]; exact hw⟩)
  · intro o ho
    rw [h2] at ho
    rw [(h4 o ho).2]; exact I.nometa o ho

theorem setCons {c : Client} (I : Inv4 c) (o : Nat) (x : Cons)
    (h : o ∈ c.streams → x.f = (c.getCons o).f ∧ x.metaPending = (c.getCons o).metaPending) :
    Inv4 (c.setCons o x) := by
  refine I.congr rfl rfl rfl fun o' ho' => ?_
  rcases getCons_setCons_or c o o' x with ⟨rfl, e⟩ | e <;> rw [e]
  · exact h ho'
  · exact ⟨rfl, rfl⟩

theorem fail {c : Client} (I : Inv4 c) (o : Nat) (ho : o ∉ c.streams) : Inv4 (c.fail o).1 :=
  I.setCons o _ (fun h => absurd h ho)

theorem check {c : Client} (hs : c.spin = false) (hm : NoMeta c) (cbs : List (Nat × CbRec)) :
    Inv4 (c.check cbs).1 :=
  have ⟨k1, k2, k3⟩ := doCheck_keeps (window + 1) c
  ⟨k1.trans hs, doCheck_served _ c (Nat.lt_succ_of_le (Nat.sub_le _ _)), fun o ho => (k3 o).trans (hm o (k2 o ho))⟩

theorem consumeObject {c : Client} (I : Inv4 c) (o : Nat) (viaMeta : Bool) (ho : o ∉ c.streams)
    (hmp : (c.getCons o).metaPending = false) : Inv4 (c.consumeObject o viaMeta).1 :=
  consumeObject_cases (P := fun _ r => Inv4 r.1) c o viaMeta (I.fail o ho) (I.setCons o _ (fun h => absurd h ho))
    (Inv4.check (c := { c with streams := c.streams ++ [o] }) I.spin (noMeta_add I.nometa hmp) [])

theorem handleData {c : Client} (I : Inv4 c) (o k : Nat) (a : Arrival) : Inv4 (c.handleData o k a).1 := by
  rw [Client.handleData_eq]
  refine Inv4.check (c := arrive c o k a) I.spin (fun o' ho' => ?_) _
  have := I.nometa o' (mem_arrive_streams ho')
  rw [arrive_getCons]
  rcases getCons_setCons_or c o o' _ with ⟨h, e⟩ | e <;> rw [e]
  · exact h ▸ this
  · exact this

theorem step {c : Client} (I : Inv4 c) (serve : Name → Bool → Option Pkt) (e : Ev) :
    Inv4 (c.step serve e).1 := by
  have hq : ∀ o, (c.getCons o).metaPending = true → o ∉ c.streams := fun o hmp h => by
    rw [I.nometa o h] at hmp; cases hmp
  refine step_cases (P := fun _ _ r => Inv4 r.1) serve c I ?_ ?_ ?_ ?_ ?_ ?_ e
  · exact fun _ => I.congr rfl rfl rfl (fun _ _ => ⟨rfl, rfl⟩)
  · exact fun o hmp => (I.setCons o _ (fun h => absurd h (hq o hmp))).fail o (hq o hmp)
  · exact fun o n hmp => (I.setCons o _ (fun h => absurd h (hq o hmp))).consumeObject o true (hq o hmp)
      (by rw [getCons_setCons_self c _ (lt_of_metaPending hmp)])
  · exact fun o hmp => I.setCons o _ (fun h => absurd h (hq o hmp))
  · exact fun o k a _ _ => I.handleData o k a
  · exact fun o k left => I.setCons o _ (fun _ => ⟨rfl, rfl⟩)

theorem start (names : List Name) : Inv4 (Client.start names).1 := by
  -- consumes that have not been started are not queued and have no metadata Interest out
  refine (start_induct (P := fun o c => Inv4 c ∧ ∀ o', o ≤ o' → o' ∉ c.streams ∧ (c.getCons o').metaPending = false)
    names ⟨⟨rfl, Or.inr (Or.inl rfl), (fun o ho => by cases ho)⟩, fun o' _ => ⟨(fun h => by cases h), ?_⟩⟩ ?_).1
  · rw [startClient_getCons]
  · intro o c _ ⟨I, hfresh⟩
    obtain ⟨f1, f2⟩ := consumeObject_touches c o false
    refine ⟨I.consumeObject o false (hfresh o (Nat.le_refl _)).1 (hfresh o (Nat.le_refl _)).2, fun o' ho' => ?_⟩
    have hne : o' ≠ o := Nat.ne_of_gt ho'
    refine ⟨fun hin => ?_, by rw [f2 o' hne]; exact (hfresh o' (Nat.le_of_succ_le ho')).2⟩
    rcases f1 o' hin with h | h
    · exact (hfresh o' (Nat.le_of_succ_le ho')).1 h
    · exact hne h

theorem run (serve : Name → Bool → Option Pkt) (delivers : Nat → Key → Nat → Bool) (names : List Name)
    (evs : List Ev) : Inv4 (Client.run serve delivers names evs).1 :=
  run_induct serve delivers names evs (Inv4.start names) (fun _ e I => I.step serve e)
    (fun _ I => I.congr rfl rfl rfl (fun _ _ => ⟨rfl, rfl⟩))

end Inv4

end Ndn.C15
