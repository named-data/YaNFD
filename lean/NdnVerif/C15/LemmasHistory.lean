/-
  C15 — what both stores' history proofs (LemmasMemStore, LemmasBoltStore) share: the component-wise prefix
  `pfxOf`, which names a Remove deletes (`removeCond`), and `newest_of_entries`, which turns either store's
  "maximum of the entries under the name" into `NewestUnder` / `NoneUnder`.  Core's `List.foldl_rel`
  carries `MemRel` / `BoltRel` along a history; the `_snoc`
  equations are for `removed_not_served_history` only.  Core Lean only.
-/
import NdnVerif.C15.Notions
import NdnVerif.Base.Code
namespace Ndn.C15

theorem pfxOf_cons (a b : Component) (as bs : Name) : pfxOf (a :: as) (b :: bs) = (decide (a = b) && pfxOf as bs) := rfl

theorem pfxOf_iff (q nm : Name) : pfxOf q nm = true ↔ ∃ rest, nm = q ++ rest :=
  (prefix_test (fun _ _ => decide_eq_true_iff) (fun _ => rfl) (fun _ _ => rfl) fun _ _ _ _ => rfl).trans
    (exists_congr fun _ => eq_comm)

theorem pfxOf_append (q rest : Name) : pfxOf q (q ++ rest) = true := (pfxOf_iff _ _).mpr ⟨rest, rfl⟩

theorem pfxOf_refl (q : Name) : pfxOf q q = true := by simpa using pfxOf_append q []

/-- the names a `Remove(name, pfx)` deletes -/
def removeCond (name : Name) (pfx : Bool) (nm : Name) : Bool := if pfx then pfxOf name nm else decide (nm = name)

theorem removeCond_cons_same (c : Component) (cs ds : Name) (pfx : Bool) :
    removeCond (c :: cs) pfx (c :: ds) = removeCond cs pfx ds := by
  cases pfx <;> simp [removeCond, pfxOf]

theorem removeCond_cons_ne (c d : Component) (cs ds : Name) (pfx : Bool) (h : d ≠ c) :
    removeCond (c :: cs) pfx (d :: ds) = false := by
  have : ¬ c = d := fun e => h e.symm
  cases pfx <;> simp [removeCond, pfxOf, h, this]

theorem removeCond_cons_nil (c : Component) (cs : Name) (pfx : Bool) : removeCond (c :: cs) pfx [] = false := by
  cases pfx <;> simp [removeCond, pfxOf]

theorem Content.remove_apply (m : Content) (name : Name) (pfx : Bool) (nm : Name) :
    m.remove name pfx nm = if removeCond name pfx nm then none else m nm := rfl

theorem contents_snoc (ops : List SOp) (op : SOp) : contents (ops ++ [op]) = (contents ops).apply op := by
  simp [contents, List.foldl_append]

/-- `E` = the (version, packet) pairs a store holds under `name`: turns "the answer is an `E`-maximum, and
    there is one unless `E` is empty" into `NewestUnder` / `NoneUnder` -/
theorem newest_of_entries {m : Content} {name : Name} {E : Nat × Pkt → Prop} {ans : Option Pkt}
    (hE : ∀ e, E e ↔ ∃ nm, pfxOf name nm = true ∧ m nm = some e)
    (h1 : ∀ p, ans = some p → ∃ v, E (v, p) ∧ ∀ e, E e → e.1 ≤ v)
    (h2 : ans = none → ∀ e, ¬ E e) :
    (∀ p, ans = some p → ∃ v, NewestUnder m name v p) ∧ (ans = none ↔ NoneUnder m name) := by
  refine ⟨fun p hp => ?_, fun hn nm hnm => ?_, fun hno => ?_⟩
  · obtain ⟨v, hv, hmax⟩ := h1 p hp
    obtain ⟨nm, hnm, hm⟩ := (hE (v, p)).mp hv
    exact ⟨v, nm, hnm, hm, fun nm' v' p' hnm' hm' => hmax (v', p') ((hE _).mpr ⟨nm', hnm', hm'⟩)⟩
  · cases hm : m nm with
    | none => rfl
    | some e => exact absurd ((hE e).mpr ⟨nm, hnm, hm⟩) (h2 hn e)
  · cases ha : ans with
    | none => rfl
    | some p =>
      obtain ⟨v, hv, _⟩ := h1 p ha
      obtain ⟨nm, hnm, hm⟩ := (hE (v, p)).mp hv
      rw [hno nm hnm] at hm; cases hm

/-- the newest version under a name is determined (the packet is not: several names may hold that version) -/
theorem newestUnder_ver {m : Content} {name : Name} {v w : Nat} {p q : Pkt} (h1 : NewestUnder m name v p)
    (h2 : NewestUnder m name w q) : v = w := by
  obtain ⟨n1, a1, b1, c1⟩ := h1
  obtain ⟨n2, a2, b2, c2⟩ := h2
  exact Nat.le_antisymm (c2 n1 v p a1 b1) (c1 n2 w q a2 b2)

theorem memRun_snoc (ops : List SOp) (op : SOp) : memRun (ops ++ [op]) = memStep (memRun ops) op := by
  simp [memRun, List.foldl_append]

theorem boltRun_snoc (ops : List SOp) (op : SOp) : boltRun (ops ++ [op]) = boltStep (boltRun ops) op := by
  simp [boltRun, List.foldl_append]

end Ndn.C15
