/-
  C15 — the multi-stream client refines the single-stream fetch machine: frame lemmas (other streams and
  the scheduler never touch a stream's Fetch state except `wnd2`) and the projection of a run.
-/
import NdnVerif.C15.LemmasOps
namespace Ndn.C15

namespace Fetch

theorem eqv_refl (a : Fetch) : a.eqv a := rfl
theorem eqv_symm {a b : Fetch} (h : a.eqv b) : b.eqv a := Eq.symm h
theorem eqv_trans {a b c : Fetch} (h1 : a.eqv b) (h2 : b.eqv c) : a.eqv c := Eq.trans h1 h2
theorem eqv_wnd2 (a : Fetch) (w : Nat) : ({ a with wnd2 := w } : Fetch).eqv a := rfl

theorem eqv_iff (a b : Fetch) : a.eqv b ↔ a = { b with wnd2 := a.wnd2 } := by
  cases a; cases b
  simp [Fetch.eqv]

theorem eqv_fields {a b : Fetch} (h : a.eqv b) :
    a.complete = b.complete ∧ a.err = b.err ∧ a.panic = b.panic := by
  rw [(Fetch.eqv_iff a b).mp h]; exact ⟨rfl, rfl, rfl⟩

end Fetch

theorem handleData_eqv (a b : Fetch) (x : Arrival) (h : a.eqv b) :
    (a.handleData x).1.eqv (b.handleData x).1 ∧ (a.handleData x).2 = (b.handleData x).2 := by
  rw [(Fetch.eqv_iff a b).mp h, handleData_wnd2]
  exact ⟨Fetch.eqv_wnd2 _ _, rfl⟩

theorem finalizeError_eq_timeout (f : Fetch) : f.finalizeError = f.handleData .timeout := by
  cases hc : f.complete with
  | false => rw [handleData_timeout f hc]
  | true => rw [handleData_complete f _ hc]; unfold Fetch.finalizeError; rw [if_pos hc]

theorem cbsOf_map (o i : Nat) (l : List CbRec) : cbsOf o (l.map fun cb => (i, cb)) = if i = o then l else [] := by
  induction l with
  | nil => simp [cbsOf]
  | cons a t ih =>
    simp only [cbsOf, List.map_cons, List.filterMap_cons] at ih ⊢
    by_cases h : i = o
    · simp only [h, if_true] at ih ⊢; rw [ih]
    · simp only [h, if_false] at ih ⊢; exact ih

theorem cbsOf_append (o : Nat) (a b : List (Nat × CbRec)) : cbsOf o (a ++ b) = cbsOf o a ++ cbsOf o b := by
  simp [cbsOf, List.filterMap_append]

theorem applyArr_eqv (a b : Fetch) (x : Option Arrival) (h : a.eqv b) :
    (applyArr a x).1.eqv (applyArr b x).1 ∧ (applyArr a x).2 = (applyArr b x).2 := by
  cases x with
  | none => exact ⟨h, rfl⟩
  | some y => exact handleData_eqv a b y h

/-- effect of a client transition on the streams: stream `o0` receives arrival `a0` (or nothing), every
    other stream's fetch state is untouched up to `wnd2`, and exactly `o0`'s callbacks are emitted -/
def Eff (c : Client) (r : Client × Out) (o0 : Nat) (a0 : Option Arrival) : Prop :=
  r.1.cons.length = c.cons.length ∧
  ∀ o, ((r.1.getCons o).f).eqv (applyArr (c.getCons o).f (if o0 = o then a0 else none)).1 ∧
       cbsOf o r.2.cbs = (applyArr (c.getCons o).f (if o0 = o then a0 else none)).2

/-- only `wnd2` of some stream changed, same number of streams -/
def Frame (c c' : Client) : Prop := c'.cons.length = c.cons.length ∧ ∀ o, ((c'.getCons o).f).eqv (c.getCons o).f

theorem frame_refl (c : Client) : Frame c c := ⟨rfl, fun _ => Fetch.eqv_refl _⟩

theorem frame_trans {a b c : Client} (h1 : Frame a b) (h2 : Frame b c) : Frame a c :=
  ⟨h2.1.trans h1.1, fun o => Fetch.eqv_trans (h2.2 o) (h1.2 o)⟩

theorem frame_setCons (c : Client) (o : Nat) (x : Cons) (h : x.f.eqv (c.getCons o).f) : Frame c (c.setCons o x) := by
  refine ⟨length_setCons c o x, fun o' => ?_⟩
  rcases getCons_setCons_or c o o' x with ⟨rfl, e⟩ | e <;> rw [e]
  · exact h
  · exact Fetch.eqv_refl _

theorem frame_of_cons_eq (c c' : Client) (h : c'.cons = c.cons) : Frame c c' := by
  refine ⟨by rw [h], fun o => ?_⟩
  simp only [Client.getCons, h]
  exact Fetch.eqv_refl _

theorem frame_of_cons_set (c c' : Client) (s : Nat) (x : Cons) (hc : c'.cons = c.cons.set s x)
    (hx : x.f.eqv (c.getCons s).f) : Frame c c' :=
  frame_trans (frame_setCons c s x hx) (frame_of_cons_eq _ _ hc)

theorem doCheck_frame (fuel : Nat) (c : Client) : Frame c (c.doCheck fuel).1 :=
  doCheck_induct (P := Frame c) (fun _ h => frame_trans h (frame_of_cons_eq _ _ rfl))
    (fun _ s h _ => frame_trans h (frame_of_cons_set _ _ s _ rfl (Fetch.eqv_wnd2 _ _))) fuel c (frame_refl c)

theorem eff_of_frame (c c' : Client) (out : Out) (o0 : Nat) (h : Frame c c') (hc : out.cbs = []) :
    Eff c (c', out) o0 none := by
  refine ⟨h.1, fun o => ?_⟩
  rw [ite_self, hc]
  exact ⟨h.2 o, rfl⟩

theorem eff_proj {c : Client} {r : Client × Out} {o0 : Nat} {a0 : Option Arrival} (he : Eff c r o0 a0) (o : Nat)
    (g : Fetch) (hg : ((c.getCons o).f).eqv g) :
    ((r.1.getCons o).f).eqv (applyArr g (if o0 = o then a0 else none)).1 ∧
    cbsOf o r.2.cbs = (applyArr g (if o0 = o then a0 else none)).2 :=
  have hgg := applyArr_eqv _ _ (if o0 = o then a0 else none) hg
  ⟨Fetch.eqv_trans (he.2 o).1 hgg.1, (he.2 o).2.trans hgg.2⟩

theorem eff_of_frame_eff (c c1 : Client) (r : Client × Out) (o0 : Nat) (a0 : Option Arrival)
    (h : Frame c c1) (he : Eff c1 r o0 a0) : Eff c r o0 a0 :=
  ⟨he.1.trans h.1, fun o => eff_proj he o _ (h.2 o)⟩

theorem eff_check {c c' : Client} {sent : List (Nat × Key)} {cbs : List (Nat × CbRec)} {o0 : Nat} {a0 : Option Arrival}
    (he : Eff c (c', ⟨sent, cbs⟩) o0 a0) : Eff c (c'.check cbs) o0 a0 :=
  have hf := doCheck_frame (window + 1) c'
  ⟨hf.1.trans he.1, fun o => ⟨Fetch.eqv_trans (hf.2 o) (he.2 o).1, (he.2 o).2⟩⟩

theorem eff_of_set {c c' : Client} {o : Nat} {x : Cons} (a : Arrival) (sent : List (Nat × Key)) (ho : o < c.cons.length)
    (hc : c'.cons = c.cons.set o x) (hx : x.f = ((c.getCons o).f.handleData a).1) :
    Eff c (c', ⟨sent, ((c.getCons o).f.handleData a).2.map fun cb => (o, cb)⟩) o (some a) := by
  have hget : ∀ o', c'.getCons o' = (c.setCons o x).getCons o' := fun o' => by
    simp only [Client.getCons, Client.setCons, hc]
  refine ⟨by rw [hc, List.length_set], fun o' => ?_⟩
  rw [hget, cbsOf_map]
  by_cases h : o = o'
  · subst h
    rw [getCons_setCons_self c x ho, if_pos rfl, if_pos rfl, hx]
    exact ⟨Fetch.eqv_refl _, rfl⟩
  · rw [getCons_setCons_ne c x (Ne.symm h), if_neg h, if_neg h]
    exact ⟨Fetch.eqv_refl _, rfl⟩

theorem fail_eff (c : Client) (o : Nat) (ho : o < c.cons.length) : Eff c (c.fail o) o (some .timeout) := by
  simp only [Client.fail, finalizeError_eq_timeout]
  exact eff_of_set .timeout [] ho rfl rfl

theorem consumeObject_eff (c : Client) (o : Nat) (viaMeta : Bool) (ho : o < c.cons.length) :
    Eff c (c.consumeObject o viaMeta) o (consArr (c.getCons o).fetchName viaMeta) :=
  consumeObject_cases (P := fun a r => Eff c r o a) c o viaMeta (fail_eff c o ho)
    (eff_of_frame c _ _ o (frame_setCons c o _ (Fetch.eqv_refl _)) rfl)
    (eff_check (sent := []) (eff_of_frame c _ _ o (frame_of_cons_eq c { c with streams := c.streams ++ [o] } rfl) rfl))

theorem step_eff (serve : Name → Bool → Option Pkt) (c : Client) (e : Ev) (h : evIdx e < c.cons.length) :
    Eff c (c.step serve e) (evIdx e) (stepArr serve c e) := by
  refine step_cases (P := fun o a r => o < c.cons.length → Eff c r o a) serve c ?_ ?_ ?_ ?_ ?_ ?_ ?_ e h
  · exact fun _ => eff_of_frame c _ _ 0 (frame_refl c) rfl
  · exact fun o _ => eff_of_frame c _ _ o (frame_of_cons_eq c _ rfl) rfl
  · exact fun o _ ho => eff_of_frame_eff c _ _ o _
      (frame_setCons c o { (c.getCons o) with metaPending := false } (Fetch.eqv_refl _))
      (fail_eff _ o (by rw [length_setCons]; exact ho))
  · intro o n _ ho
    have he := consumeObject_eff (c.setCons o { (c.getCons o) with metaPending := false, fetchName := n }) o true
      (by rw [length_setCons]; exact ho)
    rw [getCons_setCons_self c _ ho] at he
    exact eff_of_frame_eff c _ _ o _
      (frame_setCons c o { (c.getCons o) with metaPending := false, fetchName := n } (Fetch.eqv_refl _)) he
  · exact fun o _ _ => eff_of_frame c _ _ o (frame_setCons c o _ (Fetch.eqv_refl _)) rfl
  · intro o k a _ _ ho
    rw [Client.handleData_eq]
    exact eff_check (eff_of_set (c' := arrive c o k a) a [] ho rfl rfl)
  · exact fun o k left _ => eff_of_frame c _ _ o (frame_setCons c o _ (Fetch.eqv_refl _)) rfl

theorem runFetch_opt (g : Fetch) (ao : Option Arrival) (rest : List Arrival) :
    runFetch g (ao.toList ++ rest) =
      ((runFetch (applyArr g ao).1 rest).1, (applyArr g ao).2 ++ (runFetch (applyArr g ao).1 rest).2) := by
  cases ao with
  | none => simp [applyArr]
  | some a => simp [applyArr, runFetch]

theorem arrivalsOf_cons (serve : Name → Bool → Option Pkt) (delivers : Nat → Key → Nat → Bool) (o : Nat) (st : RunSt)
    (e : Ev) (es : List Ev) :
    arrivalsOf serve delivers o st (e :: es) =
      (if evIdx e = o then stepArr serve st.1 e else none).toList ++
        arrivalsOf serve delivers o (runStep serve delivers st e) es := by
  rw [arrivalsOf]
  cases stepArr serve st.1 e <;> by_cases h : evIdx e = o <;> simp [h]

theorem startArrs_cons (o : Nat) (c : Client) (i : Nat) (is : List Nat) :
    startArrs o c (i :: is) =
      (if i = o then consArr (c.getCons i).fetchName false else none).toList ++
        startArrs o (c.consumeObject i false).1 is := by
  rw [startArrs]
  cases consArr (c.getCons i).fetchName false <;> by_cases h : i = o <;> simp [h]

theorem outsCbs_snoc (o : Nat) (outs : List Out) (x : Out) : outsCbs o (outs ++ [x]) = outsCbs o outs ++ cbsOf o x.cbs := by
  simp [outsCbs, cbsOf_append]

theorem run_projection (serve : Name → Bool → Option Pkt) (delivers : Nat → Key → Nat → Bool) (o : Nat) :
    ∀ (evs : List Ev) (st : RunSt) (g : Fetch), (∀ e ∈ evs, evIdx e < st.1.cons.length) → ((st.1.getCons o).f).eqv g →
      let fin := evs.foldl (runStep serve delivers) st
      fin.1.cons.length = st.1.cons.length ∧
      ((fin.1.getCons o).f).eqv (runFetch g (arrivalsOf serve delivers o st evs)).1 ∧
      outsCbs o fin.2.1 = outsCbs o st.2.1 ++ (runFetch g (arrivalsOf serve delivers o st evs)).2 := by
  intro evs
  induction evs with
  | nil => intro st g _ hg; simpa [arrivalsOf, runFetch] using hg
  | cons e es ih =>
    intro st g hidx hg
    have he := step_eff serve st.1 e (hidx e (List.mem_cons_self ..))
    -- marking the run `impossible` does not touch the consumes
    have hcons : (runStep serve delivers st e).1.cons = (st.1.step serve e).1.cons := by
      obtain ⟨b, hb⟩ := runStep_client serve delivers st e
      rw [hb]; cases b <;> rfl
    have hlen : (runStep serve delivers st e).1.cons.length = st.1.cons.length := by rw [hcons]; exact he.1
    obtain ⟨p1, p2⟩ := eff_proj he o g hg
    obtain ⟨i1, i2, i3⟩ := ih (runStep serve delivers st e) _
      (fun e' he' => by rw [hlen]; exact hidx e' (List.mem_cons_of_mem _ he'))
      (by simp only [Client.getCons, hcons]; exact p1)
    have houts : (runStep serve delivers st e).2.1 = st.2.1 ++ [(st.1.step serve e).2] := rfl
    simp only [List.foldl_cons, arrivalsOf_cons, runFetch_opt]
    exact ⟨i1.trans hlen, i2, by rw [i3, houts, outsCbs_snoc, p2, List.append_assoc]⟩

theorem start_projection (o : Nat) :
    ∀ (is : List Nat) (acc : Client × Out) (g : Fetch), (∀ i ∈ is, i < acc.1.cons.length) → ((acc.1.getCons o).f).eqv g →
      let fin := is.foldl startStep acc
      fin.1.cons.length = acc.1.cons.length ∧
      ((fin.1.getCons o).f).eqv (runFetch g (startArrs o acc.1 is)).1 ∧
      cbsOf o fin.2.cbs = cbsOf o acc.2.cbs ++ (runFetch g (startArrs o acc.1 is)).2 := by
  intro is
  induction is with
  | nil => intro acc g _ hg; simpa [startArrs, runFetch] using hg
  | cons i rest ih =>
    intro acc g hidx hg
    have he := consumeObject_eff acc.1 i false (hidx i (List.mem_cons_self ..))
    obtain ⟨p1, p2⟩ := eff_proj he o g hg
    obtain ⟨i1, i2, i3⟩ := ih (startStep acc i) _
      (fun j hj => by simp only [startStep]; rw [he.1]; exact hidx j (List.mem_cons_of_mem _ hj)) p1
    simp only [List.foldl_cons, startArrs_cons, runFetch_opt]
    refine ⟨i1.trans he.1, i2, ?_⟩
    rw [i3]
    simp only [startStep, Out.append, cbsOf_append, p2, List.append_assoc]

theorem startClient_f (names : List Name) (o : Nat) : ((startClient names).getCons o).f = {} := by
  rw [startClient_getCons]

end Ndn.C15
