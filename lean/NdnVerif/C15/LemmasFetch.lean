/-
  C15 — the single-stream fetch machine: the equations of `Fetch.handleData` (cut into `initSeg`, `handleSeg`,
  `storeSeg`, with the case principle `handleData_cases`), the window advance, that `handleData` commutes with a
  change of `wnd2` (what the frame lemmas of LemmasClient rest on), the count of completion reports and the
  invariant `FInv` of an any-order fetch (core Lean only).
-/
import NdnVerif.C15.Notions
namespace Ndn.C15

theorem maxObjectSeg_lt : maxObjectSeg < 2 ^ 64 := by decide

theorem numberVal_segComp (k : Nat) (hk : k < 2 ^ 64) : numberVal (segComp k) = k := by
  have h := decNat_encNat k hk
  unfold decNat at h
  split at h
  · exact Option.some.inj h
  · cases h

theorem advance_spec (content : List (Option Bytes)) (n : Nat) :
    ∀ fuel w, w ≤ n → n - w < fuel →
      w ≤ advance content n fuel w ∧ advance content n fuel w ≤ n ∧
      (∀ i, w ≤ i → i < advance content n fuel w → (content.getD i none).isSome = true) ∧
      (advance content n fuel w < n → (content.getD (advance content n fuel w) none).isSome = false) := by
  intro fuel
  induction fuel with
  | zero => intro w _ h; exact absurd h (Nat.not_lt_zero _)
  | succ fuel ih =>
    intro w hw hf
    unfold advance
    by_cases hc : (w < n && (content.getD w none).isSome) = true
    · rw [if_pos hc]
      simp only [Bool.and_eq_true, decide_eq_true_eq] at hc
      obtain ⟨h1, h2, h3, h4⟩ := ih (w + 1) hc.1 (Nat.lt_of_lt_of_le (Nat.sub_succ_lt_self n w hc.1) (Nat.le_of_lt_succ hf))
      refine ⟨Nat.le_of_succ_le h1, h2, fun i hi1 hi2 => ?_, h4⟩
      rcases Nat.eq_or_lt_of_le hi1 with hiw | hiw
      · rw [← hiw]; exact hc.2
      · exact h3 i hiw hi2
    · rw [if_neg hc]
      refine ⟨Nat.le_refl _, hw, fun i h1 h2 => absurd h2 (Nat.not_lt.mpr h1), fun hlt => ?_⟩
      simp only [Bool.and_eq_true, decide_eq_true_eq, not_and, Bool.not_eq_true] at hc
      exact hc hlt

theorem finalizeError_complete (f : Fetch) : f.finalizeError.1.complete = true ∧ f.finalizeError.1.wnd2 = f.wnd2 := by
  unfold Fetch.finalizeError
  cases hc : f.complete
  · exact ⟨rfl, rfl⟩
  · exact ⟨hc, rfl⟩

theorem nComplete_append (a b : List CbRec) : nComplete (a ++ b) = nComplete a + nComplete b := by
  simp only [nComplete, List.filter_append, List.length_append]

theorem finalizeError_cb (f : Fetch) (hc : f.complete = false) :
    nComplete f.finalizeError.2 = 1 ∧ f.finalizeError.1.panic = f.panic := by
  unfold Fetch.finalizeError
  rw [if_neg (by rw [hc]; exact Bool.false_ne_true)]
  exact ⟨rfl, rfl⟩

/-- first part of `handleData` on a Data: `segCnt` from FinalBlockId -/
def initSeg (f : Fetch) (p : Pkt) : Option Fetch :=
  match f.segCnt with
  | some _ => some f
  | none =>
    match p.fb with
    | none => none
    | some fb =>
      if fb.typ ≠ typSegment then none
      else
        let cnt := numberVal fb + 1
        if cnt > maxObjectSeg then none
        else some { f with segCnt := some cnt, content := List.replicate cnt none }

/-- the regular end of `handleData`: segment `k` of `n` (content `c`) is stored; if it is the one the window waits
    for, the window moves over everything that is filled by now and the callback is made -/
def storeSeg (g : Fetch) (n k : Nat) (c : Bytes) : Fetch × List CbRec :=
  let g := { g with content := g.content.set k (some c) }
  if g.wnd1 = k then
    let w1 := advance g.content n (n + 1) g.wnd1
    let r := ({ g with wnd1 := w1, complete := w1 = n } : Fetch).callback
    (r.1, [r.2])
  else (g, [])

/-- second part of `handleData` on a Data, once `segCnt` is known -/
def handleSeg (g : Fetch) (p : Pkt) : Fetch × List CbRec :=
  let n := g.segCnt.getD 0
  match p.name.getLast? with
  | none => ({ g with panic := true, complete := true }, [])
  | some sc =>
    if sc.typ ≠ typSegment then g.finalizeError
    else if numberVal sc ≥ n then g.finalizeError
    else if p.content.isEmpty then
      ({ g with content := g.content.set (numberVal sc) (some p.content) } : Fetch).finalizeError
    else storeSeg g n (numberVal sc) p.content

theorem handleData_eq (f : Fetch) (a : Arrival) :
    f.handleData a =
      if f.complete then (f, []) else
      match a with
      | .timeout => f.finalizeError
      | .data p => match initSeg f p with
        | none => f.finalizeError
        | some g => handleSeg g p := by
  unfold Fetch.handleData initSeg handleSeg storeSeg
  rfl

theorem handleData_complete (f : Fetch) (a : Arrival) (hc : f.complete = true) : f.handleData a = (f, []) := by
  rw [handleData_eq, if_pos hc]

theorem handleData_timeout (f : Fetch) (hc : f.complete = false) : f.handleData .timeout = f.finalizeError := by
  rw [handleData_eq, if_neg (by rw [hc]; exact Bool.false_ne_true)]

theorem handleData_data (f : Fetch) (p : Pkt) (hc : f.complete = false) :
    f.handleData (.data p) = match initSeg f p with
      | none => f.finalizeError
      | some g => handleSeg g p := by
  rw [handleData_eq, if_neg (by rw [hc]; exact Bool.false_ne_true)]

theorem initSeg_of_segCnt {f : Fetch} {n : Nat} (h : f.segCnt = some n) (p : Pkt) : initSeg f p = some f := by
  unfold initSeg; rw [h]

theorem initSeg_some {f g : Fetch} {p : Pkt} (h : initSeg f p = some g) :
    g = { f with segCnt := g.segCnt, content := g.content } ∧
    ∃ n, g.segCnt = some n ∧ (f.segCnt = some n ∧ g = f ∨
      f.segCnt = none ∧ 0 < n ∧ n ≤ maxObjectSeg ∧ g.content = List.replicate n none) := by
  obtain ⟨sc, ct, w0, w1, w2, cp, er, pn⟩ := f
  unfold initSeg at h
  cases sc with
  | some n => cases h; exact ⟨rfl, n, rfl, Or.inl ⟨rfl, rfl⟩⟩
  | none =>
    cases hfb : p.fb with
    | none => rw [hfb] at h; cases h
    | some fb =>
      rw [hfb] at h
      dsimp only at h
      by_cases h1 : fb.typ ≠ typSegment
      · rw [if_pos h1] at h; cases h
      · rw [if_neg h1] at h
        by_cases h2 : numberVal fb + 1 > maxObjectSeg
        · rw [if_pos h2] at h; cases h
        · rw [if_neg h2] at h
          cases h
          exact ⟨rfl, numberVal fb + 1, rfl, Or.inr ⟨rfl, Nat.succ_pos _, Nat.le_of_not_lt h2, rfl⟩⟩

theorem storeSeg_other (g : Fetch) (n k : Nat) (c : Bytes) (h : g.wnd1 ≠ k) :
    storeSeg g n k c = ({ g with content := g.content.set k (some c) }, []) := by
  unfold storeSeg
  exact if_neg h

theorem storeSeg_next (g : Fetch) (n k : Nat) (c : Bytes) (h : g.wnd1 = k) :
    storeSeg g n k c =
      ({ g with
          content := g.content.set k (some c)
          wnd1 := advance (g.content.set k (some c)) n (n + 1) k
          wnd0 := advance (g.content.set k (some c)) n (n + 1) k
          complete := decide (advance (g.content.set k (some c)) n (n + 1) k = n) },
       [⟨joinRange (g.content.set k (some c)) g.wnd0 (advance (g.content.set k (some c)) n (n + 1) k),
         decide (advance (g.content.set k (some c)) n (n + 1) k = n), g.err⟩]) := by
  subst h
  simp only [storeSeg, Fetch.callback, if_true]

theorem handleData_cases {P : Fetch × List CbRec → Prop} (f : Fetch) (a : Arrival) (hc : f.complete = false)
    (fail : ∀ g : Fetch, g.complete = false → g.wnd2 = f.wnd2 → g.panic = f.panic → P g.finalizeError)
    (panic : ∀ g : Fetch, g.wnd2 = f.wnd2 → P ({ g with panic := true, complete := true }, []))
    (store : ∀ (p : Pkt) (g : Fetch) (sc : Component), a = .data p → initSeg f p = some g →
      g.complete = false → g.wnd2 = f.wnd2 → g.panic = f.panic →
      p.name.getLast? = some sc → numberVal sc < g.segCnt.getD 0 →
      P (storeSeg g (g.segCnt.getD 0) (numberVal sc) p.content)) :
    P (f.handleData a) := by
  cases a with
  | timeout => rw [handleData_timeout f hc]; exact fail f hc rfl rfl
  | data p =>
    rw [handleData_data f p hc]
    cases hi : initSeg f p with
    | none => exact fail f hc rfl rfl
    | some g =>
      have hg := (initSeg_some hi).1
      have hgc : g.complete = false := by rw [hg]; exact hc
      have hgw : g.wnd2 = f.wnd2 := by rw [hg]
      have hgp : g.panic = f.panic := by rw [hg]
      dsimp only
      unfold handleSeg
      cases hl : p.name.getLast? with
      | none => exact panic g hgw
      | some sc =>
        dsimp only
        by_cases h1 : sc.typ ≠ typSegment
        · rw [if_pos h1]; exact fail g hgc hgw hgp
        · rw [if_neg h1]
          by_cases h2 : numberVal sc ≥ g.segCnt.getD 0
          · rw [if_pos h2]; exact fail g hgc hgw hgp
          · rw [if_neg h2]
            cases p.content.isEmpty with
            | true => exact fail _ hgc hgw hgp
            | false => exact store p g sc rfl hi hgc hgw hgp hl (Nat.lt_of_not_le h2)

theorem finalizeError_wnd2 (f : Fetch) (w : Nat) :
    ({ f with wnd2 := w } : Fetch).finalizeError = ({ f.finalizeError.1 with wnd2 := w }, f.finalizeError.2) := by
  obtain ⟨sc, ct, w0, w1, w2, cp, er, pn⟩ := f
  cases cp <;> rfl

theorem initSeg_wnd2 (f : Fetch) (w : Nat) (p : Pkt) :
    initSeg { f with wnd2 := w } p = (initSeg f p).map fun g => { g with wnd2 := w } := by
  obtain ⟨sc, ct, w0, w1, w2, cp, er, pn⟩ := f
  unfold initSeg
  cases sc with
  | some n => rfl
  | none =>
    cases p.fb with
    | none => rfl
    | some fb =>
      dsimp only
      by_cases h1 : fb.typ ≠ typSegment
      · rw [if_pos h1, if_pos h1]; rfl
      · rw [if_neg h1, if_neg h1]
        by_cases h2 : numberVal fb + 1 > maxObjectSeg
        · rw [if_pos h2, if_pos h2]; rfl
        · rw [if_neg h2, if_neg h2]; rfl

theorem storeSeg_wnd2 (g : Fetch) (w n k : Nat) (c : Bytes) :
    storeSeg { g with wnd2 := w } n k c = ({ (storeSeg g n k c).1 with wnd2 := w }, (storeSeg g n k c).2) := by
  unfold storeSeg
  dsimp only
  split <;> rfl

theorem handleSeg_wnd2 (g : Fetch) (w : Nat) (p : Pkt) :
    handleSeg { g with wnd2 := w } p = ({ (handleSeg g p).1 with wnd2 := w }, (handleSeg g p).2) := by
  unfold handleSeg
  cases p.name.getLast? with
  | none => rfl
  | some sc =>
    dsimp only
    by_cases h1 : sc.typ ≠ typSegment
    · rw [if_pos h1, if_pos h1]; exact finalizeError_wnd2 g w
    · rw [if_neg h1, if_neg h1]
      by_cases h2 : numberVal sc ≥ g.segCnt.getD 0
      · rw [if_pos h2, if_pos h2]; exact finalizeError_wnd2 g w
      · rw [if_neg h2, if_neg h2]
        cases p.content.isEmpty with
        | true => exact finalizeError_wnd2 { g with content := g.content.set (numberVal sc) (some p.content) } w
        | false => exact storeSeg_wnd2 g w _ _ _

theorem handleData_wnd2 (f : Fetch) (w : Nat) (x : Arrival) :
    ({ f with wnd2 := w } : Fetch).handleData x = ({ (f.handleData x).1 with wnd2 := w }, (f.handleData x).2) := by
  rw [handleData_eq, handleData_eq]
  dsimp only
  split
  · rfl
  · cases x with
    | timeout => exact finalizeError_wnd2 f w
    | data p =>
      dsimp only
      rw [initSeg_wnd2]
      cases initSeg f p with
      | none => exact finalizeError_wnd2 f w
      | some g => exact handleSeg_wnd2 g w p

theorem runFetch_append (f : Fetch) (a b : List Arrival) :
    runFetch f (a ++ b) = ((runFetch (runFetch f a).1 b).1, (runFetch f a).2 ++ (runFetch (runFetch f a).1 b).2) := by
  induction a generalizing f with
  | nil => rfl
  | cons x xs ih => simp only [List.cons_append, runFetch, ih, List.append_assoc]

theorem runFetch_complete (f : Fetch) (hc : f.complete = true) : ∀ arr : List Arrival, runFetch f arr = (f, []) := by
  intro arr
  induction arr with
  | nil => rfl
  | cons a as ih => simp only [runFetch, handleData_complete _ _ hc, ih, List.append_nil]

theorem handleData_cb (f : Fetch) (a : Arrival) (hc : f.complete = false) (hp : f.panic = false) :
    nComplete (f.handleData a).2 = (if (f.handleData a).1.complete && !(f.handleData a).1.panic then 1 else 0) ∧
    ((f.handleData a).1.panic = true → (f.handleData a).1.complete = true) := by
  refine handleData_cases (P := fun r => nComplete r.2 = (if r.1.complete && !r.1.panic then 1 else 0) ∧
    (r.1.panic = true → r.1.complete = true)) f a hc (fun g hgc _ hgp => ?_) (fun g _ => ⟨rfl, fun _ => rfl⟩)
    (fun p g sc _ _ hgc _ hgp' _ _ => ?_)
  · rw [(finalizeError_cb g hgc).1, (finalizeError_cb g hgc).2, (finalizeError_complete g).1, hgp, hp]
    exact ⟨rfl, fun h => by cases h⟩
  · have hgp : g.panic = false := hgp'.trans hp
    by_cases hw : g.wnd1 = numberVal sc
    · rw [storeSeg_next _ _ _ _ hw]
      simp only [nComplete, hgp, List.filter_cons, List.filter_nil, Bool.not_false, Bool.and_true]
      exact ⟨by split <;> rfl, fun h => by cases h⟩
    · rw [storeSeg_other _ _ _ _ hw]
      simp only [hgc, hgp]
      exact ⟨rfl, fun h => by cases h⟩

theorem runFetch_once : ∀ (arr : List Arrival) (f : Fetch), f.complete = false → f.panic = false →
    nComplete (runFetch f arr).2 ≤ 1 ∧
    ((runFetch f arr).1.complete = true → (runFetch f arr).1.panic = false → nComplete (runFetch f arr).2 = 1) ∧
    ((runFetch f arr).1.complete = false → nComplete (runFetch f arr).2 = 0) := by
  intro arr
  induction arr with
  | nil => intro f hc _; simp [runFetch, nComplete, hc]
  | cons a as ih =>
    intro f hc hp
    obtain ⟨h1, h2⟩ := handleData_cb f a hc hp
    simp only [runFetch]
    by_cases hc' : (f.handleData a).1.complete = true
    · rw [runFetch_complete _ hc']
      simp only [List.append_nil]
      rw [h1, hc']
      cases hpp : (f.handleData a).1.panic <;> simp
    · have hcf : (f.handleData a).1.complete = false := Bool.eq_false_iff.mpr hc'
      have hpf : (f.handleData a).1.panic = false := by
        cases hpp : (f.handleData a).1.panic with
        | false => rfl
        | true => exact absurd (h2 hpp) hc'
      obtain ⟨i1, i2, i3⟩ := ih (f.handleData a).1 hcf hpf
      rw [nComplete_append, h1, hcf]
      simp only [Bool.false_and, Bool.false_eq_true, if_false, Nat.zero_add]
      exact ⟨i1, i2, i3⟩

def Filled (segs : List Bytes) (S : List Nat) (content : List (Option Bytes)) : Prop :=
  content.length = segs.length ∧
  ∀ i, i < segs.length → content.getD i none = if i ∈ S then some (segs.getD i []) else none

theorem filled_set (segs : List Bytes) (S : List Nat) (content : List (Option Bytes)) (k : Nat)
    (h : Filled segs S content) (hk : k < segs.length) :
    Filled segs (k :: S) (content.set k (some (segs.getD k []))) := by
  refine ⟨by rw [List.length_set]; exact h.1, fun i hi => ?_⟩
  have := h.2 i hi
  simp only [List.getD_eq_getElem?_getD] at this
  simp only [List.getD_eq_getElem?_getD, List.getElem?_set, List.mem_cons]
  by_cases hik : k = i
  · subst hik
    simp [h.1, hk]
  · have hik' : ¬ i = k := fun e => hik e.symm
    simp only [hik, if_false, this, hik', false_or]

theorem joinRange_filled (segs : List Bytes) (S : List Nat) (content : List (Option Bytes)) (a b : Nat)
    (h : Filled segs S content) (hb : b ≤ segs.length) (hall : ∀ i, a ≤ i → i < b → i ∈ S) :
    joinRange content a b = ((segs.take b).drop a).flatten := by
  have key : (content.take b).drop a = ((segs.take b).drop a).map some := by
    apply List.ext_getElem?
    intro j
    rw [List.getElem?_drop, List.getElem?_take, List.getElem?_map, List.getElem?_drop, List.getElem?_take]
    by_cases hj : a + j < b
    · have hlen : a + j < segs.length := Nat.lt_of_lt_of_le hj hb
      have hc := h.2 (a + j) hlen
      rw [if_pos (hall _ (Nat.le_add_right a j) hj), List.getD_eq_getElem?_getD, List.getD_eq_getElem?_getD,
        List.getElem?_eq_getElem hlen, List.getElem?_eq_getElem (h.1 ▸ hlen)] at hc
      rw [if_pos hj, if_pos hj, List.getElem?_eq_getElem hlen, List.getElem?_eq_getElem (h.1 ▸ hlen)]
      exact congrArg some hc
    · rw [if_neg hj, if_neg hj]; rfl
  unfold joinRange
  rw [key, List.flatMap_def, List.map_map]
  exact congrArg List.flatten (List.map_id _)

theorem take_flatten_extend (segs : List Bytes) (w w1 : Nat) (h : w ≤ w1) :
    (segs.take w).flatten ++ ((segs.take w1).drop w).flatten = (segs.take w1).flatten := by
  rw [← List.flatten_append, List.drop_take, ← List.take_add, Nat.add_sub_cancel' h]

theorem handleData_segPkt (base : Name) (segs : List Bytes) (f : Fetch) (k : Nat) (hc : f.complete = false)
    (hs : f.segCnt = some segs.length) (hk : k < segs.length) (hne : segs.getD k [] ≠ []) (hn : segs.length < 2 ^ 64) :
    f.handleData (.data (segPkt base segs k)) = storeSeg f segs.length k (segs.getD k []) := by
  have hlast : (base ++ [segComp k]).getLast? = some (segComp k) := by simp
  have hnum : numberVal (segComp k) = k := numberVal_segComp k (Nat.lt_trans hk hn)
  have hemp : (segs.getD k []).isEmpty = false := by
    cases hsk : segs.getD k [] with
    | nil => exact absurd hsk hne
    | cons _ _ => rfl
  rw [handleData_data f _ hc, initSeg_of_segCnt hs]
  unfold handleSeg
  simp only [segPkt, hlast, hs, Option.getD_some, hnum]
  rw [if_neg (fun h => h rfl), if_neg (Nat.not_le.mpr hk), hemp]
  rfl

/-- fetching `segs`: the segments with indices `S` have arrived, the callback has been given `cbs` -/
structure FInv (segs : List Bytes) (S : List Nat) (f : Fetch) (cbs : List CbRec) : Prop where
  segCnt : f.segCnt = some segs.length
  filled : Filled segs S f.content
  wnd0 : f.wnd0 = f.wnd1
  below : ∀ i, i < f.wnd1 → i ∈ S
  le : f.wnd1 ≤ segs.length
  notin : f.wnd1 < segs.length → f.wnd1 ∉ S
  complete : f.complete = decide (f.wnd1 = segs.length)
  noerr : f.err = false
  nopanic : f.panic = false
  chunks : (cbs.map (·.chunk)).flatten = (segs.take f.wnd1).flatten
  cberr : ∀ c ∈ cbs, c.err = false
  ncomplete : (cbs.filter (·.complete)).length = if f.wnd1 = segs.length then 1 else 0
  lastc : f.wnd1 = segs.length → ∃ c, cbs.getLast? = some c ∧ c.complete = true

theorem finv_step (base : Name) (segs : List Bytes) (S : List Nat) (f : Fetch) (cbs : List CbRec) (k : Nat)
    (h : FInv segs S f cbs) (hkS : k ∉ S) (hk : k < segs.length) (hne : segs.getD k [] ≠ [])
    (hn : segs.length < 2 ^ 64) :
    FInv segs (k :: S) (f.handleData (.data (segPkt base segs k))).1
      (cbs ++ (f.handleData (.data (segPkt base segs k))).2) := by
  have hwk : f.wnd1 ≤ k := Nat.le_of_not_lt fun hlt => hkS (h.below k hlt)
  have hopen : f.wnd1 ≠ segs.length := Nat.ne_of_lt (Nat.lt_of_le_of_lt hwk hk)
  have hcompl : f.complete = false := by rw [h.complete]; exact decide_eq_false hopen
  have hfilled := filled_set segs S f.content k h.filled hk
  rw [handleData_segPkt base segs f k hcompl h.segCnt hk hne hn]
  by_cases hw : f.wnd1 = k
  · rw [storeSeg_next _ _ _ _ hw]
    obtain ⟨a1, a2, a3, a4⟩ :=
      advance_spec (f.content.set k (some (segs.getD k []))) segs.length (segs.length + 1) k (Nat.le_of_lt hk)
        (Nat.lt_succ_of_le (Nat.sub_le _ _))
    generalize advance (f.content.set k (some (segs.getD k []))) segs.length (segs.length + 1) k = w1 at a1 a2 a3 a4 ⊢
    have hin : ∀ i, k ≤ i → i < w1 → i ∈ k :: S := by
      intro i hi1 hi2
      have := a3 i hi1 hi2
      rw [hfilled.2 i (Nat.lt_of_lt_of_le hi2 a2)] at this
      by_cases hmem : i ∈ k :: S
      · exact hmem
      · rw [if_neg hmem] at this; cases this
    have hk1 : k < w1 := by
      -- position k itself is filled, so the window moves past it
      apply Nat.lt_of_le_of_ne a1
      intro e
      have := a4 (e ▸ hk)
      rw [← e, hfilled.2 k hk, if_pos List.mem_cons_self] at this
      cases this
    refine ⟨h.segCnt, hfilled, rfl, fun i hi => ?_, a2, fun hlt hmem => ?_, rfl, h.noerr, h.nopanic, ?_, ?_, ?_, ?_⟩
    · by_cases hik : i < k
      · exact List.mem_cons_of_mem _ (h.below i (hw ▸ hik))
      · exact hin i (Nat.le_of_not_lt hik) hi
    · have := a4 hlt
      rw [hfilled.2 w1 hlt, if_pos hmem] at this
      cases this
    · simp only [List.map_append, List.flatten_append, List.map_cons, List.map_nil, List.flatten_cons, List.flatten_nil,
        List.append_nil, h.chunks, h.wnd0, hw]
      rw [joinRange_filled segs (k :: S) _ k w1 hfilled a2 hin]
      exact take_flatten_extend segs k w1 (Nat.le_of_lt hk1)
    · intro c hc
      rcases List.mem_append.mp hc with hc | hc
      · exact h.cberr c hc
      · rw [List.mem_singleton.mp hc]; exact h.noerr
    · have h0 : (cbs.filter (·.complete)).length = 0 := by
        rw [h.ncomplete, if_neg hopen]
      rw [List.filter_append, List.length_append, h0, Nat.zero_add]
      by_cases hc : w1 = segs.length <;> simp [List.filter, hc]
    · intro hc
      exact ⟨_, List.getLast?_concat, decide_eq_true hc⟩
  · rw [storeSeg_other _ _ _ _ hw, List.append_nil]
    refine ⟨h.segCnt, hfilled, h.wnd0, fun i hi => List.mem_cons_of_mem _ (h.below i hi), h.le, fun hl hmem => ?_,
      h.complete, h.noerr, h.nopanic, h.chunks, h.cberr, h.ncomplete, h.lastc⟩
    rcases List.mem_cons.mp hmem with hmem | hmem
    · exact hw hmem
    · exact h.notin hl hmem

/-- the state after the first Data has set `segCnt` and sized the buffer -/
def fetchInit (n : Nat) : Fetch := { segCnt := some n, content := List.replicate n none }

theorem handleData_first (base : Name) (segs : List Bytes) (k : Nat) (h1 : 1 ≤ segs.length)
    (hmax : segs.length ≤ maxObjectSeg) :
    ({} : Fetch).handleData (.data (segPkt base segs k)) = (fetchInit segs.length).handleData (.data (segPkt base segs k)) := by
  have hnum : numberVal (segComp (segs.length - 1)) = segs.length - 1 :=
    numberVal_segComp _ (Nat.lt_of_le_of_lt (Nat.le_trans (Nat.sub_le _ _) hmax) maxObjectSeg_lt)
  have hi : initSeg {} (segPkt base segs k) = some (fetchInit segs.length) := by
    unfold initSeg fetchInit
    simp only [segPkt, hnum, Nat.sub_add_cancel h1]
    rw [if_neg (fun h => h rfl), if_neg (Nat.not_lt.mpr hmax)]
  rw [handleData_data _ _ rfl, handleData_data _ _ rfl, hi, initSeg_of_segCnt (n := segs.length) rfl]

theorem finv_init (segs : List Bytes) (h1 : 1 ≤ segs.length) : FInv segs [] (fetchInit segs.length) [] := by
  have h0 : ¬ 0 = segs.length := Nat.ne_of_lt h1
  refine ⟨rfl, ⟨List.length_replicate, fun i hi => ?_⟩, rfl, fun i hi => absurd hi (Nat.not_lt_zero i), Nat.zero_le _,
    fun _ h => List.not_mem_nil h, (decide_eq_false h0).symm, rfl, rfl, rfl, fun c hc => absurd hc List.not_mem_nil,
    (if_neg h0).symm, fun h => absurd h h0⟩
  simp [fetchInit, List.getD_eq_getElem?_getD, hi]

theorem finv_run (base : Name) (segs : List Bytes) (hn : segs.length < 2 ^ 64)
    (hseg : ∀ i, i < segs.length → segs.getD i [] ≠ []) :
    ∀ (order : List Nat) (S : List Nat) (f : Fetch) (cbs : List CbRec), FInv segs S f cbs → order.Nodup →
      (∀ i ∈ order, i ∉ S ∧ i < segs.length) →
      FInv segs (order.reverse ++ S) (runFetch f (order.map fun i => Arrival.data (segPkt base segs i))).1
        (cbs ++ (runFetch f (order.map fun i => Arrival.data (segPkt base segs i))).2) := by
  intro order
  induction order with
  | nil => intro S f cbs h _ _; simpa [runFetch] using h
  | cons k rest ih =>
    intro S f cbs h hnd hmem
    have hk := hmem k (List.mem_cons_self ..)
    have hstep := finv_step base segs S f cbs k h hk.1 hk.2 (hseg k hk.2) hn
    have hnd' := (List.nodup_cons.mp hnd)
    have := ih (k :: S) _ _ hstep hnd'.2 (by
      intro i hi
      have := hmem i (List.mem_cons_of_mem _ hi)
      refine ⟨?_, this.2⟩
      intro hc
      rcases List.mem_cons.mp hc with hc | hc
      · subst hc; exact hnd'.1 hi
      · exact this.1 hc)
    simpa [runFetch, List.reverse_cons, List.append_assoc] using this

namespace FInv

theorem done {segs : List Bytes} {S : List Nat} {f : Fetch} {cbs : List CbRec} (h : FInv segs S f cbs)
    (hall : ∀ i, i < segs.length → i ∈ S) : f.wnd1 = segs.length :=
  Nat.le_antisymm h.le (Nat.le_of_not_lt fun hlt => h.notin hlt (hall _ hlt))

end FInv

/-- a fetch from the initial state: the first Data sets `segCnt` and sizes the buffer, then `finv_run`.  Any
    duplicate-free list of segment numbers, not only a complete one -/
theorem finv_run_first (base : Name) (segs : List Bytes) (hmax : segs.length ≤ maxObjectSeg)
    (hseg : ∀ i, i < segs.length → segs.getD i [] ≠ []) (order : List Nat) (hne : order ≠ []) (hnd : order.Nodup)
    (hlt : ∀ i ∈ order, i < segs.length) :
    FInv segs order.reverse (runFetch {} (order.map fun i => Arrival.data (segPkt base segs i))).1
      (runFetch {} (order.map fun i => Arrival.data (segPkt base segs i))).2 := by
  cases order with
  | nil => exact absurd rfl hne
  | cons k rest =>
    have h1 : 1 ≤ segs.length := Nat.lt_of_le_of_lt (Nat.zero_le k) (hlt k List.mem_cons_self)
    have h := finv_run base segs (Nat.lt_of_le_of_lt hmax maxObjectSeg_lt) hseg (k :: rest) [] _ [] (finv_init segs h1) hnd
      (fun i hi => ⟨List.not_mem_nil, hlt i hi⟩)
    rw [List.append_nil, List.nil_append] at h
    simp only [List.map_cons, runFetch] at h ⊢
    rw [handleData_first base segs k h1 hmax]
    exact h

end Ndn.C15
