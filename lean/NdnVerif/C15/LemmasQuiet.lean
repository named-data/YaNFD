/-
  C15 — liveness of the multi-stream fetcher at quiescence: bookkeeping invariants that tie the
  fetch window (`wnd1`, `wnd2`, `content`) to the Interests that are out (`pending`,
  `outstanding`), used to show that when no Interest is pending any more every Consume has
  completed (no stream starves behind another one).
-/
import NdnVerif.C15.LemmasPick
import NdnVerif.Base.Code
namespace Ndn.C15

/-- per-stream bookkeeping.  `live` ties the window to the Interests that are out: every slot below `wnd2` is
    still asked for or filled, and the slot the window stands at is not filled.  `small` is there for
    `numberVal_segComp`: a requested segment number survives `segComp` / `numberVal` (`KCons.handleData`). -/
structure KCons (x : Cons) : Prop where
  nodup : (keys x).Nodup
  lt : ∀ k ∈ keys x, k < x.f.wnd2
  small : x.f.wnd2 ≤ maxObjectSeg
  live : x.f.complete = false →
    match x.f.segCnt with
    | none => x.f.wnd1 = 0 ∧ x.f.wnd2 ≤ 1 ∧ ∀ k : Nat, k < x.f.wnd2 → k ∈ keys x
    | some n => 0 < n ∧ n ≤ maxObjectSeg ∧ x.f.content.length = n ∧ x.f.wnd1 < n ∧
        (x.f.content.getD x.f.wnd1 none).isSome = false ∧ x.f.wnd2 ≤ n ∧
        ∀ k : Nat, k < x.f.wnd2 → k ∈ keys x ∨ (x.f.content.getD k none).isSome = true

/-- the `some n` clause of `KCons.live`, for keys `ks` and window end `W` -/
def LiveAt (ks : List Nat) (W n : Nat) (f : Fetch) : Prop :=
  0 < n ∧ n ≤ maxObjectSeg ∧ f.content.length = n ∧ f.wnd1 < n ∧
    (f.content.getD f.wnd1 none).isSome = false ∧ W ≤ n ∧
    ∀ k : Nat, k < W → k ∈ ks ∨ (f.content.getD k none).isSome = true

theorem keys_filter (x : Cons) (k : Nat) (f : Fetch) :
    keys { x with f := f, pending := x.pending.filter (fun e => decide (e.1 ≠ k)) } =
      (keys x).filter (fun j => decide (j ≠ k)) := by
  unfold keys
  rw [List.filter_map]
  rfl

theorem getD_set_ne {α : Type} (l : List α) (i j : Nat) (a d : α) (h : i ≠ j) : (l.set i a).getD j d = l.getD j d := by
  rw [List.getD_eq_getElem?_getD, List.getElem?_set_ne h, List.getD_eq_getElem?_getD]

theorem getD_set_eq {α : Type} (l : List α) (i : Nat) (a d : α) (h : i < l.length) : (l.set i a).getD i d = a := by
  rw [List.getD_eq_getElem?_getD, List.getElem?_set_self h]; rfl

theorem storeSeg_live {ks : List Nat} {W n k : Nat} {g : Fetch} {c : Bytes} (hkn : k < n) (L : LiveAt ks W n g)
    (hc : (storeSeg g n k c).1.complete = false) :
    LiveAt (ks.filter (fun j => decide (j ≠ k))) W n (storeSeg g n k c).1 := by
  obtain ⟨p1, p2, p3, p4, p5, p6, p7⟩ := L
  have hlen : (g.content.set k (some c)).length = n := by rw [List.length_set]; exact p3
  have hcov : ∀ j : Nat, j < W → j ∈ ks.filter (fun j => decide (j ≠ k)) ∨
      ((g.content.set k (some c)).getD j none).isSome = true := by
    intro j hj
    by_cases hjk : j = k
    · right; rw [hjk, getD_set_eq _ _ _ _ (p3 ▸ hkn)]; rfl
    · rcases p7 j hj with h | h
      · exact Or.inl (List.mem_filter.mpr ⟨h, decide_eq_true hjk⟩)
      · right; rw [getD_set_ne _ _ _ _ _ (fun e => hjk e.symm)]; exact h
  by_cases hw : g.wnd1 = k
  · rw [storeSeg_next _ _ _ _ hw] at hc ⊢
    -- the window has moved to the first slot that is still empty
    obtain ⟨_, a2, _, a4⟩ := advance_spec (g.content.set k (some c)) n (n + 1) k (Nat.le_of_lt hkn)
      (Nat.lt_succ_of_le (Nat.sub_le n k))
    have hlt : advance (g.content.set k (some c)) n (n + 1) k < n := Nat.lt_of_le_of_ne a2 (of_decide_eq_false hc)
    exact ⟨p1, p2, hlen, hlt, a4 hlt, p6, hcov⟩
  · rw [storeSeg_other _ _ _ _ hw]
    exact ⟨p1, p2, hlen, p4, by rw [getD_set_ne _ _ _ _ _ (fun e => hw e.symm)]; exact p5, p6, hcov⟩

theorem storeSeg_frame (g : Fetch) (n k : Nat) (c : Bytes) :
    (storeSeg g n k c).1.wnd2 = g.wnd2 ∧ (storeSeg g n k c).1.segCnt = g.segCnt := by
  unfold storeSeg
  dsimp only
  split <;> exact ⟨rfl, rfl⟩

theorem eligible_room {f : Fetch} (he : eligible f = true) :
    f.complete = false ∧ match f.segCnt with
      | none => f.wnd2 = 0
      | some n => 0 < n → f.wnd2 < n := by
  simp only [eligible, Bool.and_eq_true, Bool.not_eq_true'] at he
  obtain ⟨⟨hc, h2⟩, h3⟩ := he
  refine ⟨hc, ?_⟩
  cases hs : f.segCnt with
  | none =>
    simp only [skipWait, hs, Option.isNone_none, Bool.true_and, decide_eq_false_iff_not] at h2
    exact Nat.eq_zero_of_not_pos h2
  | some n =>
    simp only [skipOut, hs, Bool.and_eq_false_iff, decide_eq_false_iff_not] at h3
    exact fun hn => Nat.lt_of_not_le (h3.resolve_left (not_not_intro hn))

theorem cover_succ {ks : List Nat} {W : Nat} {Q : Nat → Prop} (h : ∀ k, k < W → k ∈ ks ∨ Q k) :
    ∀ k, k < W + 1 → k ∈ ks ++ [W] ∨ Q k := by
  intro k hk
  rcases Nat.lt_succ_iff_lt_or_eq.mp hk with h1 | h1
  · exact (h k h1).imp_left (List.mem_append_left _)
  · exact Or.inl (h1 ▸ List.mem_append_right _ List.mem_cons_self)

namespace KCons

theorem default : KCons (default : Cons) :=
  ⟨List.nodup_nil, (fun _ h => nomatch h), Nat.zero_le _, fun _ => ⟨rfl, Nat.zero_le 1, (fun _ h => nomatch h)⟩⟩

theorem waiting_pending {x : Cons} (K : KCons x) (hw : waiting x.f = true) : x.pending ≠ [] := by
  intro he
  have hk : keys x = [] := by rw [keys, he]; rfl
  simp only [waiting, Bool.and_eq_true, Bool.not_eq_true', Bool.or_eq_true] at hw
  obtain ⟨hc, hw⟩ := hw
  have L := K.live hc
  cases hs : x.f.segCnt with
  | none =>
    rw [hs] at L
    rcases hw with hw | hw
    · -- waiting for the first segment: Interest 0 is out
      simp only [skipWait, Bool.and_eq_true, decide_eq_true_eq] at hw
      have := L.2.2 0 hw.2
      rw [hk] at this; cases this
    · simp [skipOut, hs] at hw
  | some n =>
    rw [hs] at L
    rcases hw with hw | hw
    · simp [skipWait, hs] at hw
    · -- all Interests are out, and the one for the slot the window stands at has not been answered
      simp only [skipOut, hs, Bool.and_eq_true, decide_eq_true_eq] at hw
      obtain ⟨_, _, _, h4, h5, _, h7⟩ := L
      rcases h7 x.f.wnd1 (Nat.lt_of_lt_of_le h4 hw.2) with h | h
      · rw [hk] at h; cases h
      · rw [h5] at h; cases h

theorem idle_eligible {x : Cons} (K : KCons x) (hc : x.f.complete = false) (hp : x.pending = []) :
    eligible x.f = true := by
  by_cases hw : waiting x.f = true
  · exact absurd hp (K.waiting_pending hw)
  · simp only [waiting, hc, Bool.not_false, Bool.true_and, Bool.or_eq_true, not_or, Bool.not_eq_true] at hw
    simp [eligible, hc, hw.1, hw.2]

theorem initSeg_live {x : Cons} (K : KCons x) (hc : x.f.complete = false) {p : Pkt} {g : Fetch}
    (hi : initSeg x.f p = some g) : ∃ n, g.segCnt = some n ∧ LiveAt (keys x) x.f.wnd2 n g := by
  have L := K.live hc
  obtain ⟨hg, n, hn, ⟨h0, h1⟩ | ⟨h0, h1, h2, h3⟩⟩ := initSeg_some hi <;> rw [h0] at L
  · exact ⟨n, hn, h1 ▸ L⟩
  ·
    obtain ⟨l1, l2, l3⟩ := L
    have hw1 : g.wnd1 = 0 := by rw [hg]; exact l1
    refine ⟨n, hn, h1, h2, by rw [h3]; exact List.length_replicate, hw1 ▸ h1, ?_, Nat.le_trans l2 h1,
      fun k hk => Or.inl (l3 k hk)⟩
    rw [h3, hw1]
    cases n with
    | zero => exact absurd h1 (Nat.lt_irrefl 0)
    | succ m => rfl

/-- `ha` is where `hserve` enters (`step_books`): the Data that answers Interest `k` is named `…/seg=k`, so it fills
    the slot that `k ∈ keys x` accounted for -/
theorem handleData {x : Cons} (K : KCons x) (k : Nat) (a : Arrival) (hk : k ∈ keys x)
    (ha : ∀ p, a = .data p → p.name.getLast? = some (segComp k)) :
    KCons { x with f := (x.f.handleData a).1, pending := x.pending.filter (fun e => decide (e.1 ≠ k)) } := by
  -- `handleData` never writes `wnd2`, so only the last clause depends on what the result did
  have hrest : ∀ f : Fetch, f.wnd2 = x.f.wnd2 →
      (f.complete = false → match f.segCnt with
        | none => f.wnd1 = 0 ∧ f.wnd2 ≤ 1 ∧ ∀ j : Nat, j < f.wnd2 → j ∈ (keys x).filter (fun j => decide (j ≠ k))
        | some n => LiveAt ((keys x).filter (fun j => decide (j ≠ k))) f.wnd2 n f) →
      KCons { x with f := f, pending := x.pending.filter (fun e => decide (e.1 ≠ k)) } := by
    intro f hw hl
    refine ⟨?_, fun j hj => ?_, hw ▸ K.small, ?_⟩
    · rw [keys_filter]; exact K.nodup.sublist List.filter_sublist
    · rw [keys_filter] at hj
      exact hw ▸ K.lt j (List.mem_filter.mp hj).1
    · rw [keys_filter]; exact hl
  have hdone : ∀ f : Fetch, f.wnd2 = x.f.wnd2 → f.complete = true →
      KCons { x with f := f, pending := x.pending.filter (fun e => decide (e.1 ≠ k)) } :=
    fun f hw hc => hrest f hw (fun h => by rw [hc] at h; cases h)
  by_cases hc : x.f.complete = true
  · rw [handleData_complete _ _ hc]; exact hdone _ rfl hc
  have hcf : x.f.complete = false := Bool.eq_false_iff.mpr hc
  refine handleData_cases
    (P := fun r => KCons { x with f := r.1, pending := x.pending.filter (fun e => decide (e.1 ≠ k)) }) x.f a hcf
    (fun g _ hw _ => hdone _ ((finalizeError_complete g).2.trans hw) (finalizeError_complete g).1) (fun g hw => hdone _ hw rfl) ?_
  intro p g sc hap hi _ hgw _ hl hlt
  obtain ⟨n, hn, L⟩ := K.initSeg_live hcf hi
  have hsc : numberVal sc = k := by
    rw [ha p hap] at hl
    cases hl
    exact numberVal_segComp k (Nat.lt_trans (Nat.lt_of_lt_of_le (K.lt k hk) K.small) maxObjectSeg_lt)
  rw [hn, Option.getD_some, hsc] at hlt ⊢
  obtain ⟨s1, s2⟩ := storeSeg_frame g n k p.content
  refine hrest _ (s1.trans hgw) (fun hc' => ?_)
  rw [s2, hn, s1, hgw]
  exact storeSeg_live hlt L hc'

/-- one more Interest is out: stated for any fetch state that differs from `x.f` in `wnd2` (one more) only -/
theorem queue {x : Cons} (K : KCons x) (he : eligible x.f = true) (f : Fetch) (hs : f.segCnt = x.f.segCnt)
    (hw1 : f.wnd1 = x.f.wnd1) (hct : f.content = x.f.content) (hw2 : f.wnd2 = x.f.wnd2 + 1) :
    KCons { x with f := f, pending := x.pending ++ [(x.f.wnd2, retryBudget)] } := by
  obtain ⟨hc, hroom⟩ := eligible_room he
  have L := K.live hc
  have hkeys : keys { x with f := f, pending := x.pending ++ [(x.f.wnd2, retryBudget)] } = keys x ++ [x.f.wnd2] := by
    unfold keys; rw [List.map_append]; rfl
  have hsmall : x.f.wnd2 + 1 ≤ maxObjectSeg := by
    cases hsc : x.f.segCnt with
    | none => rw [hsc] at hroom; rw [hroom]; decide
    | some n => rw [hsc] at L hroom; exact Nat.le_trans (hroom L.1) L.2.1
  refine ⟨?_, fun k hk => ?_, hw2 ▸ hsmall, fun _ => ?_⟩
  · rw [hkeys]
    exact List.nodup_append.mpr ⟨K.nodup, List.pairwise_singleton _ _, fun a ha b hb hab =>
      Nat.lt_irrefl _ (List.mem_singleton.mp hb ▸ hab ▸ K.lt a ha)⟩
  · rw [hkeys] at hk
    show k < f.wnd2
    rw [hw2]
    exact (List.mem_append.mp hk).elim (fun h => Nat.lt_succ_of_lt (K.lt k h))
      (fun h => List.mem_singleton.mp h ▸ Nat.lt_succ_self _)
  · dsimp only
    rw [hkeys, hs, hw1, hct, hw2]
    cases hsc : x.f.segCnt with
    | none =>
      rw [hsc] at L hroom
      exact ⟨L.1, Nat.succ_le_succ (Nat.le_of_eq hroom), fun k hk =>
        (cover_succ (Q := fun _ => False) (fun k hk => Or.inl (L.2.2 k hk)) k hk).resolve_right id⟩
    | some n =>
      rw [hsc] at L hroom
      obtain ⟨l1, l2, l3, l4, l5, _, l7⟩ := L
      exact ⟨l1, l2, l3, l4, l5, hroom l1, cover_succ l7⟩

theorem congr {x y : Cons} (K : KCons x) (hf : y.f = x.f) (hp : keys y = keys x) : KCons y := by
  refine ⟨by rw [hp]; exact K.nodup, by rw [hp, hf]; exact K.lt, by rw [hf]; exact K.small, ?_⟩
  intro hc
  rw [hf] at hc ⊢
  rw [hp]
  exact K.live hc

theorem fail {x : Cons} (K : KCons x) : KCons { x with f := x.f.finalizeError.1 } := by
  have h1 := finalizeError_complete x.f
  refine ⟨K.nodup, fun k hk => ?_, ?_, fun hc => ?_⟩
  · show k < x.f.finalizeError.1.wnd2; rw [h1.2]; exact K.lt k hk
  · show x.f.finalizeError.1.wnd2 ≤ _; rw [h1.2]; exact K.small
  · have : x.f.finalizeError.1.complete = false := hc
    rw [h1.1] at this; cases this

end KCons

def totalPending (c : Client) : Nat := (c.cons.map fun x => x.pending.length).sum

theorem totalPending_setCons (c : Client) (o : Nat) (x : Cons) (h : o < c.cons.length) :
    totalPending (c.setCons o x) + (c.getCons o).pending.length = totalPending c + x.pending.length := by
  unfold totalPending Client.setCons
  rw [getCons_of_lt c o h]
  exact sum_map_set (fun x => x.pending.length) c.cons o x h

structure Bookkeeping (N : Nat) (c : Client) : Prop where
  len : c.cons.length = N
  k : ∀ o : Nat, KCons (c.getCons o)
  out : c.outstanding = totalPending c
  inrange : ∀ o ∈ c.streams, o < c.cons.length

/-- consume `o` is somewhere: queued in the fetcher, waiting for its metadata, or finished -/
def Placed (c : Client) (o : Nat) : Prop :=
  o ∈ c.streams ∨ (c.getCons o).metaPending = true ∨ (c.getCons o).f.complete = true

namespace Bookkeeping

theorem set {N : Nat} {c c' : Client} (I : Bookkeeping N c) {o : Nat} {x : Cons} (ho : o < c.cons.length)
    (hc : c'.cons = c.cons.set o x) (hK : KCons x)
    (hout : c'.outstanding + (c.getCons o).pending.length = c.outstanding + x.pending.length)
    (hs : ∀ s ∈ c'.streams, s ∈ c.streams) : Bookkeeping N c' := by
  have hget : ∀ o', c'.getCons o' = (c.setCons o x).getCons o' := fun o' => by
    simp only [Client.getCons, Client.setCons, hc]
  refine ⟨by rw [hc, List.length_set]; exact I.len, fun o' => ?_, ?_, fun s h => ?_⟩
  · rw [hget]
    rcases getCons_setCons_or c o o' x with ⟨_, e⟩ | e <;> rw [e]
    · exact hK
    · exact I.k o'
  · have e : totalPending c' = totalPending (c.setCons o x) := by unfold totalPending Client.setCons; rw [hc]
    rw [e]
    exact Nat.add_right_cancel (hout.trans (by rw [I.out]; exact (totalPending_setCons c o x ho).symm))
  · rw [hc, List.length_set]; exact I.inrange s (hs s h)

theorem setCons {N : Nat} {c : Client} (I : Bookkeeping N c) (o : Nat) (x : Cons) (hK : KCons x)
    (hp : x.pending.length = (c.getCons o).pending.length) : Bookkeeping N (c.setCons o x) := by
  by_cases h : o < c.cons.length
  · exact I.set h rfl hK (by show c.outstanding + _ = _; rw [hp]) (fun _ hs => hs)
  · rw [setCons_of_ge c o x h]; exact I

theorem fail {N : Nat} {c : Client} (I : Bookkeeping N c) (o : Nat) : Bookkeeping N (c.fail o).1 :=
  I.setCons o _ (I.k o).fail rfl

theorem queueSeg {N : Nat} {c : Client} (I : Bookkeeping N c) (s : Nat) (hs : s ∈ c.streams)
    (he : eligible (fOf c.cons s) = true) : Bookkeeping N (queueSeg c s) :=
  I.set (I.inrange s hs) rfl ((I.k s).queue he _ rfl rfl rfl rfl)
    (by show c.outstanding + 1 + _ = c.outstanding + (_ ++ [_]).length
        rw [List.length_append, List.length_singleton]; omega)
    (fun _ h => h)

end Bookkeeping

theorem setCons_placed {c : Client} {o : Nat} {x : Cons} (o' : Nat) (h : Placed c o')
    (hx : o' = o → ((c.getCons o).metaPending = true → x.metaPending = true) ∧
      ((c.getCons o).f.complete = true → x.f.complete = true)) : Placed (c.setCons o x) o' := by
  unfold Placed at h ⊢
  rcases getCons_setCons_or c o o' x with ⟨rfl, e⟩ | e <;> rw [e]
  · exact h.imp_right (Or.imp (hx rfl).1 (hx rfl).2)
  · exact h

theorem setCons_places {c : Client} {o : Nat} {x : Cons} (ho : o < c.cons.length)
    (hx : x.metaPending = true ∨ x.f.complete = true) (o' : Nat) (h : o' = o ∨ Placed c o') :
    Placed (c.setCons o x) o' := by
  by_cases he : o' = o
  · rw [he]; exact Or.inr (by rw [getCons_setCons_self c x ho]; exact hx)
  · exact setCons_placed o' (h.resolve_left he) (fun e => absurd e he)

theorem fail_placed (c : Client) (o o' : Nat) (ho : o < c.cons.length) (h : o' = o ∨ Placed c o') :
    Placed (c.fail o).1 o' :=
  setCons_places ho (Or.inr (finalizeError_complete _).1) o' h

theorem queueSeg_placed (c : Client) (s o : Nat) (h : Placed c o) : Placed (queueSeg c s) o :=
  setCons_placed (c := c) (o := s) o h (fun _ => ⟨id, id⟩)

theorem check_books {N : Nat} {c : Client} (I : Bookkeeping N c) (cbs : List (Nat × CbRec)) :
    Bookkeeping N (c.check cbs).1 ∧ ∀ o : Nat, Placed c o → Placed (c.check cbs).1 o := by
  refine doCheck_induct (P := fun c' => Bookkeeping N c' ∧ ∀ o : Nat, Placed c o → Placed c' o) ?_ ?_ (window + 1) c
    ⟨I, fun _ h => h⟩
  · -- the selection loop drops only finished streams
    intro c1 ⟨I1, pl⟩
    obtain ⟨p1, p2, _⟩ := pickOf_spec c1
    refine ⟨⟨I1.len, I1.k, I1.out, fun o ho => I1.inrange o (p1 o ho)⟩, fun o h => ?_⟩
    rcases pl o h with h | h | h
    · exact (p2 o h).elim Or.inl (fun h' => Or.inr (Or.inr h'))
    · exact Or.inr (Or.inl h)
    · exact Or.inr (Or.inr h)
  · intro c1 s ⟨I1, pl⟩ hsel
    obtain ⟨hs1, hs2⟩ := (pickOf_spec c1).2.2.1 s hsel
    exact ⟨I1.queueSeg s hs1 hs2, fun o h => queueSeg_placed _ s o (pl o h)⟩

theorem consumeObject_books {N : Nat} {c : Client} (I : Bookkeeping N c) (o : Nat) (ho : o < c.cons.length) (v : Bool) :
    Bookkeeping N (c.consumeObject o v).1 ∧
    ∀ o' : Nat, o' = o ∨ Placed c o' → Placed (c.consumeObject o v).1 o' := by
  refine consumeObject_cases
    (P := fun _ r => Bookkeeping N r.1 ∧ ∀ o' : Nat, o' = o ∨ Placed c o' → Placed r.1 o') c o v ?_ ?_ ?_
  · exact ⟨I.fail o, fun o' h => fail_placed c o o' ho h⟩
  · exact ⟨I.setCons o _ ((I.k o).congr rfl rfl) rfl, setCons_places ho (Or.inl rfl)⟩
  · have I1 : Bookkeeping N ({ c with streams := c.streams ++ [o] } : Client) := by
      refine ⟨I.len, I.k, I.out, fun o' ho' => ?_⟩
      rcases List.mem_append.mp ho' with h | h
      · exact I.inrange o' h
      · rw [List.mem_singleton.mp h]; exact ho
    obtain ⟨i1, i2⟩ := check_books I1 []
    refine ⟨i1, fun o' h => i2 o' ?_⟩
    rcases h with h | h | h
    · exact Or.inl (List.mem_append_right _ (h ▸ List.mem_cons_self))
    · exact Or.inl (List.mem_append_left _ h)
    · exact Or.inr h

theorem arrive_books {N : Nat} {c : Client} (I : Bookkeeping N c) (o k : Nat) (a : Arrival)
    (hk : k ∈ keys (c.getCons o)) (ha : ∀ p, a = .data p → p.name.getLast? = some (segComp k)) :
    Bookkeeping N (arrive c o k a) ∧ ∀ o' : Nat, Placed c o' → Placed (arrive c o k a) o' := by
  have ho : o < c.cons.length := lt_of_mem_keys hk
  have hK2 := (I.k o).handleData k a hk ha
  have hlen : ((c.getCons o).pending.filter (fun e => decide (e.1 ≠ k))).length + 1 = (c.getCons o).pending.length := by
    have h := length_filter_one (p := fun j => decide (j ≠ k)) (I.k o).nodup hk fun x _ => by
      rw [decide_eq_false_iff_not, Decidable.not_not]
    rw [← keys_filter (c.getCons o) k (c.getCons o).f] at h
    simpa [keys] using h
  refine ⟨I.set ho rfl hK2 ?_ (fun _ h => mem_arrive_streams h), fun o' h => ?_⟩
  · show c.outstanding - 1 + _ = c.outstanding + (List.filter _ _).length
    -- `outstanding ≥ 1`: it counts all Interests that are out, and `k` of consume `o` is one of them;
    -- the sum is split at `o` by rewriting its record to `default`, which has nothing pending
    have := I.out
    have : _ = totalPending c + 0 := totalPending_setCons c o default ho
    omega
  · unfold Placed
    rw [arrive_getCons]
    -- the new record keeps both flags (a finished fetch stays finished); a stream leaves the queue only finished
    refine Or.elim (setCons_placed o' h fun _ => ⟨?_, ?_⟩) (fun hs => ?_) Or.inr
    · exact id
    · exact fun hc => (congrArg (·.1.complete) (handleData_complete _ a hc)).trans hc
    · rcases arrive_streams c o k a with e | ⟨e, hcmp⟩ <;> rw [e]
      · exact Or.inl hs
      · by_cases he : o' = o
        · rw [he, getCons_setCons_self c _ ho]; exact Or.inr (Or.inr hcmp)
        · exact Or.inl (List.mem_filter.mpr ⟨hs, decide_eq_true he⟩)

theorem keys_map_retry (x : Cons) (k left : Nat) :
    keys { x with pending := x.pending.map fun e => if e.1 = k then (k, left - 1) else e } = keys x := by
  unfold keys
  rw [List.map_map]
  apply List.map_congr_left
  intro e _
  show (if e.1 = k then (k, left - 1) else e).1 = e.1
  split
  · rename_i h; exact h.symm
  · rfl

theorem step_books {N : Nat} {c : Client} (I : Bookkeeping N c) (serve : Name → Bool → Option Pkt)
    (hserve : ∀ (nm : Name) (p : Pkt), serve nm false = some p → p.name = nm) (e : Ev) :
    Bookkeeping N (c.step serve e).1 ∧ ∀ o' : Nat, Placed c o' → Placed (c.step serve e).1 o' := by
  -- the metadata step rewrites the record of `o` (flag cleared): `o` is in no place then, every other consume stays
  have hoff : ∀ o (x : Cons), (c.getCons o).metaPending = true → x.f = (c.getCons o).f →
      x.pending = (c.getCons o).pending →
      Bookkeeping N (c.setCons o x) ∧ o < (c.setCons o x).cons.length ∧
      ∀ o', Placed c o' → o' = o ∨ Placed (c.setCons o x) o' := by
    intro o x hmp hf hp
    refine ⟨I.setCons o x ((I.k o).congr hf (by rw [keys, keys, hp])) (by rw [hp]),
      by rw [length_setCons]; exact lt_of_metaPending hmp, fun o' h => ?_⟩
    by_cases he : o' = o
    · exact Or.inl he
    · exact Or.inr (setCons_placed o' h (fun e => absurd e he))
  refine step_cases (P := fun _ _ r => Bookkeeping N r.1 ∧ ∀ o' : Nat, Placed c o' → Placed r.1 o') serve c
    ⟨I, fun _ h => h⟩ (fun _ => ⟨⟨I.len, I.k, I.out, I.inrange⟩, fun _ h => h⟩) ?_ ?_ ?_ ?_ ?_ e
  · intro o hmp
    obtain ⟨I1, ho1, pl1⟩ := hoff o { (c.getCons o) with metaPending := false } hmp rfl rfl
    exact ⟨I1.fail o, fun o' h => fail_placed _ o o' ho1 (pl1 o' h)⟩
  · intro o n hmp
    obtain ⟨I1, ho1, pl1⟩ := hoff o { (c.getCons o) with metaPending := false, fetchName := n } hmp rfl rfl
    obtain ⟨i1, i2⟩ := consumeObject_books I1 o ho1 true
    exact ⟨i1, fun o' h => i2 o' (pl1 o' h)⟩
  · exact fun o _ => ⟨I.setCons o _ ((I.k o).congr rfl rfl) rfl, fun o' h => setCons_placed o' h (fun _ => ⟨id, id⟩)⟩
  · intro o k a hk hs
    rw [Client.handleData_eq]
    obtain ⟨I2, pl2⟩ := arrive_books I o k a hk
      (fun p hp => by rw [hserve _ p (hs p hp)]; exact List.getLast?_concat)
    obtain ⟨i1, i2⟩ := check_books I2 (((c.getCons o).f.handleData a).2.map fun cb => (o, cb))
    exact ⟨i1, fun o' h => i2 o' (pl2 o' h)⟩
  · exact fun o k left => ⟨I.setCons o _ ((I.k o).congr rfl (keys_map_retry _ k left)) (List.length_map _),
      fun o' h => setCons_placed o' h (fun _ => ⟨id, id⟩)⟩

theorem totalPending_zero {c : Client} (h : ∀ o, (c.getCons o).pending = []) : totalPending c = 0 := by
  refine List.sum_eq_zero_iff_forall_eq_nat.mpr fun n hn => ?_
  obtain ⟨x, hx, rfl⟩ := List.mem_map.mp hn
  obtain ⟨i, hi, rfl⟩ := List.getElem_of_mem hx
  rw [← getCons_of_lt c i hi, h i]; rfl

theorem start_books (names : List Name) :
    Bookkeeping names.length (Client.start names).1 ∧ ∀ o : Nat, o < names.length → Placed (Client.start names).1 o := by
  refine start_induct (P := fun n c => Bookkeeping names.length c ∧ ∀ o : Nat, o < n → Placed c o) names ⟨⟨?_, fun o => ?_, ?_,
    (fun o ho => by cases ho)⟩, fun o ho => absurd ho (Nat.not_lt_zero o)⟩ ?_
  · exact List.length_map _
  · rw [startClient_getCons]; exact KCons.default.congr rfl rfl
  · exact (totalPending_zero fun o => by rw [startClient_getCons]).symm
  · intro o c ho ⟨I, pl⟩
    obtain ⟨i1, i2⟩ := consumeObject_books I o (by rw [I.len]; exact ho) false
    refine ⟨i1, fun o' ho' => i2 o' ?_⟩
    by_cases he : o' = o
    · exact Or.inl he
    · exact Or.inr (pl o' (Nat.lt_of_le_of_ne (Nat.le_of_lt_succ ho') he))

theorem run_books (serve : Name → Bool → Option Pkt)
    (hserve : ∀ (nm : Name) (p : Pkt), serve nm false = some p → p.name = nm)
    (delivers : Nat → Key → Nat → Bool) (names : List Name) (evs : List Ev) :
    Bookkeeping names.length (Client.run serve delivers names evs).1 ∧
    ∀ o : Nat, o < names.length → Placed (Client.run serve delivers names evs).1 o :=
  run_induct (P := fun c => Bookkeeping names.length c ∧ ∀ o : Nat, o < names.length → Placed c o) serve delivers names evs
    (start_books names)
    (fun _ e ⟨I, pl⟩ => ⟨(step_books I serve hserve e).1, fun o ho => (step_books I serve hserve e).2 o (pl o ho)⟩)
    (fun _ ⟨I, pl⟩ => ⟨⟨I.len, I.k, I.out, I.inrange⟩, pl⟩)

namespace Bookkeeping

/-- after a completed `doCheck`, with room in the window and a stream queued: a queued unfinished stream has
    Interests out (`Served` says it waits; a waiting stream has an Interest out) -/
theorem served_pending {N : Nat} {c : Client} (I : Bookkeeping N c) (S : Served c) (hroom : c.outstanding < window)
    (hne : c.streams ≠ []) : ∃ x ∈ c.streams, (c.getCons x).f.complete = false ∧ (c.getCons x).pending ≠ [] := by
  rcases S with h | h | ⟨x, hx, hw⟩
  · exact absurd h (Nat.not_le.mpr hroom)
  · exact absurd h hne
  · rw [fOf_eq] at hw
    refine ⟨x, hx, ?_, (I.k x).waiting_pending hw⟩
    simp only [waiting, Bool.and_eq_true, Bool.not_eq_true'] at hw
    exact hw.1

theorem quiet_streams {N : Nat} {c : Client} (I : Bookkeeping N c) (S : Served c)
    (hq : ∀ o, (c.getCons o).pending = []) : c.streams = [] :=
  Decidable.byContradiction fun hne => by
    obtain ⟨x, _, _, hp⟩ := I.served_pending S (by rw [I.out, totalPending_zero hq]; decide) hne
    exact hp (hq x)

end Bookkeeping

end Ndn.C15
