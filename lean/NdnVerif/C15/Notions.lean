/-
  C15 — the notions the property theorems of Props.lean are stated in: segmentation guard, single-stream
  run, store histories and their abstract content, key well-formedness, the projection of a client run on
  one stream, what the selection loop looks at.  Definitions only.
-/
import NdnVerif.C15.Model
namespace Ndn.C15

/-- the last input buffer (if any) is not empty -/
def LastNonempty (bufs : List Bytes) : Prop := ∀ b, bufs.getLast? = some b → b ≠ []

/-- number of callback records that report completion -/
def nComplete (l : List CbRec) : Nat := (l.filter (·.complete)).length

/-- the single-stream machine: `handleData` on a sequence of results -/
def runFetch (f : Fetch) : List Arrival → Fetch × List CbRec
  | [] => (f, [])
  | a :: as =>
    let r := f.handleData a
    let r2 := runFetch r.1 as
    (r2.1, r.2 ++ r2.2)

/-- the Data packet Produce makes for segment `i` of an object with segments `segs` -/
def segPkt (base : Name) (segs : List Bytes) (i : Nat) : Pkt :=
  { name := base ++ [segComp i], fb := some (segComp (segs.length - 1)), content := segs.getD i [] }

/-- bolt keeps its keys in strictly increasing byte order -/
def BSorted (s : Bolt) : Prop := s.Pairwise fun a b => bytesLt a.key b.key = true

/-- component-wise prefix, decided with `DecidableEq Component` -/
def pfxOf : Name → Name → Bool
  | [], _ => true
  | _ :: _, [] => false
  | a :: as, b :: bs => decide (a = b) && pfxOf as bs

/-- one store operation; `tx` = Begin / Put* / Commit as `Produce` does -/
inductive SOp where
  | put (p : Put)
  | remove (name : Name) (pfx : Bool)
  | tx (puts : List Put)

abbrev Content := Name → Option (Nat × Pkt)

def Content.put (m : Content) (p : Put) : Content := fun n => if n = p.name then some (p.ver, p.pkt) else m n

def Content.remove (m : Content) (name : Name) (pfx : Bool) : Content :=
  fun n => if (if pfx then pfxOf name n else decide (n = name)) then none else m n

def Content.apply (m : Content) : SOp → Content
  | .put p => m.put p
  | .remove name pfx => m.remove name pfx
  | .tx puts => puts.foldl Content.put m

/-- what a store must hold after a history: the last Put of a name wins, Remove(exact) deletes the name,
    Remove(prefix) deletes every name that has the given name as a prefix -/
def contents (ops : List SOp) : Content := ops.foldl Content.apply (fun _ => none)

/-- the memory store after a history -/
def memStep (root : MNode) : SOp → MNode
  | .put p => memPut root p
  | .remove name pfx => memRemove root name pfx
  | .tx puts => memTx root puts

def memRun (ops : List SOp) : MNode := ops.foldl memStep MNode.empty

/-- the bolt store after a history (a transaction's puts become visible together at Commit) -/
def boltStep (s : Bolt) : SOp → Bolt
  | .put p => boltPut s p
  | .remove name pfx => boltRemove s name pfx
  | .tx puts => puts.foldl boltPut s

def boltRun (ops : List SOp) : Bolt := ops.foldl boltStep []

/-- abstraction function of the trie: the (version, packet) stored at a name -/
def MNode.lookup (root : MNode) (nm : Name) : Option (Nat × Pkt) :=
  (root.find nm).bind fun n => n.wire.map fun p => (n.ver, p)

/-- packet `p` is stored with version `v` at a name under `name`, and no name under `name` holds a larger version -/
def NewestUnder (m : Content) (name : Name) (v : Nat) (p : Pkt) : Prop :=
  ∃ nm, pfxOf name nm = true ∧ m nm = some (v, p) ∧
    ∀ nm' v' p', pfxOf name nm' = true → m nm' = some (v', p') → v' ≤ v

/-- nothing is stored at or below `name` -/
def NoneUnder (m : Content) (name : Name) : Prop := ∀ nm, pfxOf name nm = true → m nm = none

mutual
def MNode.WF : MNode → Prop
  | .mk _ _ kids => kids.WF
def MKids.WF : MKids → Prop
  | .nil => True
  | .cons c n rest => rest.lookup c = none ∧ n.WF ∧ rest.WF
end

/-- Go value ranges: component type and value length are uint64 -/
def CompWF (c : Component) : Prop := c.typ < 2 ^ 64 ∧ c.val.length < 2 ^ 64
def NameWF (n : Name) : Prop := ∀ c ∈ n, CompWF c

def SOp.WF : SOp → Prop
  | .put p => NameWF p.name
  | .remove name _ => NameWF name
  | .tx puts => ∀ p ∈ puts, NameWF p.name

/-- equality of fetch states up to `wnd2` (the only field the scheduler `doCheck` writes) -/
def Fetch.eqv (a b : Fetch) : Prop := { a with wnd2 := 0 } = { b with wnd2 := 0 }

def applyArr (f : Fetch) : Option Arrival → Fetch × List CbRec
  | none => (f, [])
  | some a => f.handleData a

/-- callback records of consume `o` in an `Out` -/
def cbsOf (o : Nat) (cbs : List (Nat × CbRec)) : List CbRec := cbs.filterMap fun ic => if ic.1 = o then some ic.2 else none

def outsCbs (o : Nat) (outs : List Out) : List CbRec := cbsOf o (outs.flatMap (·.cbs))

def keys (x : Cons) : List Nat := x.pending.map (·.1)

def pickOf (c : Client) : List Nat × Nat × Option Nat × Bool :=
  pick c.cons ((c.streams.length + 1) * (c.streams.length + 1) + 1) c.streams c.rrIndex none

/-- the arrival `consumeObject` hands to the fetch state: an immediate error in the failing cases -/
def consArr (fetchName : Name) (viaMeta : Bool) : Option Arrival :=
  match fetchName.getLast? with
  | none => some .timeout
  | some l => if l.typ ≠ typVersion then (if viaMeta then some .timeout else none) else none

def evIdx : Ev → Nat
  | .data o _ => o
  | .timeout o _ => o
  | .unsolicited => 0

/-- the arrival (if any) an engine event hands to the fetch state of the stream it belongs to;
    `finalizeError` is `handleData .timeout` -/
def stepArr (serve : Name → Bool → Option Pkt) (c : Client) : Ev → Option Arrival
  | .unsolicited => none
  | .data o none =>
    if !(c.getCons o).metaPending then none else
    match c.served serve o none with
    | none => none
    | some p =>
      match p.md with
      | none => some .timeout
      | some (n, _) => consArr n true
  | .timeout o none =>
    if !(c.getCons o).metaPending then none
    else if (c.getCons o).metaRetries > 0 then none else some .timeout
  | .data o (some k) =>
    if !((c.getCons o).pending.any (·.1 = k)) then none else
    match c.served serve o (some k) with
    | none => none
    | some p => some (.data p)
  | .timeout o (some k) =>
    match (c.getCons o).pending.find? (·.1 = k) with
    | none => none
    | some (_, left) => if left > 0 then none else some .timeout

def startClient (names : List Name) : Client := { cons := names.map fun n => { name := n, fetchName := n } }

abbrev RunSt := Client × List Out × List ((Nat × Key) × Nat)

/-- the state transformer `Client.run` folds over the events (copied from its definition) -/
def runStep (serve : Name → Bool → Option Pkt) (delivers : Nat → Key → Nat → Bool) (acc : RunSt) (e : Ev) : RunSt :=
  let c := acc.1
  let cnt := acc.2.2
  let consistent : Bool :=
    match e with
    | .data o k => delivers o k (countOf cnt (o, k)) && (c.served serve o k).isSome
    | .timeout o k => !(delivers o k (countOf cnt (o, k)) && (c.served serve o k).isSome)
    | .unsolicited => true
  let r := c.step serve e
  let c' := if consistent then r.1 else { r.1 with impossible := true }
  (c', acc.2.1 ++ [r.2], r.2.sent.foldl bump cnt)

def runInit (names : List Name) : RunSt :=
  let s0 := Client.start names
  (s0.1, [s0.2], s0.2.sent.foldl bump [])

/-- ghost: the arrivals handed to stream `o` while the events `evs` are processed from state `st` -/
def arrivalsOf (serve : Name → Bool → Option Pkt) (delivers : Nat → Key → Nat → Bool) (o : Nat) : RunSt → List Ev → List Arrival
  | _, [] => []
  | st, e :: es =>
    (match stepArr serve st.1 e with
      | some a => if evIdx e = o then [a] else []
      | none => []) ++ arrivalsOf serve delivers o (runStep serve delivers st e) es

/-- ghost: the arrivals handed to stream `o` by the `Consume` calls `is` (an immediate error for an empty name) -/
def startArrs (o : Nat) : Client → List Nat → List Arrival
  | _, [] => []
  | c, i :: is =>
    (match consArr (c.getCons i).fetchName false with
      | some a => if i = o then [a] else []
      | none => []) ++ startArrs o (c.consumeObject i false).1 is

/-- all arrivals of stream `o` in a run: those of the `Consume` calls, then those of the events -/
def runArrivals (serve : Name → Bool → Option Pkt) (delivers : Nat → Key → Nat → Bool) (names : List Name)
    (evs : List Ev) (o : Nat) : List Arrival :=
  startArrs o (startClient names) (List.range names.length) ++ arrivalsOf serve delivers o (runInit names) evs

/-- "if we don't know the segment count, wait for the first segment" -/
def skipWait (f : Fetch) : Bool := f.segCnt.isNone && decide (f.wnd2 > 0)
/-- "all interests are out" -/
def skipOut (f : Fetch) : Bool :=
  match f.segCnt with
  | some n => decide (n > 0) && decide (f.wnd2 ≥ n)
  | none => false
/-- the stream has a segment to request now -/
def eligible (f : Fetch) : Bool := !f.complete && !skipWait f && !skipOut f
/-- the stream is not finished and has nothing to request now: it waits for results of Interests
    that are out -/
def waiting (f : Fetch) : Bool := !f.complete && (skipWait f || skipOut f)

def fOf (cons : List Cons) (s : Nat) : Fetch := (cons.getD s default).f

end Ndn.C15
