/-
  C15 — the operations of the multi-stream client: their equations (`doCheck_succ`, `Client.handleData_eq` via
  `arrive`, `start_eq_foldl`, `run_eq_foldl`), and for `doCheck`, `consumeObject`, `step`, `start`, `run` the
  case / induction principle that says from which simpler operations the result is built.
-/
import NdnVerif.C15.LemmasFetch
namespace Ndn.C15

theorem getCons_setCons (c : Client) (o o' : Nat) (x : Cons) :
    (c.setCons o x).getCons o' = if o' = o ∧ o < c.cons.length then x else c.getCons o' := by
  simp only [Client.getCons, Client.setCons, List.getD_eq_getElem?_getD, List.getElem?_set]
  by_cases h : o = o'
  · subst h
    by_cases hl : o < c.cons.length
    · simp [hl]
    · simp [hl]
  · have : ¬ o' = o := fun e => h e.symm
    simp [h, this]

theorem getCons_setCons_or (c : Client) (o o' : Nat) (x : Cons) :
    (o' = o ∧ (c.setCons o x).getCons o' = x) ∨ (c.setCons o x).getCons o' = c.getCons o' := by
  rw [getCons_setCons]
  by_cases h : o' = o ∧ o < c.cons.length
  · exact Or.inl ⟨h.1, if_pos h⟩
  · exact Or.inr (if_neg h)

theorem getCons_setCons_ne (c : Client) {o o' : Nat} (x : Cons) (h : o' ≠ o) :
    (c.setCons o x).getCons o' = c.getCons o' := by
  rw [getCons_setCons, if_neg (fun hh => h hh.1)]

theorem getCons_setCons_self (c : Client) {o : Nat} (x : Cons) (h : o < c.cons.length) :
    (c.setCons o x).getCons o = x := by
  rw [getCons_setCons, if_pos ⟨rfl, h⟩]

theorem length_setCons (c : Client) (o : Nat) (x : Cons) : (c.setCons o x).cons.length = c.cons.length :=
  List.length_set

theorem getCons_of_lt (c : Client) (o : Nat) (h : o < c.cons.length) : c.getCons o = c.cons[o] := by
  unfold Client.getCons
  rw [List.getD_eq_getElem?_getD, List.getElem?_eq_getElem h]; rfl

theorem getCons_default (c : Client) (o : Nat) (h : ¬ o < c.cons.length) : c.getCons o = default := by
  unfold Client.getCons
  rw [List.getD_eq_getElem?_getD, List.getElem?_eq_none (Nat.le_of_not_lt h)]; rfl

theorem setCons_setCons (c : Client) (o : Nat) (y z : Cons) : (c.setCons o y).setCons o z = c.setCons o z := by
  unfold Client.setCons
  rw [List.set_set]

theorem setCons_of_ge (c : Client) (o : Nat) (x : Cons) (h : ¬ o < c.cons.length) : c.setCons o x = c := by
  unfold Client.setCons
  rw [List.set_eq_of_length_le (Nat.le_of_not_lt h)]

theorem lt_of_mem_keys {c : Client} {o k : Nat} (hk : k ∈ keys (c.getCons o)) : o < c.cons.length :=
  Decidable.byContradiction fun h => by
    rw [getCons_default c o h] at hk
    cases hk

theorem lt_of_metaPending {c : Client} {o : Nat} (h : (c.getCons o).metaPending = true) : o < c.cons.length :=
  Decidable.byContradiction fun hn => by
    rw [getCons_default c o hn] at h
    cases h

def afterPick (c : Client) (r : List Nat × Nat × Option Nat × Bool) : Client :=
  { c with streams := r.1, rrIndex := r.2.1, spin := c.spin || r.2.2.2 }

def queueSeg (c1 : Client) (s : Nat) : Client :=
  { (c1.setCons s { (c1.getCons s) with
        f := { (c1.getCons s).f with wnd2 := (c1.getCons s).f.wnd2 + 1 },
        pending := (c1.getCons s).pending ++ [((c1.getCons s).f.wnd2, retryBudget)] }) with
    outstanding := c1.outstanding + 1 }

theorem doCheck_succ (fuel : Nat) (c : Client) :
    c.doCheck (fuel + 1) =
      if c.outstanding ≥ window then (c, [])
      else match (pickOf c).2.2.1 with
        | none => (afterPick c (pickOf c), [])
        | some s =>
          (((queueSeg (afterPick c (pickOf c)) s).doCheck fuel).1,
            (s, some ((afterPick c (pickOf c)).getCons s).f.wnd2) ::
              ((queueSeg (afterPick c (pickOf c)) s).doCheck fuel).2) := by
  rw [Client.doCheck]
  rfl

theorem doCheck_induct {P : Client → Prop}
    (sel : ∀ c, P c → P (afterPick c (pickOf c)))
    (queue : ∀ c s, P (afterPick c (pickOf c)) → (pickOf c).2.2.1 = some s →
      P (queueSeg (afterPick c (pickOf c)) s)) :
    ∀ (fuel : Nat) (c : Client), P c → P (c.doCheck fuel).1 := by
  intro fuel
  induction fuel with
  | zero => intro c h; exact h
  | succ fuel ih =>
    intro c h
    rw [doCheck_succ]
    by_cases hw : c.outstanding ≥ window
    · rw [if_pos hw]; exact h
    · rw [if_neg hw]
      cases hsel : (pickOf c).2.2.1 with
      | none => exact sel c h
      | some s => exact ih _ (queue c s (sel c h) hsel)

/-- `Client.handleData` up to its final `queueCheck`: only a regularly completed stream leaves the fetcher -/
def arrive (c : Client) (o k : Nat) (a : Arrival) : Client :=
  let x := c.getCons o
  let r := x.f.handleData a
  { c with
    cons := c.cons.set o { x with f := r.1, pending := x.pending.filter (·.1 ≠ k) }
    outstanding := c.outstanding - 1
    streams := if (!x.f.complete && r.1.complete && !r.1.err && !r.1.panic) = true then c.streams.filter (· ≠ o)
      else c.streams }

namespace Client

theorem handleData_eq (c : Client) (o k : Nat) (a : Arrival) :
    c.handleData o k a = (arrive c o k a).check (((c.getCons o).f.handleData a).2.map fun cb => (o, cb)) := rfl

end Client

theorem arrive_getCons (c : Client) (o k : Nat) (a : Arrival) (o' : Nat) :
    (arrive c o k a).getCons o' =
      (c.setCons o { (c.getCons o) with
        f := ((c.getCons o).f.handleData a).1
        pending := (c.getCons o).pending.filter (·.1 ≠ k) }).getCons o' := rfl

theorem arrive_streams (c : Client) (o k : Nat) (a : Arrival) :
    (arrive c o k a).streams = c.streams ∨
    ((arrive c o k a).streams = c.streams.filter (· ≠ o) ∧ ((c.getCons o).f.handleData a).1.complete = true) := by
  unfold arrive
  dsimp only
  split
  · rename_i hr
    simp only [Bool.and_eq_true] at hr
    exact Or.inr ⟨rfl, hr.1.1.2⟩
  · exact Or.inl rfl

theorem mem_arrive_streams {c : Client} {o k : Nat} {a : Arrival} {s : Nat} (h : s ∈ (arrive c o k a).streams) :
    s ∈ c.streams := by
  rcases arrive_streams c o k a with e | ⟨e, _⟩ <;> rw [e] at h
  · exact h
  · exact (List.mem_filter.mp h).1

theorem consumeObject_cases {P : Option Arrival → Client × Out → Prop} (c : Client) (o : Nat) (viaMeta : Bool)
    (fail : P (some .timeout) (c.fail o))
    (askMeta : P none (c.setCons o { (c.getCons o) with metaPending := true }, ⟨[(o, none)], []⟩))
    (fetch : P none (({ c with streams := c.streams ++ [o] } : Client).check [])) :
    P (consArr (c.getCons o).fetchName viaMeta) (c.consumeObject o viaMeta) := by
  unfold Client.consumeObject consArr
  dsimp only
  cases (c.getCons o).fetchName.getLast? with
  | none => exact fail
  | some l =>
    dsimp only
    by_cases ht : l.typ ≠ typVersion
    · rw [if_pos ht, if_pos ht]
      cases viaMeta with
      | true => exact fail
      | false => exact askMeta
    · rw [if_neg ht, if_neg ht]; exact fetch

theorem step_cases {P : Nat → Option Arrival → Client × Out → Prop} (serve : Name → Bool → Option Pkt) (c : Client)
    (idle : P 0 none (c, {}))
    (bad : ∀ o, P o none c.bad)
    (metaFail : ∀ o, (c.getCons o).metaPending = true →
      P o (some .timeout) ((c.setCons o { (c.getCons o) with metaPending := false }).fail o))
    (metaOk : ∀ o n, (c.getCons o).metaPending = true →
      P o (consArr n true)
        ((c.setCons o { (c.getCons o) with metaPending := false, fetchName := n }).consumeObject o true))
    (metaRetry : ∀ o, (c.getCons o).metaPending = true →
      P o none (c.setCons o { (c.getCons o) with metaRetries := (c.getCons o).metaRetries - 1 }, ⟨[(o, none)], []⟩))
    (segResult : ∀ o k a, k ∈ keys (c.getCons o) → (∀ p, a = .data p → c.served serve o (some k) = some p) →
      P o (some a) (c.handleData o k a))
    (segRetry : ∀ o k left,
      P o none (c.setCons o { (c.getCons o) with
        pending := (c.getCons o).pending.map fun e => if e.1 = k then (k, left - 1) else e }, ⟨[(o, some k)], []⟩))
    (e : Ev) : P (evIdx e) (stepArr serve c e) (c.step serve e) := by
  cases e with
  | unsolicited => exact idle
  | data o key =>
    cases key with
    | none =>
      simp only [Client.step, stepArr, evIdx]
      by_cases hm : (c.getCons o).metaPending = true
      · have hn : ¬ (!(c.getCons o).metaPending) = true := by rw [hm]; exact Bool.false_ne_true
        rw [if_neg hn, if_neg hn]
        cases c.served serve o none with
        | none => exact bad o
        | some p =>
          dsimp only
          cases p.md with
          | none => exact metaFail o hm
          | some nm =>
            obtain ⟨n, fb⟩ := nm
            dsimp only
            rw [getCons_setCons_self c _ (lt_of_metaPending hm), setCons_setCons]
            exact metaOk o n hm
      · have hn : (!(c.getCons o).metaPending) = true := by rw [Bool.eq_false_iff.mpr hm]; rfl
        rw [if_pos hn, if_pos hn]; exact bad o
    | some k =>
      simp only [Client.step, stepArr, evIdx]
      cases hp : (c.getCons o).pending.any (·.1 = k) with
      | false => exact bad o
      | true =>
        simp only [Bool.not_true, Bool.false_eq_true, if_false]
        have hk : k ∈ keys (c.getCons o) := by
          obtain ⟨e, he, hek⟩ := List.any_eq_true.mp hp
          exact List.mem_map.mpr ⟨e, he, of_decide_eq_true hek⟩
        cases hs : c.served serve o (some k) with
        | none => exact bad o
        | some p => exact segResult o k (.data p) hk (fun p' hp' => by cases hp'; exact hs)
  | timeout o key =>
    cases key with
    | none =>
      simp only [Client.step, stepArr, evIdx]
      by_cases hm : (c.getCons o).metaPending = true
      · have hn : ¬ (!(c.getCons o).metaPending) = true := by rw [hm]; exact Bool.false_ne_true
        rw [if_neg hn, if_neg hn]
        by_cases hr : (c.getCons o).metaRetries > 0
        · rw [if_pos hr, if_pos hr]; exact metaRetry o hm
        · rw [if_neg hr, if_neg hr]; exact metaFail o hm
      · have hn : (!(c.getCons o).metaPending) = true := by rw [Bool.eq_false_iff.mpr hm]; rfl
        rw [if_pos hn, if_pos hn]; exact bad o
    | some k =>
      simp only [Client.step, stepArr, evIdx]
      cases hf : (c.getCons o).pending.find? (·.1 = k) with
      | none => exact bad o
      | some kl =>
        have hk : k ∈ keys (c.getCons o) :=
          List.mem_map.mpr ⟨kl, List.mem_of_find?_eq_some hf, by simpa using List.find?_some hf⟩
        dsimp only
        by_cases hl : kl.2 > 0
        · rw [if_pos hl, if_pos hl]; exact segRetry o k kl.2
        · rw [if_neg hl, if_neg hl]; exact segResult o k .timeout hk (fun p hp => by cases hp)

def startStep (acc : Client × Out) (o : Nat) : Client × Out :=
  let r := acc.1.consumeObject o false
  (r.1, acc.2.append r.2)

theorem start_eq_foldl (names : List Name) :
    Client.start names = (List.range names.length).foldl startStep (startClient names, {}) := rfl

theorem startClient_getCons (names : List Name) (o : Nat) :
    (startClient names).getCons o = { name := names.getD o [], fetchName := names.getD o [] } := by
  simp only [startClient, Client.getCons, List.getD_eq_getElem?_getD, List.getElem?_map]
  cases names[o]? <;> rfl

theorem start_induct {P : Nat → Client → Prop} (names : List Name) (h0 : P 0 (startClient names))
    (hs : ∀ o c, o < names.length → P o c → P (o + 1) (c.consumeObject o false).1) :
    P names.length (Client.start names).1 := by
  rw [start_eq_foldl]
  have key : ∀ n, n ≤ names.length → P n ((List.range n).foldl startStep (startClient names, {})).1 := by
    intro n
    induction n with
    | zero => intro _; exact h0
    | succ n ih =>
      intro hn
      rw [List.range_succ, List.foldl_append]
      exact hs n _ hn (ih (Nat.le_of_succ_le hn))
  exact key _ (Nat.le_refl _)

theorem run_eq_foldl (serve : Name → Bool → Option Pkt) (delivers : Nat → Key → Nat → Bool) (names : List Name) (evs : List Ev) :
    Client.run serve delivers names evs =
      ((evs.foldl (runStep serve delivers) (runInit names)).1, (evs.foldl (runStep serve delivers) (runInit names)).2.1) := rfl

theorem runStep_client (serve : Name → Bool → Option Pkt) (delivers : Nat → Key → Nat → Bool) (st : RunSt) (e : Ev) :
    ∃ b : Bool, (runStep serve delivers st e).1 =
      if b = true then (st.1.step serve e).1 else { (st.1.step serve e).1 with impossible := true } :=
  ⟨_, rfl⟩

theorem run_induct {P : Client → Prop} (serve : Name → Bool → Option Pkt) (delivers : Nat → Key → Nat → Bool)
    (names : List Name) (evs : List Ev) (h0 : P (Client.start names).1)
    (hstep : ∀ c e, P c → P (c.step serve e).1) (himp : ∀ c, P c → P { c with impossible := true }) :
    P (Client.run serve delivers names evs).1 := by
  rw [run_eq_foldl]
  have key : ∀ (evs : List Ev) (st : RunSt), P st.1 → P (evs.foldl (runStep serve delivers) st).1 := by
    intro evs
    induction evs with
    | nil => intro st h; exact h
    | cons e rest ih =>
      intro st h
      apply ih
      obtain ⟨b, hb⟩ := runStep_client serve delivers st e
      rw [hb]
      cases b
      · exact himp _ (hstep _ e h)
      · exact hstep _ e h
  exact key evs _ h0

end Ndn.C15
