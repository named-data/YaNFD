/-
  C15 — the memory trie holds exactly the packets Put and not Removed (refinement trie → finite map):
  `insert`, `remove` (pruning included) and `merge` as operations on the abstract content `MNode.lookup`; then what
  `Get` answers from a trie that represents a content (`findNewest_best`, `memGet_newest`).
-/
import NdnVerif.C15.LemmasHistory
namespace Ndn.C15

namespace MKids

theorem lookup_set : (kids : MKids) → (c k : Component) → (v : MNode) →
    (kids.set c v).lookup k = if k = c then (kids.lookup c).map fun _ => v else kids.lookup k
  | .nil, _, _, _ => by simp [MKids.set, MKids.lookup]
  | .cons a n rest, c, k, v => by
    have ih := MKids.lookup_set rest c k v
    by_cases hac : a = c
    · subst hac
      by_cases hk : k = a
      · subst hk; simp [MKids.set, MKids.lookup]
      · have : ¬ a = k := fun e => hk e.symm
        simp [MKids.set, MKids.lookup, hk, this]
    · by_cases hak : a = k
      · subst hak; simp [MKids.set, MKids.lookup, hac]
      · simp only [MKids.set, if_neg hac, MKids.lookup, if_neg hak, ih]

theorem lookup_set_ne (kids : MKids) (c k : Component) (v : MNode) (h : k ≠ c) :
    (kids.set c v).lookup k = kids.lookup k := by
  rw [MKids.lookup_set, if_neg h]

theorem lookup_set_none (kids : MKids) (c k : Component) (v : MNode) (h : kids.lookup k = none) :
    (kids.set c v).lookup k = none := by
  rw [MKids.lookup_set]
  split
  · rename_i hk; rw [← hk, h]; rfl
  · exact h

theorem lookup_push : (kids : MKids) → (c k : Component) → (v : MNode) →
    (kids.push c v).lookup k = match kids.lookup k with | some x => some x | none => if c = k then some v else none
  | .nil, c, k, v => by simp [MKids.push, MKids.lookup]
  | .cons a n rest, c, k, v => by
    simp only [MKids.push, MKids.lookup]
    split
    · rfl
    · exact MKids.lookup_push rest c k v

theorem lookup_erase : (kids : MKids) → (c k : Component) →
    (kids.erase c).lookup k = if k = c then none else kids.lookup k
  | .nil, _, _ => by simp [MKids.erase, MKids.lookup]
  | .cons a n rest, c, k => by
    have ih := MKids.lookup_erase rest c k
    by_cases hac : a = c
    · subst hac
      by_cases hk : k = a
      · rw [MKids.erase, if_pos rfl, ih, if_pos hk, if_pos hk]
      · have : ¬ a = k := fun e => hk e.symm
        rw [MKids.erase, if_pos rfl, ih, MKids.lookup, if_neg this]
    · rw [MKids.erase, if_neg hac, MKids.lookup, ih, MKids.lookup]
      by_cases hak : a = k
      · rw [if_pos hak, if_pos hak, if_neg (fun e => hac (hak.trans e))]
      · rw [if_neg hak, if_neg hak]

theorem lookup_isEmpty (kids : MKids) (c : Component) (h : kids.isEmpty = true) : kids.lookup c = none := by
  cases kids with
  | nil => rfl
  | cons => cases h

end MKids

theorem lookup_nil (w : Option Pkt) (v : Nat) (kids : MKids) : (MNode.mk w v kids).lookup [] = w.map fun p => (v, p) := by
  simp [MNode.lookup, MNode.find, MNode.wire, MNode.ver]

theorem lookup_cons (w : Option Pkt) (v : Nat) (kids : MKids) (d : Component) (ds : Name) :
    (MNode.mk w v kids).lookup (d :: ds) = (kids.lookup d).bind fun ch => ch.lookup ds := by
  simp only [MNode.lookup, MNode.find, MNode.kids]
  cases kids.lookup d <;> rfl

theorem lookup_empty (nm : Name) : MNode.empty.lookup nm = none := by
  cases nm with
  | nil => rfl
  | cons d ds => rfl

theorem find_append (root : MNode) (a b : Name) : root.find (a ++ b) = (root.find a).bind fun n => n.find b := by
  induction a generalizing root with
  | nil => rfl
  | cons c cs ih =>
    simp only [List.cons_append, MNode.find]
    cases root.kids.lookup c with
    | none => rfl
    | some ch => exact ih ch

theorem lookup_append (root : MNode) (a b : Name) :
    root.lookup (a ++ b) = (root.find a).bind fun n => n.lookup b := by
  simp only [MNode.lookup, find_append]
  cases root.find a <;> rfl

theorem lookup_insert (root : MNode) (name : Name) (ver : Nat) (p : Pkt) (nm : Name) :
    (root.insert name ver p).lookup nm = if nm = name then some (ver, p) else root.lookup nm := by
  induction name generalizing root nm with
  | nil =>
    cases root with
    | mk w v kids =>
      cases nm with
      | nil => simp [MNode.insert, lookup_nil]
      | cons d ds => simp [MNode.insert, lookup_cons]
  | cons c cs ih =>
    cases root with
    | mk w v kids =>
      cases nm with
      | nil => rw [MNode.insert]; split <;> simp [lookup_nil]
      | cons d ds =>
        rw [MNode.insert]
        by_cases hd : d = c
        · subst hd
          cases hl : kids.lookup d with
          | some ch => simp [lookup_cons, MKids.lookup_set, hl, ih]
          | none => simp [lookup_cons, MKids.lookup_push, hl, ih, lookup_empty]
        · have h1 : ¬ (d :: ds = c :: cs) := by simp [hd]
          have h2 : ¬ c = d := fun e => hd e.symm
          rw [if_neg h1, lookup_cons]
          cases hl : kids.lookup c with
          | some ch => simp only [lookup_cons, MKids.lookup_set_ne kids c d _ hd]
          | none =>
            simp only [lookup_cons, MKids.lookup_push, if_neg h2]
            cases kids.lookup d <;> rfl

theorem remove_cons_none (w : Option Pkt) (v : Nat) (kids : MKids) (c : Component) (cs : Name) (pfx : Bool)
    (h : kids.lookup c = none) : (MNode.mk w v kids).remove (c :: cs) pfx = (.mk w v kids, false) := by
  rw [MNode.remove, h]
  exact ite_self _

theorem remove_cons_some (w : Option Pkt) (v : Nat) (kids : MKids) (c : Component) (cs : Name) (pfx : Bool)
    (ch : MNode) (h : kids.lookup c = some ch) :
    (MNode.mk w v kids).remove (c :: cs) pfx =
      (.mk w v (if (ch.remove cs pfx).2 then kids.erase c else kids.set c (ch.remove cs pfx).1),
       w.isNone && (if (ch.remove cs pfx).2 then kids.erase c else kids.set c (ch.remove cs pfx).1).isEmpty) := by
  have he : ¬ kids.isEmpty = true := fun he => by rw [MKids.lookup_isEmpty kids c he] at h; cases h
  rw [MNode.remove, if_neg he, h]

namespace MKids

theorem lookup_remove_kids (kids : MKids) (c d : Component) (ch r : MNode) (prune : Bool) (h : kids.lookup c = some ch) :
    (if prune then kids.erase c else kids.set c r).lookup d =
      if d = c then (if prune then none else some r) else kids.lookup d := by
  cases prune with
  | true => exact MKids.lookup_erase kids c d
  | false =>
    rw [if_neg Bool.false_ne_true, MKids.lookup_set, h]
    rfl

end MKids

theorem find_remove (root : MNode) (name : Name) (pfx : Bool) :
    ∀ n, (root.remove name pfx).1.find name = some n → n.wire = none ∧ (pfx = true → n.kids = .nil) := by
  induction name generalizing root with
  | nil =>
    cases root with
    | mk w v kids =>
      intro n hn
      cases hn
      exact ⟨rfl, fun h => by rw [MNode.remove, h]; rfl⟩
  | cons c cs ih =>
    cases root with
    | mk w v kids =>
      intro n hn
      cases hl : kids.lookup c with
      | none => rw [remove_cons_none w v kids c cs pfx hl, MNode.find, MNode.kids, hl] at hn; cases hn
      | some ch =>
        rw [remove_cons_some w v kids c cs pfx ch hl, MNode.find, MNode.kids, MKids.lookup_remove_kids kids c c ch _ _ hl,
          if_pos rfl] at hn
        cases hp : (ch.remove cs pfx).2 with
        | true => rw [hp] at hn; cases hn
        | false => rw [hp] at hn; exact ih ch n hn

theorem remove_prune_holds_nothing (n : MNode) (name : Name) (pfx : Bool) (h : (n.remove name pfx).2 = true) (q : Name) :
    (n.remove name pfx).1.lookup q = none := by
  cases n with
  | mk w v kids =>
    -- a pruned node has no packet and no children, whichever branch of `remove` said so
    have key : ∀ (w' : Option Pkt) (v' : Nat) (kids' : MKids), w' = none → kids'.isEmpty = true →
        (MNode.mk w' v' kids').lookup q = none := by
      intro w' v' kids' hw hk
      cases q with
      | nil => rw [lookup_nil, hw]; rfl
      | cons d ds => rw [lookup_cons, MKids.lookup_isEmpty kids' d hk]; rfl
    cases name with
    | nil => exact key _ _ _ rfl h
    | cons c cs =>
      cases hl : kids.lookup c with
      | none => rw [remove_cons_none w v kids c cs pfx hl] at h; cases h
      | some ch =>
        rw [remove_cons_some w v kids c cs pfx ch hl] at h ⊢
        simp only [Bool.and_eq_true, Option.isNone_iff_eq_none] at h
        exact key _ _ _ h.1 h.2

theorem lookup_remove (root : MNode) (name : Name) (pfx : Bool) (nm : Name) :
    (root.remove name pfx).1.lookup nm = if removeCond name pfx nm then none else root.lookup nm := by
  induction name generalizing root nm with
  | nil =>
    cases root with
    | mk w v kids =>
      simp only [MNode.remove]
      cases nm with
      | nil => cases pfx <;> simp [lookup_nil, removeCond, pfxOf]
      | cons d ds => cases pfx <;> simp [removeCond, pfxOf, lookup_cons, MKids.lookup]
  | cons c cs ih =>
    cases root with
    | mk w v kids =>
      cases hl : kids.lookup c with
      | none =>
        rw [remove_cons_none w v kids c cs pfx hl]
        -- nothing is stored under `c`, so nothing had to be removed
        split
        · cases nm with
          | nil => rw [removeCond_cons_nil] at *; contradiction
          | cons d ds =>
            by_cases hd : d = c
            · rw [lookup_cons, hd, hl]; rfl
            · rw [removeCond_cons_ne c d cs ds pfx hd] at *; contradiction
        · rfl
      | some ch =>
        rw [remove_cons_some w v kids c cs pfx ch hl]
        cases nm with
        | nil => rw [removeCond_cons_nil, if_neg Bool.false_ne_true, lookup_nil, lookup_nil]
        | cons d ds =>
          rw [lookup_cons, lookup_cons, MKids.lookup_remove_kids kids c d ch _ _ hl]
          by_cases hd : d = c
          · subst hd
            rw [removeCond_cons_same, if_pos rfl, hl, Option.bind_some, ← ih ch ds]
            cases hp : (ch.remove cs pfx).2 with
            | true => exact (remove_prune_holds_nothing ch cs pfx hp ds).symm
            | false => rfl
          · rw [removeCond_cons_ne c d cs ds pfx hd, if_neg hd, if_neg Bool.false_ne_true]

/-! ### well-formed tries: the keys of a children list are distinct (Go map) -/

theorem empty_wf : MNode.empty.WF := by simp [MNode.empty, MNode.WF, MKids.WF]

theorem child_wf : (kids : MKids) → (c : Component) → (ch : MNode) → kids.WF → kids.lookup c = some ch → ch.WF
  | .nil, _, _, _, h => by simp [MKids.lookup] at h
  | .cons a n rest, c, ch, hw, h => by
    simp only [MKids.WF] at hw
    simp only [MKids.lookup] at h
    split at h
    · cases h; exact hw.2.1
    · exact child_wf rest c ch hw.2.2 h

theorem set_wf : (kids : MKids) → (c : Component) → (v : MNode) → kids.WF → v.WF → (kids.set c v).WF
  | .nil, _, _, _, _ => by simp [MKids.set, MKids.WF]
  | .cons a n rest, c, v, hw, hv => by
    simp only [MKids.WF] at hw
    simp only [MKids.set]
    split
    · simp only [MKids.WF]; exact ⟨hw.1, hv, hw.2.2⟩
    · simp only [MKids.WF]
      exact ⟨MKids.lookup_set_none rest c a v hw.1, hw.2.1, set_wf rest c v hw.2.2 hv⟩

theorem push_wf : (kids : MKids) → (c : Component) → (v : MNode) → kids.WF → kids.lookup c = none → v.WF →
    (kids.push c v).WF
  | .nil, _, _, _, _, hv => by simp [MKids.push, MKids.WF, MKids.lookup, hv]
  | .cons a n rest, c, v, hw, hc, hv => by
    simp only [MKids.WF] at hw
    simp only [MKids.lookup] at hc
    split at hc
    · cases hc
    · rename_i hac
      simp only [MKids.push, MKids.WF]
      refine ⟨?_, hw.2.1, push_wf rest c v hw.2.2 hc hv⟩
      rw [MKids.lookup_push, hw.1]
      exact if_neg (fun e => hac e.symm)

theorem erase_wf : (kids : MKids) → (c : Component) → kids.WF → (kids.erase c).WF
  | .nil, _, _ => by simp [MKids.erase, MKids.WF]
  | .cons a n rest, c, hw => by
    simp only [MKids.WF] at hw
    simp only [MKids.erase]
    split
    · exact erase_wf rest c hw.2.2
    · rename_i hac
      simp only [MKids.WF]
      refine ⟨?_, hw.2.1, erase_wf rest c hw.2.2⟩
      rw [MKids.lookup_erase, if_neg hac]; exact hw.1

theorem insert_wf (root : MNode) (name : Name) (ver : Nat) (p : Pkt) (h : root.WF) : (root.insert name ver p).WF := by
  induction name generalizing root with
  | nil => cases root with | mk w v kids => simpa [MNode.insert, MNode.WF] using h
  | cons c cs ih =>
    cases root with
    | mk w v kids =>
      simp only [MNode.WF] at h
      simp only [MNode.insert]
      cases hl : kids.lookup c with
      | some ch =>
        simp only [MNode.WF]
        exact set_wf kids c _ h (ih ch (child_wf kids c ch h hl))
      | none =>
        simp only [MNode.WF]
        exact push_wf kids c _ h hl (ih MNode.empty empty_wf)

theorem remove_wf (root : MNode) (name : Name) (pfx : Bool) (h : root.WF) : (root.remove name pfx).1.WF := by
  induction name generalizing root with
  | nil =>
    cases root with
    | mk w v kids =>
      simp only [MNode.WF] at h
      cases pfx <;> simp [MNode.remove, MNode.WF, MKids.WF, h]
  | cons c cs ih =>
    cases root with
    | mk w v kids =>
      simp only [MNode.WF] at h
      cases hl : kids.lookup c with
      | none => rw [remove_cons_none w v kids c cs pfx hl]; exact h
      | some ch =>
        rw [remove_cons_some w v kids c cs pfx ch hl]
        simp only [MNode.WF]
        split
        · exact erase_wf kids c h
        · exact set_wf kids c _ h (ih ch (child_wf kids c ch h hl))

theorem find_wf (root : MNode) (nm : Name) (node : MNode) (hw : root.WF) (h : root.find nm = some node) : node.WF := by
  induction nm generalizing root with
  | nil => cases h; exact hw
  | cons c cs ih =>
    cases root with
    | mk w v kids =>
      simp only [MNode.WF] at hw
      simp only [MNode.find, MNode.kids] at h
      cases hl : kids.lookup c with
      | none => rw [hl] at h; cases h
      | some ch => rw [hl] at h; exact ih ch (child_wf kids c ch hw hl) h

namespace MKids

theorem lookup_mergeInto : (tkids : MKids) → (kids : MKids) → (d : Component) → tkids.WF →
    (MKids.mergeInto kids tkids).lookup d =
      match tkids.lookup d with
      | some tch => some (match kids.lookup d with | some nch => MNode.merge nch tch | none => tch)
      | none => kids.lookup d
  | .nil, kids, d, _ => by simp [MKids.mergeInto, MKids.lookup]
  | .cons c ch rest, kids, d, hw => by
    simp only [MKids.WF] at hw
    simp only [MKids.mergeInto]
    cases hl : kids.lookup c with
    | some nch =>
      simp only
      rw [MKids.lookup_mergeInto rest _ d hw.2.2]
      by_cases hd : d = c
      · subst hd
        simp [hw.1, MKids.lookup, MKids.lookup_set, hl]
      · have : ¬ c = d := fun e => hd e.symm
        simp [MKids.lookup, this, MKids.lookup_set_ne kids c d _ hd]
    | none =>
      simp only
      rw [MKids.lookup_mergeInto rest _ d hw.2.2]
      by_cases hd : d = c
      · subst hd
        simp [hw.1, MKids.lookup, MKids.lookup_push, hl]
      · have : ¬ c = d := fun e => hd e.symm
        simp only [MKids.lookup, this, if_false, MKids.lookup_push]
        cases rest.lookup d <;> cases kids.lookup d <;> rfl

end MKids

theorem lookup_merge (n tx : MNode) (nm : Name) (hw : tx.WF) :
    (n.merge tx).lookup nm = match tx.lookup nm with | some x => some x | none => n.lookup nm := by
  induction nm generalizing n tx with
  | nil =>
    cases n with
    | mk w v kids =>
      cases tx with
      | mk tw tv tkids =>
        cases tw <;> simp [MNode.merge, lookup_nil]
  | cons d ds ih =>
    cases n with
    | mk w v kids =>
      cases tx with
      | mk tw tv tkids =>
        simp only [MNode.WF] at hw
        simp only [MNode.merge, lookup_cons, MKids.lookup_mergeInto tkids kids d hw]
        cases htl : tkids.lookup d with
        | none => simp
        | some tch =>
          have htw := child_wf tkids d tch hw htl
          cases hkl : kids.lookup d with
          | none => simp; cases tch.lookup ds <;> rfl
          | some nch => simp [ih nch tch htw]

mutual
theorem merge_wf : (tx n : MNode) → n.WF → tx.WF → (n.merge tx).WF
  | .mk tw tv tkids, .mk w v kids, hn, ht => by
    simp only [MNode.WF] at hn ht
    simp only [MNode.merge, MNode.WF]
    exact mergeInto_wf tkids kids hn ht
theorem mergeInto_wf : (tkids kids : MKids) → kids.WF → tkids.WF → (MKids.mergeInto kids tkids).WF
  | .nil, kids, hk, _ => by simpa [MKids.mergeInto] using hk
  | .cons c ch rest, kids, hk, ht => by
    simp only [MKids.WF] at ht
    simp only [MKids.mergeInto]
    cases hl : kids.lookup c with
    | some nch =>
      simp only
      exact mergeInto_wf rest _ (set_wf kids c _ hk (merge_wf ch nch (child_wf kids c nch hk hl) ht.2.1)) ht.2.2
    | none =>
      simp only
      exact mergeInto_wf rest _ (push_wf kids c ch hk hl ht.2.1) ht.2.2
end

/-- the trie `root` represents the content `m` -/
def MemRel (root : MNode) (m : Content) : Prop := root.WF ∧ ∀ nm, root.lookup nm = m nm

theorem memRel_empty : MemRel MNode.empty (fun _ => none) := ⟨empty_wf, lookup_empty⟩

theorem memRel_put (root : MNode) (m : Content) (p : Put) (h : MemRel root m) : MemRel (memPut root p) (m.put p) := by
  refine ⟨insert_wf root _ _ _ h.1, fun nm => ?_⟩
  simp only [memPut, lookup_insert, Content.put, h.2]

def overlay (t m : Content) : Content := fun n => match t n with | some x => some x | none => m n

theorem overlay_put (t m : Content) (p : Put) : (overlay t m).put p = overlay (t.put p) m := by
  funext n
  simp only [Content.put, overlay]
  split <;> rfl

theorem foldl_put_overlay (puts : List Put) (t m : Content) :
    puts.foldl Content.put (overlay t m) = overlay (puts.foldl Content.put t) m := by
  induction puts generalizing t with
  | nil => rfl
  | cons p ps ih => simp only [List.foldl_cons, overlay_put, ih]

theorem memRel_step (root : MNode) (m : Content) (op : SOp) (h : MemRel root m) : MemRel (memStep root op) (m.apply op) := by
  cases op with
  | put p => exact memRel_put root m p h
  | remove name pfx =>
    refine ⟨remove_wf root _ _ h.1, fun nm => ?_⟩
    rw [Content.apply, Content.remove_apply, ← h.2]; exact lookup_remove root name pfx nm
  | tx puts =>
    have ht : MemRel (puts.foldl memPut MNode.empty) (puts.foldl Content.put fun _ => none) :=
      List.foldl_rel memRel_empty fun p _ r m h => memRel_put r m p h
    refine ⟨merge_wf _ _ h.1 ht.1, fun nm => ?_⟩
    -- the Puts folded over `m` are the transaction's own content laid over `m` (`foldl_put_overlay`), and that is
    -- what `lookup_merge` says of the two tries
    have hm : m = overlay (fun _ => none) m := rfl
    rw [Content.apply, hm, foldl_put_overlay]
    simp only [memStep, memTx, lookup_merge _ _ nm ht.1, ht.2, overlay, h.2]

theorem kids_entries_of_lookup : (kids : MKids) → (d : Component) → (ch : MNode) → kids.lookup d = some ch →
    ∀ e ∈ ch.entries, e ∈ kids.entries
  | .nil, _, _, h => by simp [MKids.lookup] at h
  | .cons a n rest, d, ch, h => by
    intro e he
    simp only [MKids.lookup] at h
    simp only [MKids.entries, List.mem_append]
    split at h
    · cases h; exact Or.inl he
    · exact Or.inr (kids_entries_of_lookup rest d ch h e he)

theorem entries_of_lookup (n : MNode) (nm : Name) (e : Nat × Pkt) (h : n.lookup nm = some e) : e ∈ n.entries := by
  induction nm generalizing n with
  | nil =>
    cases n with
    | mk w v kids =>
      rw [lookup_nil] at h
      cases w with
      | none => cases h
      | some p => cases h; exact List.mem_cons_self
  | cons d ds ih =>
    cases n with
    | mk w v kids =>
      rw [lookup_cons] at h
      cases hl : kids.lookup d with
      | none => rw [hl] at h; cases h
      | some ch =>
        rw [hl, Option.bind_some] at h
        exact List.mem_append_right _ (kids_entries_of_lookup kids d ch hl e (ih ch h))

mutual
theorem lookup_of_entries : (n : MNode) → n.WF → ∀ e ∈ n.entries, ∃ nm, n.lookup nm = some e
  | .mk w v kids, hw, e, he => by
    simp only [MNode.WF] at hw
    simp only [MNode.entries, List.mem_append] at he
    rcases he with he | he
    · cases w with
      | none => simp at he
      | some p => simp at he; subst he; exact ⟨[], by simp [lookup_nil]⟩
    · obtain ⟨d, ds, ch, h1, h2⟩ := kids_lookup_of_entries kids hw e he
      exact ⟨d :: ds, by simp [lookup_cons, h1, h2]⟩
theorem kids_lookup_of_entries : (kids : MKids) → kids.WF → ∀ e ∈ kids.entries,
    ∃ d ds ch, kids.lookup d = some ch ∧ ch.lookup ds = some e
  | .nil, _, e, he => by simp [MKids.entries] at he
  | .cons c n rest, hw, e, he => by
    simp only [MKids.WF] at hw
    simp only [MKids.entries, List.mem_append] at he
    rcases he with he | he
    · obtain ⟨nm, h⟩ := lookup_of_entries n hw.2.1 e he
      exact ⟨c, nm, n, by simp [MKids.lookup], h⟩
    · obtain ⟨d, ds, ch, h1, h2⟩ := kids_lookup_of_entries rest hw.2.2 e he
      have hcd : ¬ c = d := by
        intro hc; subst hc; rw [hw.1] at h1; cases h1
      exact ⟨d, ds, ch, by simp [MKids.lookup, hcd, h1], h2⟩
end

/-- the invariant of the accumulator `known` of `MKids.newest` against the entries `es` it has passed; the
    second clause also says that `r` carries a packet as soon as `es` is not empty (a node with a wire
    beats one without) -/
def Best (r : MNode) (es : List (Nat × Pkt)) : Prop :=
  (∀ p, r.wire = some p → (r.ver, p) ∈ es) ∧ (∀ e ∈ es, r.wire.isSome = true ∧ e.1 ≤ r.ver)

theorem best_no_wire {r : MNode} {es : List (Nat × Pkt)} (h : Best r es) (hw : r.wire = none) : es = [] := by
  apply List.eq_nil_iff_forall_not_mem.mpr
  intro e he
  have := (h.2 e he).1
  rw [hw] at this; cases this

theorem best_pick {known cl : MNode} {es0 es1 : List (Nat × Pkt)} (h : Best known es0) (hcl : Best cl es1) :
    Best (if cl.wire.isSome && (known.wire.isNone || cl.ver > known.ver) then cl else known) (es0 ++ es1) := by
  cases hcw : cl.wire with
  | none =>
    rw [best_no_wire hcl hcw, List.append_nil]
    exact h
  | some pc =>
    cases hkw : known.wire with
    | none =>
      rw [best_no_wire h hkw, List.nil_append]
      exact hcl
    | some pk =>
      by_cases hv : cl.ver > known.ver
      · rw [if_pos (by simp [hv])]
        refine ⟨fun p hp => List.mem_append_right _ (hcl.1 p hp), fun e he => ?_⟩
        rcases List.mem_append.mp he with he | he
        · exact ⟨by rw [hcw]; rfl, Nat.le_trans (h.2 e he).2 (Nat.le_of_lt hv)⟩
        · exact hcl.2 e he
      · rw [if_neg (by simp [hv])]
        refine ⟨fun p hp => List.mem_append_left _ (h.1 p hp), fun e he => ?_⟩
        rcases List.mem_append.mp he with he | he
        · exact h.2 e he
        · exact ⟨by rw [hkw]; rfl, Nat.le_trans (hcl.2 e he).2 (Nat.le_of_not_lt hv)⟩

mutual
theorem findNewest_best : (n : MNode) → Best n.findNewest n.entries
  | .mk w v kids => by
    have h0 : Best (.mk w v kids) (match w with | some p => [(v, p)] | none => []) := by
      cases w <;> simp [Best, MNode.wire, MNode.ver]
    exact newest_best kids _ _ h0
theorem newest_best : (kids : MKids) → (known : MNode) → (es0 : List (Nat × Pkt)) → Best known es0 →
    Best (MKids.newest kids known) (es0 ++ kids.entries)
  | .nil, known, es0, h => by simpa [MKids.newest, MKids.entries] using h
  | .cons c ch rest, known, es0, h => by
    show Best (MKids.newest rest _) (es0 ++ (ch.entries ++ rest.entries))
    rw [← List.append_assoc]
    exact newest_best rest _ _ (best_pick h (findNewest_best ch))
end

theorem memGet_exact (root : MNode) (nm : Name) : memGet root nm false = (root.lookup nm).map (·.2) := by
  unfold memGet MNode.lookup
  cases root.find nm with
  | none => rfl
  | some n =>
    dsimp only
    rw [Bool.and_false, if_neg Bool.false_ne_true, Option.bind_some]
    cases n.wire <;> rfl

theorem memGet_of_lookup {root : MNode} {nm : Name} {v : Nat} {p : Pkt} (h : root.lookup nm = some (v, p)) (pfx : Bool) :
    memGet root nm pfx = some p := by
  unfold memGet
  unfold MNode.lookup at h
  cases hf : root.find nm with
  | none => rw [hf] at h; cases h
  | some n =>
    rw [hf] at h
    cases hw : n.wire with
    | none => rw [Option.bind_some, hw] at h; cases h
    | some q =>
      rw [Option.bind_some, hw] at h
      cases h
      dsimp only
      rw [hw, Option.isNone_some, Bool.false_and, if_neg Bool.false_ne_true]
      exact hw

/-- the hypothesis `hE` of `newest_of_entries` for the trie (`BoltRel.under_iff` is bolt's); `WF` is needed for the
    direction from an entry to a name: with a duplicate child key the later child is not reachable by `lookup` -/
theorem entries_iff {root node : MNode} {name : Name} (hw : root.WF) (hf : root.find name = some node) (e : Nat × Pkt) :
    e ∈ node.entries ↔ ∃ nm, pfxOf name nm = true ∧ root.lookup nm = some e := by
  have hlk : ∀ rest, root.lookup (name ++ rest) = node.lookup rest := fun rest => by rw [lookup_append, hf]; rfl
  constructor
  · intro he
    obtain ⟨rest, hr⟩ := lookup_of_entries node (find_wf _ name node hw hf) e he
    exact ⟨name ++ rest, pfxOf_append name rest, by rw [hlk, hr]⟩
  · rintro ⟨nm, hnm, hm⟩
    obtain ⟨rest, rfl⟩ := (pfxOf_iff name nm).mp hnm
    rw [hlk] at hm
    exact entries_of_lookup node rest e hm

theorem memGet_newest {root : MNode} (hw : root.WF) (name : Name) (h0 : root.lookup name = none) :
    (∀ p, memGet root name true = some p → ∃ v, NewestUnder root.lookup name v p) ∧
    (memGet root name true = none ↔ NoneUnder root.lookup name) := by
  unfold memGet
  cases hf : root.find name with
  | none =>
    refine newest_of_entries (E := fun _ => False) (fun e => ⟨False.elim, fun ⟨nm, hnm, hm⟩ => ?_⟩)
      (fun p h => by cases h) (fun _ _ h => h)
    obtain ⟨rest, rfl⟩ := (pfxOf_iff name nm).mp hnm
    rw [lookup_append, hf] at hm; cases hm
  | some node =>
    have hnw : node.wire = none := by
      unfold MNode.lookup at h0
      rw [hf, Option.bind_some] at h0
      cases hq : node.wire with
      | none => rfl
      | some q => rw [hq] at h0; cases h0
    have hb := findNewest_best node
    dsimp only
    rw [hnw, Option.isNone_none, Bool.and_true, if_pos rfl]
    exact newest_of_entries (entries_iff hw hf) (fun p hp => ⟨_, hb.1 p hp, fun e he => (hb.2 e he).2⟩)
      (fun hn e he => by have := (hb.2 e he).1; rw [hn] at this; cases this)

end Ndn.C15
