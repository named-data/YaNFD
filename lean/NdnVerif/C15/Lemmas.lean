/-
  C15 — Produce's segmentation: what the inner loop `fillSeg` cuts off and leaves behind, and the
  shape of the segment list `segments`; at the end the `List` fact `zip_range_map` that `produce_packets` uses
  (core Lean only).
-/
import NdnVerif.C15.Notions
namespace Ndn.C15

theorem totalLen_cons (b : Bytes) (rest : List Bytes) : totalLen (b :: rest) = b.length + totalLen rest := by
  simp [totalLen]

theorem totalLen_eq (bufs : List Bytes) : totalLen bufs = bufs.flatten.length := by
  induction bufs with
  | nil => rfl
  | cons b rest ih => rw [totalLen_cons, ih, List.flatten_cons, List.length_append]

theorem fillSeg_append_flatten (bufs : List Bytes) (room : Nat) :
    (fillSeg bufs room).1 ++ (fillSeg bufs room).2.flatten = bufs.flatten := by
  fun_induction fillSeg bufs room with
  | case1 => rfl
  | case2 b rest => rfl
  | case3 b rest room h0 hle r ih => rw [List.flatten_cons, ← ih, List.append_assoc]
  | case4 b rest room h0 hgt =>
    rw [List.flatten_cons, List.flatten_cons, ← List.append_assoc, List.take_append_drop]

theorem fillSeg_totalLen (bufs : List Bytes) (room : Nat) :
    (fillSeg bufs room).1.length + totalLen (fillSeg bufs room).2 = totalLen bufs := by
  rw [totalLen_eq, totalLen_eq, ← List.length_append, fillSeg_append_flatten]

theorem fillSeg_length_le (bufs : List Bytes) (room : Nat) : (fillSeg bufs room).1.length ≤ room := by
  fun_induction fillSeg bufs room with
  | case1 => exact Nat.zero_le _
  | case2 b rest => exact Nat.le_refl _
  | case3 b rest room h0 hle r ih => rw [List.length_append]; exact Nat.add_le_of_le_sub' hle ih
  | case4 b rest room h0 hgt => rw [List.length_take]; exact Nat.min_le_left _ _

theorem fillSeg_full (bufs : List Bytes) (room : Nat) (h : (fillSeg bufs room).2 ≠ []) :
    (fillSeg bufs room).1.length = room := by
  fun_induction fillSeg bufs room with
  | case1 => exact absurd rfl h
  | case2 b rest => rfl
  | case3 b rest room h0 hle r ih => rw [List.length_append, ih h]; exact Nat.add_sub_cancel' hle
  | case4 b rest room h0 hgt => rw [List.length_take]; exact Nat.min_eq_left (Nat.le_of_lt (Nat.lt_of_not_le hgt))

theorem lastNonempty_tail {b : Bytes} {rest : List Bytes} (h : LastNonempty (b :: rest)) (hr : rest ≠ []) :
    LastNonempty rest := by
  intro x hx
  apply h x
  cases rest with
  | nil => exact absurd rfl hr
  | cons c cs => rw [List.getLast?_cons_cons]; exact hx

theorem fillSeg_rest_lastNonempty (bufs : List Bytes) (room : Nat) (h : LastNonempty bufs) :
    LastNonempty (fillSeg bufs room).2 := by
  fun_induction fillSeg bufs room with
  | case1 => exact h
  | case2 b rest => exact h
  | case3 b rest room h0 hle r ih =>
    cases rest with
    | nil => exact fun _ h => nomatch h
    | cons c cs => exact ih (lastNonempty_tail h (List.cons_ne_nil _ _))
  | case4 b rest room h0 hgt =>
    intro x hx
    cases rest with
    | nil =>
      -- what is left of the buffer that did not fit is not empty
      rw [List.getLast?_singleton] at hx
      cases hx
      intro hd
      have := congrArg List.length hd
      rw [List.length_drop, List.length_nil] at this
      exact hgt (Nat.le_of_sub_eq_zero this)
    | cons c cs =>
      rw [List.getLast?_cons_cons] at hx
      exact h x (by rw [List.getLast?_cons_cons]; exact hx)

theorem fillSeg_nonempty (bufs : List Bytes) (room : Nat) (hne : bufs ≠ []) (h : LastNonempty bufs) (hr : 0 < room) :
    (fillSeg bufs room).1 ≠ [] := by
  fun_induction fillSeg bufs room with
  | case1 => exact absurd rfl hne
  | case2 b rest => exact absurd hr (Nat.lt_irrefl 0)
  | case3 b rest room h0 hle r ih =>
    cases b with
    | cons x xs => exact List.cons_ne_nil _ _
    | nil =>
      -- an empty buffer is skipped; it is not the last one
      have hrest : rest ≠ [] := fun hr => h [] (by rw [hr]; rfl) rfl
      exact ih hrest (lastNonempty_tail h hrest) hr
  | case4 b rest room h0 hgt =>
    intro ht
    have := congrArg List.length ht
    rw [List.length_take, List.length_nil, Nat.min_eq_left (Nat.le_of_lt (Nat.lt_of_not_le hgt))] at this
    exact h0 this

theorem lastNonempty_totalLen_pos (l : List Bytes) (hne : l ≠ []) (h : LastNonempty l) : 0 < totalLen l := by
  induction l with
  | nil => exact absurd rfl hne
  | cons b rest ih =>
    rw [totalLen_cons]
    cases rest with
    | nil => exact Nat.add_pos_left (List.length_pos_iff.mpr (h b rfl)) _
    | cons c cs => exact Nat.add_pos_right _ (ih (List.cons_ne_nil _ _) (lastNonempty_tail h (List.cons_ne_nil _ _)))

theorem segments_le (bufs : List Bytes) : ∀ s ∈ segments bufs, s.length ≤ segSize := by
  fun_induction segments bufs with
  | case1 => exact fun _ h => nomatch h
  | case2 b rest r ih =>
    intro s hs
    rcases List.mem_cons.mp hs with rfl | hs
    · exact fillSeg_length_le _ _
    · exact ih s hs

theorem segments_nonempty (bufs : List Bytes) (h : LastNonempty bufs) : ∀ s ∈ segments bufs, s ≠ [] := by
  fun_induction segments bufs with
  | case1 => exact fun _ h => nomatch h
  | case2 b rest r ih =>
    intro s hs
    rcases List.mem_cons.mp hs with rfl | hs
    · exact fillSeg_nonempty _ _ (List.cons_ne_nil _ _) h (by decide)
    · exact ih (fillSeg_rest_lastNonempty _ _ h) s hs

theorem segments_eq_nil (bufs : List Bytes) : segments bufs = [] ↔ bufs = [] := by
  cases bufs with
  | nil => rw [segments]
  | cons b rest => rw [segments]; exact ⟨(fun h => nomatch h), (fun h => nomatch h)⟩

theorem segments_shape (bufs : List Bytes) (h : LastNonempty bufs) (hne : bufs ≠ []) :
    (segments bufs).length = (totalLen bufs - 1) / segSize + 1
    ∧ ∀ s ∈ (segments bufs).dropLast, s.length = segSize := by
  fun_induction segments bufs with
  | case1 => exact absurd rfl hne
  | case2 b rest r ih =>
    have htot : r.1.length + totalLen r.2 = totalLen (b :: rest) := fillSeg_totalLen (b :: rest) segSize
    have hle : r.1.length ≤ segSize := fillSeg_length_le (b :: rest) segSize
    have hpos : 0 < r.1.length :=
      List.length_pos_iff.mpr (fillSeg_nonempty _ _ (List.cons_ne_nil _ _) h (by decide))
    by_cases hrest : r.2 = []
    · -- the segment took everything: it is the only one
      rw [(segments_eq_nil _).mpr hrest]
      rw [hrest] at htot
      have hlt : totalLen (b :: rest) - 1 < segSize := by
        rw [← htot]; exact Nat.lt_of_lt_of_le (Nat.sub_lt hpos Nat.one_pos) hle
      exact ⟨by rw [List.length_singleton, Nat.div_eq_of_lt hlt], fun _ h => nomatch h⟩
    · -- a full segment, then the segments of what is left
      have hfull : r.1.length = segSize := fillSeg_full _ _ hrest
      have hr := fillSeg_rest_lastNonempty (b :: rest) segSize h
      obtain ⟨ih1, ih2⟩ := ih hr hrest
      have hrpos : 0 < totalLen r.2 := lastNonempty_totalLen_pos _ hrest hr
      constructor
      · rw [List.length_cons, ih1]
        rw [← htot, hfull, Nat.add_sub_assoc hrpos, Nat.add_div_left _ (by decide)]
      · intro s hs
        rw [List.dropLast_cons_of_ne_nil (fun e => hrest ((segments_eq_nil _).mp e))] at hs
        rcases List.mem_cons.mp hs with rfl | hs
        · exact hfull
        · exact ih2 s hs

theorem zip_range_map {α β : Type} (l : List α) (d : α) (g : Nat × α → β) :
    ((List.range l.length).zip l).map g = (List.range l.length).map fun i => g (i, l.getD i d) := by
  apply List.ext_getElem
  · simp
  · intro i h1 h2
    simp only [List.length_map, List.length_zip, List.length_range, Nat.min_self] at h1
    simp [List.getD_eq_getElem?_getD, List.getElem?_eq_getElem h1]

end Ndn.C15
