/-
  C15 — property theorems.  Every theorem is unbounded: no bound on the number or size of buffers, on
  trie shape, on store size (except where a guard is stated).
-/
import NdnVerif.C15.Lemmas
import NdnVerif.C15.LemmasFetch
import NdnVerif.C15.LemmasBolt
import NdnVerif.C15.LemmasMemStore
import NdnVerif.C15.LemmasBoltStore
import NdnVerif.C15.LemmasClient
import NdnVerif.C15.LemmasQuiet
namespace Ndn.C15

/-- the inner loop of Produce neither loses, duplicates nor reorders bytes: the segment it cuts
    followed by what remains is the input, for every buffer list and every room -/
theorem fillSeg_concat (bufs : List Bytes) (room : Nat) :
    (fillSeg bufs room).1 ++ (fillSeg bufs room).2.flatten = bufs.flatten :=
  fillSeg_append_flatten bufs room

/-- the concatenation of the produced segments is the concatenation of the input buffers — for EVERY
    list of input buffers (any split, empty buffers included) -/
theorem segments_concat (bufs : List Bytes) : (segments bufs).flatten = bufs.flatten := by
  fun_induction segments bufs with
  | case1 => rfl
  | case2 b rest r ih =>
    rw [List.flatten_cons, ih]
    exact fillSeg_append_flatten (b :: rest) segSize

example : segments [[1, 2], [], [3]] = [[1, 2, 3]] := by
  simp [segments, fillSeg, segSize]

/-- segment shape: every segment has at most 8000 bytes (every buffer list); if the last input buffer
    is not empty: no segment is empty, all but the last have exactly 8000 bytes and there are
    (size-1)/8000+1 of them — the FinalBlockId Produce announces is the last segment's number.
    (Full statement without the guard is false for the code: a trailing empty buffer after an exact
    multiple of 8000 bytes yields one extra empty segment beyond FinalBlockId — design/C15.md §6.) -/
theorem segment_count (bufs : List Bytes) :
    (∀ s ∈ segments bufs, s.length ≤ segSize) ∧
    (LastNonempty bufs → bufs ≠ [] →
      (∀ s ∈ segments bufs, s ≠ []) ∧
      (∀ s ∈ (segments bufs).dropLast, s.length = segSize) ∧
      (segments bufs).length = (totalLen bufs - 1) / segSize + 1) := by
  refine ⟨segments_le bufs, fun h hne => ?_⟩
  have := segments_shape bufs h hne
  exact ⟨segments_nonempty bufs h, this.2, this.1⟩

example : LastNonempty [[1, 2], [], [3]] ∧ [[1, 2], [], [3]] ≠ ([] : List Bytes) := by
  constructor
  · intro b hb; simp at hb; subst hb; simp
  · simp

/-- the guard of `segment_count` is needed (shown with room 2 instead of 8000): after a segment that is
    exactly full a trailing empty buffer remains, and the next outer iteration cuts an empty segment -/
example : fillSeg [[1, 2], []] 2 = ([1, 2], [[]]) ∧ fillSeg [[]] 2 = ([], []) := by
  simp [fillSeg]

/-- bolt keeps its keys sorted: the empty store is, `Put` and `Remove` preserve it — so every store
    reachable by the operations satisfies the hypothesis `BSorted` of the next theorem -/
theorem bolt_reachable_sorted :
    BSorted [] ∧ (∀ s p, BSorted s → BSorted (boltPut s p)) ∧ (∀ s n pfx, BSorted s → BSorted (boltRemove s n pfx)) :=
  ⟨List.Pairwise.nil, fun s _ h => boltPutKey_sorted s _ h, fun s n pfx h => boltRemove_sorted s n pfx h⟩

/-- bolt, prefix query, at most 999 keys under the prefix (guard = the code's scan limit, F-15d): the
    answer is a stored packet whose key extends the query key and whose version is maximal among ALL
    stored packets whose key extends the query key (version 0 included); none stored ⇒ no answer.
    The full statement (no guard) is false for the code: with more than 999 keys under the prefix the
    packets beyond the 999th are never looked at (replay corpus/C15/bolt-scan-limit.ops). -/
theorem newest_version_selected_bolt_partial (s : Bolt) (hs : BSorted s) (name : Name)
    (hguard : (boltScan s (encKey name)).length ≤ boltScanLimit) :
    ((∀ e ∈ s, (encKey name).isPrefixOf e.key = false) → boltGet s name true = none) ∧
    ((∃ e ∈ s, (encKey name).isPrefixOf e.key = true) →
      ∃ e ∈ s, (encKey name).isPrefixOf e.key = true ∧ boltGet s name true = some e.pkt ∧
        ∀ e' ∈ s, (encKey name).isPrefixOf e'.key = true → e'.ver ≤ e.ver) := by
  obtain ⟨hsome, hnone⟩ := boltGet_prefix s hs name hguard
  refine ⟨fun hno => boltGet_none (fun e he hp => by rw [hno e he] at hp; cases hp) true, fun ⟨e0, he0, hp0⟩ => ?_⟩
  cases hg : boltGet s name true with
  | none => exact absurd hp0 (hnone hg e0 he0)
  | some p =>
    obtain ⟨e, he, hpfx, rfl, hmax⟩ := hsome p hg
    exact ⟨e, he, hpfx, rfl, hmax⟩

def exPkt (n : Nat) : Pkt := { name := [⟨8, [n]⟩], fb := none, content := [n] }
def exBolt : Bolt := boltPut (boltPut [] ⟨[⟨8, [1]⟩, ⟨8, [1]⟩], 5, exPkt 1⟩) ⟨[⟨8, [1]⟩, ⟨8, [2]⟩], 3, exPkt 2⟩

example : BSorted exBolt ∧ (boltScan exBolt (encKey [⟨8, [1]⟩])).length ≤ boltScanLimit := by
  refine ⟨?_, by decide⟩
  unfold BSorted
  decide

/-- non-vacuity: byte order ≠ version order; the newer packet (first key) is chosen -/
example : boltGet exBolt [⟨8, [1]⟩] true = some (exPkt 1) := by decide

/-- removal from the bolt store: nothing at or below a removed prefix is served (exact or prefix
    query), a removed exact name is not served -/
theorem removed_not_served_bolt (s : Bolt) (name : Name) :
    (∀ q : Name, (encKey name).isPrefixOf (encKey q) → ∀ pfx, boltGet (boltRemove s name true) q pfx = none) ∧
    boltGet (boltRemove s name false) name false = none := by
  constructor
  · intro q hq pfx
    -- a key that extends `encKey q` extends `encKey name`, and those are filtered out
    refine boltGet_none (fun e he hp => ?_) pfx
    simp only [boltRemove, if_true, List.mem_filter] at he
    have h1 : (encKey name).isPrefixOf e.key = true := by
      rw [List.isPrefixOf_iff_prefix] at hq hp ⊢
      exact List.IsPrefix.trans hq hp
    simp [h1] at he
  · simp only [boltGet, Bool.false_eq_true, if_false, Option.map_eq_none_iff, List.find?_eq_none, boltRemove]
    intro e he
    simp only [List.mem_filter] at he
    simpa using he.2

example : boltGet exBolt [⟨8, [1]⟩, ⟨8, [2]⟩] false = some (exPkt 2) ∧
    boltGet (boltRemove exBolt [⟨8, [1]⟩] true) [⟨8, [1]⟩, ⟨8, [2]⟩] false = none := by decide

/-- memory store, prefix query: the exact node's packet if it has one; otherwise a packet of maximal
    version among all packets stored below the node, version 0 included — for every order of the
    children lists (Go map iteration order) -/
theorem newest_version_selected_mem (root node : MNode) (name : Name) (h : root.find name = some node) :
    (∀ p, node.wire = some p → memGet root name true = some p) ∧
    (node.wire = none →
      (∀ p, memGet root name true = some p → ∃ v, (v, p) ∈ node.entries ∧ ∀ e ∈ node.entries, e.1 ≤ v) ∧
      (node.entries ≠ [] → (memGet root name true).isSome = true) ∧
      (node.entries = [] → memGet root name true = none)) := by
  have hb := findNewest_best node
  constructor
  · intro p hp
    simp [memGet, h, hp]
  · intro hw
    have hg : memGet root name true = node.findNewest.wire := by simp [memGet, h, hw]
    rw [hg]
    refine ⟨?_, ?_, ?_⟩
    · intro p hp
      exact ⟨node.findNewest.ver, hb.1 p hp, fun e he => (hb.2 e he).2⟩
    · intro hne
      obtain ⟨e, he⟩ := List.exists_mem_of_ne_nil _ hne
      exact (hb.2 e he).1
    · intro he
      cases hfw : node.findNewest.wire with
      | none => rfl
      | some p => have := hb.1 p hfw; simp [he] at this

def exMem : MNode :=
  memPut (memPut (memPut MNode.empty ⟨[⟨8, [1]⟩, ⟨8, [1]⟩], 0, exPkt 1⟩) ⟨[⟨8, [1]⟩, ⟨8, [2]⟩], 3, exPkt 2⟩)
    ⟨[⟨8, [1]⟩, ⟨8, [3]⟩], 2, exPkt 3⟩

/-- non-vacuity: three versions inserted out of order, the query node has no packet of its own -/
example : memGet exMem [⟨8, [1]⟩] true = some (exPkt 2) := by decide

/-- version 0 alone is found (F-15b) -/
example : memGet (memPut MNode.empty ⟨[⟨8, [1]⟩, ⟨8, [1]⟩], 0, exPkt 1⟩) [⟨8, [1]⟩] true = some (exPkt 1) := by decide

/-- memory store: after `Remove(name, prefix)` no query at or below `name` is answered; after
    `Remove(name, exact)` the exact query for `name` is not answered -/
theorem removed_not_served_mem (root : MNode) (name : Name) :
    (∀ rest pfx, memGet (memRemove root name true) (name ++ rest) pfx = none) ∧
    memGet (memRemove root name false) name false = none := by
  refine ⟨fun rest pfx => ?_, ?_⟩
  · unfold memGet memRemove
    rw [find_append]
    cases hf : (root.remove name true).1.find name with
    | none => rfl
    | some n =>
      obtain ⟨hw, hk⟩ := find_remove root name true n hf
      cases n with
      | mk w v kids =>
        cases hw; cases hk rfl
        cases rest with
        | nil => cases pfx <;> rfl
        | cons d ds => rfl
  · rw [memGet_exact, memRemove, lookup_remove, if_pos (show removeCond name false name = true from decide_eq_true rfl)]; rfl

/-- Any-order fetch.  For every object (`segs`: the segments Produce stored, none empty, at most
    `maxObjectSeg`) and EVERY order in which the segment Data reach `handleData` (each segment exactly
    once — `order` is any permutation of the segment numbers):
    the chunks `Content()` hands to the callback concatenate to the object's content (nothing
    corrupted, duplicated or reordered), the state ends complete without error, exactly one callback
    invocation reports completion and it is the last one. -/
theorem fetch_any_order (base : Name) (segs : List Bytes) (order : List Nat)
    (hne : segs ≠ []) (hseg : ∀ s ∈ segs, s ≠ []) (hmax : segs.length ≤ maxObjectSeg)
    (hperm : order.Perm (List.range segs.length)) :
    let r := runFetch {} (order.map fun i => Arrival.data (segPkt base segs i))
    (r.2.map (·.chunk)).flatten = segs.flatten ∧ r.1.complete = true ∧ r.1.err = false ∧
    (r.2.filter (·.complete)).length = 1 ∧ (∃ c, r.2.getLast? = some c ∧ c.complete = true) ∧
    ∀ c ∈ r.2, c.err = false := by
  intro r
  have hmem : ∀ i, i ∈ order ↔ i < segs.length := by
    intro i; rw [hperm.mem_iff]; simp
  have hrun : FInv segs order.reverse r.1 r.2 :=
    finv_run_first base segs hmax
      (fun i hi => by
        rw [List.getD_eq_getElem?_getD, List.getElem?_eq_getElem hi]; exact hseg _ (List.getElem_mem hi))
      order (List.ne_nil_of_mem ((hmem 0).mpr (List.length_pos_iff.mpr hne)))
      (hperm.nodup_iff.mpr List.nodup_range) (fun i hi => (hmem i).mp hi)
  have hw : r.1.wnd1 = segs.length := hrun.done fun i hi => List.mem_reverse.mpr ((hmem i).mpr hi)
  refine ⟨?_, ?_, hrun.noerr, ?_, hrun.lastc hw, hrun.cberr⟩
  · rw [hrun.chunks, hw, List.take_length]
  · rw [hrun.complete]; simp [hw]
  · rw [hrun.ncomplete]; simp [hw]

/-- non-vacuity: three segments arriving in the order 2, 0, 1 -/
example : List.Perm [2, 0, 1] (List.range [[1], [2], [3]].length) := by decide

example :
    (runFetch {} ([2, 0, 1].map fun i => Arrival.data (segPkt [⟨8, [1]⟩] [[1], [2], [3]] i))).2
      = [⟨[1], false, false⟩, ⟨[2, 3], true, false⟩] := by decide

/-- Retransmission: a timeout of a segment Interest that still has retries left never reaches the
    fetch state — ExpressR re-expresses the Interest, no callback is made, the window is untouched.
    Together with `fetch_any_order` (which is about the Data that do arrive, in whatever order the
    retransmissions cause) this covers every loss pattern within the retry budget. -/
theorem timeout_within_budget_absorbed (serve : Name → Bool → Option Pkt) (c : Client) (o k k' left : Nat)
    (ho : o < c.cons.length)
    (hp : (c.getCons o).pending.find? (·.1 = k) = some (k', left)) (hl : left > 0) :
    ((c.step serve (.timeout o (some k))).1.getCons o).f = (c.getCons o).f ∧
    (c.step serve (.timeout o (some k))).2.cbs = [] ∧
    (c.step serve (.timeout o (some k))).2.sent = [(o, some k)] := by
  simp only [Client.step, hp, hl, if_true]
  rw [getCons_setCons_self c _ ho]
  exact ⟨rfl, trivial, trivial⟩

/-- what Produce stores (last input buffer not empty): the packets `segPkt` of `segments bufs` under
    the returned name `<name>/v=ver` — segment `i` named `<name>/v/seg=i`, FinalBlockId = number of the
    last segment — followed by the metadata packet `<name>/32=metadata/v/seg=0` whose content names
    `<name>/v` and that FinalBlockId -/
theorem produce_packets (name : Name) (ver : Nat) (bufs : List Bytes) (hlast : LastNonempty bufs) (hne : bufs ≠ []) :
    let base := name ++ [verComp ver]
    let segs := segments bufs
    let fb := segComp (segs.length - 1)
    let mname := name ++ [metaKw, verComp ver, segComp 0]
    produce name ver bufs = some
      { ret := base,
        puts := ((List.range segs.length).map fun i => (⟨base ++ [segComp i], ver, segPkt base segs i⟩ : Put)) ++
          [⟨mname, ver, { name := mname, fb := some fb, content := encMeta base (encComp fb), md := some (base, encComp fb) }⟩] } := by
  intro base segs fb mname
  have hpos := lastNonempty_totalLen_pos bufs hne hlast
  have hcnt := (segments_shape bufs hlast hne).1
  have hlastSeg : (totalLen bufs - 1) / segSize = segs.length - 1 := by
    show _ = (segments bufs).length - 1
    rw [hcnt]; rfl
  unfold produce
  have hz : ¬ totalLen bufs = 0 := Nat.ne_of_gt hpos
  simp only [hz, if_false, hlastSeg]
  congr 2
  congr 1
  rw [zip_range_map (segments bufs) []]
  rfl

/-- Round trip: content of any non-zero size, split into input buffers in any way (last buffer not
    empty), published by Produce and fetched segment by segment in ANY arrival order, reaches the
    consumer's callback byte-for-byte, with exactly one completion report and no error. -/
theorem publish_retrieve_roundtrip (name : Name) (ver : Nat) (bufs : List Bytes) (order : List Nat)
    (hlast : LastNonempty bufs) (hne : bufs ≠ []) (hmax : (segments bufs).length ≤ maxObjectSeg)
    (hperm : order.Perm (List.range (segments bufs).length)) :
    let r := runFetch {} (order.map fun i => Arrival.data (segPkt (name ++ [verComp ver]) (segments bufs) i))
    (r.2.map (·.chunk)).flatten = bufs.flatten ∧ r.1.complete = true ∧ r.1.err = false ∧
    (r.2.filter (·.complete)).length = 1 := by
  intro r
  have hs : segments bufs ≠ [] := fun e => hne ((segments_eq_nil bufs).mp e)
  have := fetch_any_order (name ++ [verComp ver]) (segments bufs) order hs (segments_nonempty bufs hlast) hmax hperm
  obtain ⟨h1, h2, h3, h4, _, _⟩ := this
  exact ⟨by rw [← segments_concat bufs]; exact h1, h2, h3, h4⟩

/-- MEMORY store, every history of Put / Remove(exact|prefix) / transaction(Begin, Put*, Commit): the trie is
    well formed (distinct child keys) and holds at every name exactly what the abstract content
    `contents ops` holds (last Put wins, Remove exact deletes the name, Remove prefix deletes every name
    under it) — pruning of emptied nodes and the merge of a transaction trie included -/
theorem mem_store_exact (ops : List SOp) :
    (memRun ops).WF ∧ ∀ nm, (memRun ops).lookup nm = contents ops nm :=
  List.foldl_rel memRel_empty fun op _ r m h => memRel_step r m op h

/-- TLV keys: for names whose component types and value lengths fit uint64, the encoded key is injective
    and `encKey q` is a byte-prefix of `encKey nm` iff `q` is a component-prefix of `nm` -/
theorem key_prefix_is_name_prefix (q nm : Name) (hq : NameWF q) (hn : NameWF nm) :
    ((encKey q).isPrefixOf (encKey nm) = true ↔ pfxOf q nm = true) ∧ (encKey q = encKey nm → q = nm) :=
  ⟨encKey_prefix_iff q nm hq hn, encKey_inj q nm hq hn⟩

/-- BOLT store model, every history (names within Go's value ranges): the key list is strictly sorted and
    its entries are exactly `{(encKey nm, ver, pkt) | contents ops nm = some (ver, pkt)}` -/
theorem bolt_store_exact (ops : List SOp) (hw : ∀ op ∈ ops, op.WF) :
    BSorted (boltRun ops) ∧
    (∀ e ∈ boltRun ops, ∃ nm, e.key = encKey nm ∧ contents ops nm = some (e.ver, e.pkt)) ∧
    (∀ nm v p, contents ops nm = some (v, p) → ∃ e ∈ boltRun ops, e.key = encKey nm ∧ e.ver = v ∧ e.pkt = p) :=
  let h := boltRel_run ops hw
  ⟨h.sorted, h.sound, h.complete⟩

def exOps : List SOp :=
  [.put ⟨[⟨8, [1]⟩, ⟨8, [1]⟩], 5, exPkt 1⟩, .tx [⟨[⟨8, [1]⟩, ⟨8, [2]⟩], 3, exPkt 2⟩, ⟨[⟨8, [2]⟩], 9, exPkt 3⟩],
   .remove [⟨8, [2]⟩] true, .put ⟨[⟨8, [1]⟩, ⟨8, [3]⟩], 0, exPkt 4⟩]

example : ∀ op ∈ exOps, op.WF := by
  simp only [exOps, List.forall_mem_cons, SOp.WF, NameWF, CompWF, List.not_mem_nil, false_imp_iff, implies_true, and_true]
  decide

example : contents exOps [⟨8, [1]⟩, ⟨8, [2]⟩] = some (3, exPkt 2) ∧ contents exOps [⟨8, [2]⟩] = none := by decide

/-- what `Get` of the memory store answers, for ANY trie `root` that represents a content `m` -/
theorem memGet_of_rel {root : MNode} {m : Content} (h : MemRel root m) (name : Name) :
    memGet root name false = (m name).map (·.2) ∧
    (∀ v p, m name = some (v, p) → memGet root name true = some p) ∧
    (m name = none →
      (∀ p, memGet root name true = some p → ∃ v, NewestUnder m name v p) ∧
      (memGet root name true = none ↔ NoneUnder m name)) := by
  obtain ⟨hwf, hex⟩ := h
  obtain rfl : root.lookup = m := funext hex
  exact ⟨memGet_exact root name, fun v p h => memGet_of_lookup h true, memGet_newest hwf name⟩

/-- MEMORY store after any history, in terms of the abstract content: exact Get = content; prefix Get
    answers with the exact packet if there is one, otherwise with a packet stored under the prefix whose
    version is maximal among ALL names of the content under the prefix — and with nothing iff the content
    has no name under the prefix -/
theorem newest_version_selected_mem_history (ops : List SOp) (name : Name) :
    memGet (memRun ops) name false = (contents ops name).map (·.2) ∧
    (∀ v p, contents ops name = some (v, p) → memGet (memRun ops) name true = some p) ∧
    (contents ops name = none →
      (∀ p, memGet (memRun ops) name true = some p → ∃ v, NewestUnder (contents ops) name v p) ∧
      (memGet (memRun ops) name true = none ↔ NoneUnder (contents ops) name)) :=
  memGet_of_rel (mem_store_exact ops) name

/-- nothing stored under a prefix ⇒ the cursor scan is empty (so the scan-limit guard holds trivially) -/
theorem boltScan_nil_of_noneUnder (ops : List SOp) (hw : ∀ op ∈ ops, op.WF) (name : Name) (hn : NameWF name)
    (hno : NoneUnder (contents ops) name) : boltScan (boltRun ops) (encKey name) = [] := by
  have hrel := boltRel_run ops hw
  apply List.eq_nil_iff_forall_not_mem.mpr
  intro e he
  obtain ⟨hes, hp⟩ := mem_of_mem_boltScan he
  obtain ⟨nm, hnm, hm⟩ := (hrel.under_iff hn (e.ver, e.pkt)).mp ⟨e, hes, hp, rfl⟩
  rw [hno nm hnm] at hm
  cases hm

/-- what `Get` of the bolt store answers, for ANY key list `s` that represents a content `m` -/
theorem boltGet_of_rel {s : Bolt} {m : Content} (hrel : BoltRel s m) (name : Name) (hn : NameWF name) :
    boltGet s name false = (m name).map (·.2) ∧
    ((boltScan s (encKey name)).length ≤ boltScanLimit →
      (∀ p, boltGet s name true = some p → ∃ v, NewestUnder m name v p) ∧
      (boltGet s name true = none ↔ NoneUnder m name)) := by
  refine ⟨boltGet_exact_of_rel _ _ name hn hrel, fun hguard => ?_⟩
  obtain ⟨hsome, hnone⟩ := boltGet_prefix s hrel.sorted name hguard
  refine newest_of_entries (hrel.under_iff hn) (fun p hp => ?_) (fun hn e ⟨be, hbe, hp, _⟩ => hnone hn be hbe hp)
  obtain ⟨e, he, hpfx, rfl, hmax⟩ := hsome p hp
  exact ⟨e.ver, ⟨e, he, hpfx, rfl⟩, fun e' ⟨be, hbe, hp', he'⟩ => he' ▸ hmax be hbe hp'⟩

/-- BOLT store model after any history (names within Go's value ranges), in terms of the abstract
    content: exact Get = content; prefix Get — under the guard "at most 999 keys under the prefix" (the
    code's scan limit, known finding F-15d) — answers with a packet stored under the prefix whose version
    is maximal among ALL names of the content under the prefix, and with nothing iff there is none.
    The unguarded statement is false for the code (replays corpus/C15/bolt-scan-limit*.ops). -/
theorem newest_version_selected_bolt_history_partial (ops : List SOp) (hw : ∀ op ∈ ops, op.WF) (name : Name)
    (hn : NameWF name) :
    boltGet (boltRun ops) name false = (contents ops name).map (·.2) ∧
    ((boltScan (boltRun ops) (encKey name)).length ≤ boltScanLimit →
      (∀ p, boltGet (boltRun ops) name true = some p → ∃ v, NewestUnder (contents ops) name v p) ∧
      (boltGet (boltRun ops) name true = none ↔ NoneUnder (contents ops) name)) :=
  boltGet_of_rel (boltRel_run ops hw) name hn

example : (boltScan (boltRun exOps) (encKey [⟨8, [1]⟩])).length ≤ boltScanLimit := by decide

/-- Removed packets are no longer served, over every history and for both stores: right after
    `Remove(name, prefix)` no exact or prefix Get at or below `name` is answered; right after
    `Remove(name, exact)` the exact Get of `name` is not answered.  (More generally, by the two
    `…_history` theorems, a Get is answered only from `contents`, which a Remove clears until the next Put.) -/
theorem removed_not_served_history (ops : List SOp) (hw : ∀ op ∈ ops, op.WF) (name rest : Name)
    (hn : NameWF (name ++ rest)) :
    (∀ pfx, memGet (memRun (ops ++ [.remove name true])) (name ++ rest) pfx = none ∧
            boltGet (boltRun (ops ++ [.remove name true])) (name ++ rest) pfx = none) ∧
    (memGet (memRun (ops ++ [.remove name false])) name false = none ∧
     boltGet (boltRun (ops ++ [.remove name false])) name false = none) := by
  -- the last operation is the Remove: the one-step theorems of both stores apply to the stores after `ops`
  simp only [memRun_snoc, boltRun_snoc, memStep, boltStep]
  have hm := removed_not_served_mem (memRun ops) name
  have hb := removed_not_served_bolt (boltRun ops) name
  refine ⟨fun pfx => ⟨hm.1 rest pfx, hb.1 (name ++ rest) ?_ pfx⟩, hm.2, hb.2⟩
  rw [List.isPrefixOf_iff_prefix]
  exact ⟨encKey rest, (encKey_append name rest).symm⟩

/-- Both stores agree after the same history: exact Gets are equal; for a prefix Get on a name that
    holds no packet itself (the documented difference: the memory store prefers the exact packet, bolt
    the newest below it) and within bolt's scan limit, either both answer nothing or both answer with
    packets of the SAME, maximal version stored under the prefix. -/
theorem stores_agree (ops : List SOp) (hw : ∀ op ∈ ops, op.WF) (name : Name) (hn : NameWF name) :
    memGet (memRun ops) name false = boltGet (boltRun ops) name false ∧
    (contents ops name = none → (boltScan (boltRun ops) (encKey name)).length ≤ boltScanLimit →
      (memGet (memRun ops) name true = none ↔ boltGet (boltRun ops) name true = none) ∧
      ∀ p q, memGet (memRun ops) name true = some p → boltGet (boltRun ops) name true = some q →
        ∃ v, NewestUnder (contents ops) name v p ∧ NewestUnder (contents ops) name v q) := by
  have hm := newest_version_selected_mem_history ops name
  have hb := newest_version_selected_bolt_history_partial ops hw name hn
  refine ⟨by rw [hm.1, hb.1], fun h0 hguard => ?_⟩
  obtain ⟨hm1, hm2⟩ := hm.2.2 h0
  obtain ⟨hb1, hb2⟩ := hb.2 hguard
  refine ⟨by rw [hm2, hb2], ?_⟩
  intro p q hp hq
  obtain ⟨v1, h1⟩ := hm1 p hp
  obtain ⟨v2, h2⟩ := hb1 q hq
  obtain rfl := newestUnder_ver h1 h2
  exact ⟨v1, h1, h2⟩

/-- Frame property of one engine event in the multi-stream client (any number of concurrent consumes):
    the number of streams is unchanged; the stream the event belongs to (`evIdx e`) receives exactly the
    arrival `stepArr` (a Data, a final timeout/error = `handleData .timeout`, or nothing: absorbed
    retransmission, scheduling only); EVERY OTHER stream's fetch state is untouched except for `wnd2`
    (the only field the scheduler `doCheck` writes) and no callback of another stream is made. -/
theorem concurrent_step_frame (serve : Name → Bool → Option Pkt) (c : Client) (e : Ev) (h : evIdx e < c.cons.length) :
    (c.step serve e).1.cons.length = c.cons.length ∧
    ∀ o, ((((c.step serve e).1.getCons o).f).eqv
            (if o = evIdx e then (applyArr (c.getCons o).f (stepArr serve c e)).1 else (c.getCons o).f)) ∧
         cbsOf o (c.step serve e).2.cbs = (if o = evIdx e then (applyArr (c.getCons o).f (stepArr serve c e)).2 else []) := by
  obtain ⟨hl, he⟩ := step_eff serve c e h
  refine ⟨hl, fun o => ?_⟩
  have ho := he o
  by_cases hoe : o = evIdx e
  · rw [if_pos hoe.symm] at ho; rw [if_pos hoe, if_pos hoe]; exact ho
  · rw [if_neg (Ne.symm hoe)] at ho; rw [if_neg hoe, if_neg hoe]; exact ho

/-- Multi-stream refines single-stream.  For EVERY run of the client (any consume names, any event sequence
    whose stream indices exist — also runs flagged `impossible` or `spin`), and every stream `o`: the callback
    records of `o` are exactly those of the single-stream machine `runFetch {}` fed with `o`'s arrivals
    (`runArrivals`: the Data served for its segment events in order, plus `.timeout` where a retry budget is
    exhausted or the metadata step fails), and `o`'s final fetch state is that machine's final state up to
    `wnd2`.  Other streams and the scheduler never influence what stream `o` delivers. -/
theorem concurrent_fetch_refines_single (serve : Name → Bool → Option Pkt) (delivers : Nat → Key → Nat → Bool)
    (names : List Name) (evs : List Ev) (o : Nat) (hidx : ∀ e ∈ evs, evIdx e < names.length) :
    (((Client.run serve delivers names evs).1.getCons o).f).eqv (runFetch {} (runArrivals serve delivers names evs o)).1 ∧
    outsCbs o (Client.run serve delivers names evs).2 = (runFetch {} (runArrivals serve delivers names evs o)).2 := by
  have hs := start_projection o (List.range names.length) (startClient names, {}) {}
    (by intro i hi; simpa [startClient] using hi) (by rw [startClient_f]; exact Fetch.eqv_refl _)
  rw [← start_eq_foldl] at hs
  obtain ⟨s1, s2, s3⟩ := hs
  have hlen : (runInit names).1.cons.length = names.length := by
    show (Client.start names).1.cons.length = _
    rw [s1]; simp [startClient]
  have hr := run_projection serve delivers o evs (runInit names) _
    (by intro e he; rw [hlen]; exact hidx e he) s2
  obtain ⟨_, r2, r3⟩ := hr
  rw [run_eq_foldl]
  simp only [runArrivals, runFetch_append]
  have h0 : outsCbs o [(Client.start names).2] = (runFetch {} (startArrs o (startClient names) (List.range names.length))).2 := by
    simpa [outsCbs, cbsOf] using s3
  exact ⟨r2, r3.trans (congrArg (· ++ _) h0)⟩

/-- `fetch_any_order` lifted to concurrent consumes: if the arrivals of stream `o` in a run are the Data of
    all segments of its object, each once, in ANY order, then — whatever the other streams do, fail or
    starve — `o`'s callbacks deliver the exact content with exactly one completion and no error.
    PARTIAL: the hypothesis is stated on the projected arrival list; deriving it from "every segment is
    stored and every Interest of `o` gets through within the retry budget" (i.e. that the event sequence
    of a non-`impossible`, non-`spin` run contains exactly one Data per segment of `o`) needs liveness of
    the scheduler (`doCheck`/`pick` progress, LemmasPick.lean) and is not proved here. -/
theorem concurrent_fetch_any_order_partial (serve : Name → Bool → Option Pkt) (delivers : Nat → Key → Nat → Bool)
    (names : List Name) (evs : List Ev) (o : Nat) (hidx : ∀ e ∈ evs, evIdx e < names.length)
    (base : Name) (segs : List Bytes) (order : List Nat)
    (hne : segs ≠ []) (hseg : ∀ s ∈ segs, s ≠ []) (hmax : segs.length ≤ maxObjectSeg)
    (hperm : order.Perm (List.range segs.length))
    (harr : runArrivals serve delivers names evs o = order.map fun i => Arrival.data (segPkt base segs i)) :
    ((outsCbs o (Client.run serve delivers names evs).2).map (·.chunk)).flatten = segs.flatten ∧
    ((Client.run serve delivers names evs).1.getCons o).f.complete = true ∧
    ((Client.run serve delivers names evs).1.getCons o).f.err = false ∧
    ((outsCbs o (Client.run serve delivers names evs).2).filter (·.complete)).length = 1 := by
  obtain ⟨h1, h2⟩ := concurrent_fetch_refines_single serve delivers names evs o hidx
  have hf := fetch_any_order base segs order hne hseg hmax hperm
  rw [harr] at h1 h2
  obtain ⟨f1, f2, f3, f4, _, _⟩ := hf
  have hfl := Fetch.eqv_fields h1
  exact ⟨by rw [h2]; exact f1, by rw [hfl.1]; exact f2, by rw [hfl.2.1]; exact f3, by rw [h2]; exact f4⟩

/- non-vacuity (the example below): two concurrent consumes on one client; stream 1's object is not stored
   (its Interest times out 1+3 times and it fails), stream 0 gets its two segments around those events -/
def exA : Name := [⟨8, [1]⟩, verComp 1]
def exB : Name := [⟨8, [2]⟩, verComp 1]
def exServe (n : Name) (_ : Bool) : Option Pkt :=
  if n = exA ++ [segComp 0] then some (segPkt exA [[7], [8]] 0)
  else if n = exA ++ [segComp 1] then some (segPkt exA [[7], [8]] 1) else none
def exEvs : List Ev :=
  [.data 0 (some 0), .timeout 1 (some 0), .timeout 1 (some 0), .timeout 1 (some 0), .data 0 (some 1), .timeout 1 (some 0)]

example : (∀ e ∈ exEvs, evIdx e < [exA, exB].length) ∧
    (Client.run exServe (fun _ _ _ => true) [exA, exB] exEvs).1.impossible = false ∧
    outsCbs 0 (Client.run exServe (fun _ _ _ => true) [exA, exB] exEvs).2 = [⟨[7], false, false⟩, ⟨[8], true, false⟩] ∧
    outsCbs 1 (Client.run exServe (fun _ _ _ => true) [exA, exB] exEvs).2 = [⟨[], true, true⟩] := by decide +kernel

/-- **every call returns** (`rrSegFetcher.doCheck` after fix 8e7a43d): for ANY fetcher state (any stream
    list, any round-robin index, any fetch states — reachable or not) the selection loop of `doCheck` ends
    within the `(L+1)²+1` iterations the model grants it. -/
theorem selection_loop_returns (c : Client) : (pickOf c).2.2.2 = false :=
  pickOf_returns c

/-- the explicit non-termination outcome `spin` is unreachable in every run -/
theorem run_never_spins (serve : Name → Bool → Option Pkt) (delivers : Nat → Key → Nat → Bool)
    (names : List Name) (evs : List Ev) : (Client.run serve delivers names evs).1.spin = false :=
  (Inv4.run serve delivers names evs).spin

/-- before the fix the loop did not return (corpus/C15/concurrent-failed-stream-spin.ops): with the
    reset of `first` removed it is exactly this termination measure that fails; here the fixed loop on
    the same shape (finished stream first, a stream with all Interests out behind it) -/
def exSpinShape : Client :=
  { cons := [{ f := { complete := true } }, { f := { segCnt := some 1, wnd2 := 1 } }]
    streams := [0, 1]
    rrIndex := 1 }

example : (pickOf exSpinShape).2.2 = (none, false) := by decide

/-- the selection loop hands out Interests only to queued streams that have a segment to request
    (not finished, not waiting for their first segment, not all Interests out), and it drops only
    finished streams from the queue -/
theorem selection_returns_only_ready (c : Client) :
    (∀ s : Nat, (pickOf c).2.2.1 = some s → s ∈ (pickOf c).1 ∧ eligible (fOf c.cons s) = true) ∧
    (∀ x ∈ c.streams, x ∈ (pickOf c).1 ∨ (fOf c.cons x).complete = true) :=
  ⟨(pickOf_spec c).2.2.1, (pickOf_spec c).2.1⟩

/-- **a queued stream is served**: in every run, after every event (Data, final failure, retry, metadata
    result — whichever stream it belongs to): if the window has room and some stream is queued in the
    fetcher, then a queued unfinished stream has Interests out (so the next result calls `doCheck`
    again) — a stream that could be served is never left behind an idle fetcher.  This is what the
    seeded change C15-3 (no `queueCheck` on failure results) broke.
    `hserve`: the producer's store answers an exact Get with a packet of that name. -/
theorem queued_stream_eventually_served (serve : Name → Bool → Option Pkt)
    (hserve : ∀ (nm : Name) (p : Pkt), serve nm false = some p → p.name = nm)
    (delivers : Nat → Key → Nat → Bool) (names : List Name) (evs : List Ev) :
    let c := (Client.run serve delivers names evs).1
    c.outstanding < window → c.streams ≠ [] →
      ∃ x ∈ c.streams, (c.getCons x).f.complete = false ∧ (c.getCons x).pending ≠ [] := by
  exact (run_books serve hserve delivers names evs).1.served_pending (Inv4.run serve delivers names evs).served

/-- **no starvation**: in every run of the multi-stream client — any number of concurrent Consume calls,
    any order of results, any of them failures — once no Interest is pending any more (no segment
    Interest, no metadata Interest), EVERY Consume has completed (with content or with an error). -/
theorem no_starvation_at_quiescence (serve : Name → Bool → Option Pkt)
    (hserve : ∀ (nm : Name) (p : Pkt), serve nm false = some p → p.name = nm)
    (delivers : Nat → Key → Nat → Bool) (names : List Name) (evs : List Ev)
    (hq : ∀ o : Nat, ((Client.run serve delivers names evs).1.getCons o).pending = [] ∧
      ((Client.run serve delivers names evs).1.getCons o).metaPending = false) :
    ∀ o : Nat, o < names.length → ((Client.run serve delivers names evs).1.getCons o).f.complete = true := by
  obtain ⟨I5, pl⟩ := run_books serve hserve delivers names evs
  have hstreams := I5.quiet_streams (Inv4.run serve delivers names evs).served (fun o => (hq o).1)
  intro o ho
  rcases pl o ho with h | h | h
  · rw [hstreams] at h; cases h
  · rw [(hq o).2] at h; cases h
  · exact h

/-- **completion exactly once, per Consume, also under concurrency**: in every run every Consume's
    callback reports completion at most once; at quiescence (no Interest pending) it has reported it
    exactly once (unless the Go index panic on an empty Data name was hit, which is an explicit
    outcome of the model). -/
theorem completion_exactly_once_concurrent (serve : Name → Bool → Option Pkt)
    (hserve : ∀ (nm : Name) (p : Pkt), serve nm false = some p → p.name = nm)
    (delivers : Nat → Key → Nat → Bool) (names : List Name) (evs : List Ev)
    (hidx : ∀ e ∈ evs, evIdx e < names.length) (o : Nat) (ho : o < names.length) :
    nComplete (outsCbs o (Client.run serve delivers names evs).2) ≤ 1 ∧
    ((∀ o' : Nat, ((Client.run serve delivers names evs).1.getCons o').pending = [] ∧
        ((Client.run serve delivers names evs).1.getCons o').metaPending = false) →
      ((Client.run serve delivers names evs).1.getCons o).f.panic = false →
      nComplete (outsCbs o (Client.run serve delivers names evs).2) = 1) := by
  obtain ⟨e1, e2⟩ := concurrent_fetch_refines_single serve delivers names evs o hidx
  obtain ⟨r1, r2, _⟩ := runFetch_once (runArrivals serve delivers names evs o) {} rfl rfl
  rw [e2]
  refine ⟨r1, fun hq hp => ?_⟩
  have hc := no_starvation_at_quiescence serve hserve delivers names evs hq o ho
  obtain ⟨ec, _, ep⟩ := Fetch.eqv_fields e1
  exact r2 (by rw [← ec]; exact hc) (by rw [← ep]; exact hp)

/-- non-vacuity: two concurrent Consume calls, one of them fails while the other completes; at
    quiescence both have completed, each exactly once -/
example :
    let r := Client.run exServe (fun _ _ _ => true) [exA, exB] exEvs
    (∀ o, (r.1.getCons o).pending = [] ∧ (r.1.getCons o).metaPending = false) ∧
    (r.1.getCons 0).f.complete = true ∧ (r.1.getCons 1).f.complete = true ∧
    nComplete (outsCbs 0 r.2) = 1 ∧ nComplete (outsCbs 1 r.2) = 1 := by
  intro r
  -- one evaluation of the run: its two consumes, and the four facts about them
  have h : (r.1.cons.length = 2 ∧ ∀ o < 2, (r.1.getCons o).pending = [] ∧ (r.1.getCons o).metaPending = false) ∧
      (r.1.getCons 0).f.complete = true ∧ (r.1.getCons 1).f.complete = true ∧
      nComplete (outsCbs 0 r.2) = 1 ∧ nComplete (outsCbs 1 r.2) = 1 := by decide +kernel
  refine ⟨fun o => ?_, h.2⟩
  by_cases ho : o < 2
  · exact h.1.2 o ho
  · rw [getCons_default _ o (h.1.1 ▸ ho)]; exact ⟨rfl, rfl⟩

/-- Memory store: Begin, any interleaving of Puts and Removes, Commit equals the Removes (in order) applied
    to the committed trie followed by the transaction of the Puts — `Remove` acts on the committed packets
    also while a transaction is open, the transaction's Puts appear at Commit.  Hence such a history is the
    `SOp` history `removes ++ [tx puts]` and `mem_store_exact`, `newest_version_selected_mem_history`,
    `removed_not_served_history` apply to it: a packet removed inside the transaction (and not Put by it)
    is not served afterwards. -/
theorem remove_inside_transaction (root : MNode) (items : List TxItem) :
    memStx root items =
      memTx ((txRemoves items).foldl (fun r nb => memRemove r nb.1 nb.2) root) (txPuts items) := by
  have key : ∀ (items : List TxItem) (r t : MNode),
      items.foldl txStep (r, t) =
      ((txRemoves items).foldl (fun r nb => memRemove r nb.1 nb.2) r, (txPuts items).foldl memPut t) := by
    intro items
    induction items with
    | nil => intro r t; rfl
    | cons it rest ih =>
      intro r t
      cases it with
      | put p => simp only [List.foldl_cons, txStep, ih, txRemoves, txPuts, List.filterMap_cons]
      | remove n b => simp only [List.foldl_cons, txStep, ih, txRemoves, txPuts, List.filterMap_cons]
  simp only [memStx, memTx, key]

example : memGet (memStx exMem [.put ⟨[⟨8, [9]⟩], 1, exPkt 9⟩, .remove [⟨8, [1]⟩] true]) [⟨8, [1]⟩] true = none ∧
    memGet (memStx exMem [.put ⟨[⟨8, [9]⟩], 1, exPkt 9⟩, .remove [⟨8, [1]⟩] true]) [⟨8, [9]⟩] false = some (exPkt 9) := by
  decide

end Ndn.C15
