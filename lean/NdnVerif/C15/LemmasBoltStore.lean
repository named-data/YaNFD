/-
  C15 — the bolt model holds exactly the packets Put and not Removed (`BoltRel`, carried along a history by
  core's `List.foldl_rel`); TLV key encoding is injective and byte-prefix of keys = component-prefix of names, both from
  `SelfDelim` of Base/Code.lean (a component's TLV is self-delimiting, so is their concatenation).
-/
import NdnVerif.C15.LemmasHistory
import NdnVerif.C15.LemmasBolt
import NdnVerif.Base.Code
namespace Ndn.C15

theorem encKey_append (a b : Name) : encKey (a ++ b) = encKey a ++ encKey b := List.flatMap_append

theorem encComp_ne_nil (c : Component) : encComp c ≠ [] := by
  simp [encComp, encTL_ne_nil]

theorem encComp_selfDelim : SelfDelim CompWF encComp := selfDelim_encTL.frame selfDelim_encTL

theorem encKey_prefix_iff (q nm : Name) (hq : NameWF q) (hn : NameWF nm) :
    (encKey q).isPrefixOf (encKey nm) = true ↔ pfxOf q nm = true := by
  rw [List.isPrefixOf_iff_prefix, pfxOf_iff]
  exact (encComp_selfDelim.flatMap_prefix encComp_ne_nil hq hn).trans
    ⟨fun ⟨t, e⟩ => ⟨t, e.symm⟩, fun ⟨t, e⟩ => ⟨t, e.symm⟩⟩

theorem encKey_inj (a b : Name) (ha : NameWF a) (hb : NameWF b) (h : encKey a = encKey b) : a = b :=
  encComp_selfDelim.flatMap_inj encComp_ne_nil ha hb h

theorem sorted_key_inj (s : Bolt) (hs : BSorted s) (x y : BEntry) (hx : x ∈ s) (hy : y ∈ s) (hk : x.key = y.key) : x = y := by
  induction s with
  | nil => simp at hx
  | cons a t ih =>
    have hs' := List.pairwise_cons.mp hs
    simp only [List.mem_cons] at hx hy
    rcases hx with rfl | hx <;> rcases hy with rfl | hy
    · rfl
    · have := hs'.1 y hy
      rw [hk, bytesLt_irrefl] at this; cases this
    · have := hs'.1 x hx
      rw [← hk, bytesLt_irrefl] at this; cases this
    · exact ih hs'.2 hx hy

/-- the sorted list `s` represents the content `m` -/
structure BoltRel (s : Bolt) (m : Content) : Prop where
  sorted : BSorted s
  support : ∀ nm, m nm ≠ none → NameWF nm
  sound : ∀ e ∈ s, ∃ nm, e.key = encKey nm ∧ m nm = some (e.ver, e.pkt)
  complete : ∀ nm v p, m nm = some (v, p) → ∃ e ∈ s, e.key = encKey nm ∧ e.ver = v ∧ e.pkt = p

theorem boltRel_empty : BoltRel [] (fun _ => none) :=
  ⟨List.Pairwise.nil, by simp, by simp, by simp⟩

theorem boltRel_put (s : Bolt) (m : Content) (p : Put) (hp : NameWF p.name) (h : BoltRel s m) :
    BoltRel (boltPut s p) (m.put p) := by
  refine ⟨boltPutKey_sorted s _ h.sorted, ?_, ?_, ?_⟩
  · intro nm hne
    simp only [Content.put] at hne
    split at hne
    · rename_i e; rw [e]; exact hp
    · exact h.support nm hne
  · intro x hx
    by_cases hk : x.key = encKey p.name
    · have := sorted_key_inj _ (boltPutKey_sorted s _ h.sorted) x _ hx ((mem_boltPutKey s _ _).2 (Or.inl rfl)) hk
      subst this
      exact ⟨p.name, rfl, by simp [Content.put]⟩
    · rcases (mem_boltPutKey s _ x).1 hx with rfl | hxs
      · exact absurd rfl hk
      · obtain ⟨nm, h1, h2⟩ := h.sound x hxs
        refine ⟨nm, h1, ?_⟩
        have : nm ≠ p.name := by intro e; apply hk; rw [h1, e]
        simp [Content.put, this, h2]
  · intro nm v q hm
    simp only [Content.put] at hm
    split at hm
    · rename_i e
      simp only [Option.some.injEq, Prod.mk.injEq] at hm
      exact ⟨_, (mem_boltPutKey s _ _).2 (Or.inl rfl), by rw [e], hm.1, hm.2⟩
    · rename_i hne
      obtain ⟨e, he, h1, h2, h3⟩ := h.complete nm v q hm
      refine ⟨e, (mem_boltPutKey s _ e).2 (Or.inr ⟨he, ?_⟩), h1, h2, h3⟩
      intro hk
      apply hne
      exact encKey_inj nm p.name (h.support nm (by simp [hm])) hp (by rw [← h1, hk])

theorem mem_boltRemove {s : Bolt} {name nm : Name} {pfx : Bool} {e : BEntry} (hn : NameWF name) (hw : NameWF nm)
    (hk : e.key = encKey nm) :
    e ∈ boltRemove s name pfx ↔ e ∈ s ∧ removeCond name pfx nm = false := by
  unfold removeCond
  cases pfx with
  | true =>
    simp only [boltRemove, if_true, List.mem_filter, Bool.not_eq_true', hk]
    rw [← Bool.not_eq_true, ← Bool.not_eq_true (pfxOf name nm), encKey_prefix_iff name nm hn hw]
  | false =>
    simp only [boltRemove, Bool.false_eq_true, if_false, List.mem_filter, decide_eq_true_eq, hk,
      decide_eq_false_iff_not]
    exact and_congr_right fun _ => ⟨fun h e => h (by rw [e]), fun h e => h (encKey_inj nm name hw hn e)⟩

theorem boltRel_remove (s : Bolt) (m : Content) (name : Name) (pfx : Bool) (hn : NameWF name) (h : BoltRel s m) :
    BoltRel (boltRemove s name pfx) (m.remove name pfx) := by
  have hsub : ∀ x ∈ boltRemove s name pfx, x ∈ s := fun x hx => by
    unfold boltRemove at hx
    split at hx <;> exact (List.mem_filter.mp hx).1
  refine ⟨boltRemove_sorted s name pfx h.sorted, fun nm hne => h.support nm fun hm => hne ?_, fun x hx => ?_,
    fun nm v q hm => ?_⟩
  · rw [Content.remove_apply, hm, ite_self]
  · obtain ⟨nm, h1, h2⟩ := h.sound x (hsub x hx)
    have hkeep := ((mem_boltRemove hn (h.support nm (by rw [h2]; simp)) h1).mp hx).2
    exact ⟨nm, h1, by rw [Content.remove_apply, hkeep, if_neg Bool.false_ne_true, h2]⟩
  · rw [Content.remove_apply] at hm
    by_cases hkeep : removeCond name pfx nm = true
    · rw [if_pos hkeep] at hm; cases hm
    · rw [if_neg hkeep] at hm
      obtain ⟨e, he, h1, h2, h3⟩ := h.complete nm v q hm
      exact ⟨e, (mem_boltRemove hn (h.support nm (by rw [hm]; simp)) h1).mpr ⟨he, Bool.eq_false_iff.mpr hkeep⟩, h1, h2, h3⟩

theorem boltRel_step (s : Bolt) (m : Content) (op : SOp) (hw : op.WF) (h : BoltRel s m) :
    BoltRel (boltStep s op) (m.apply op) := by
  cases op with
  | put p => exact boltRel_put s m p hw h
  | remove name pfx => exact boltRel_remove s m name pfx hw h
  | tx puts => exact List.foldl_rel h fun p hmem s m h => boltRel_put s m p (hw p hmem) h

theorem boltRel_run (ops : List SOp) (hw : ∀ op ∈ ops, op.WF) : BoltRel (boltRun ops) (contents ops) :=
  List.foldl_rel boltRel_empty fun op hmem s m h => boltRel_step s m op (hw op hmem) h

theorem boltGet_exact_of_rel (s : Bolt) (m : Content) (name : Name) (hn : NameWF name) (h : BoltRel s m) :
    boltGet s name false = (m name).map (·.2) := by
  simp only [boltGet, Bool.false_eq_true, if_false]
  cases hm : m name with
  | none =>
    simp only [Option.map_none, Option.map_eq_none_iff, List.find?_eq_none, decide_eq_true_eq]
    intro e he hk
    obtain ⟨nm, h1, h2⟩ := h.sound e he
    have : nm = name := encKey_inj nm name (h.support nm (by simp [h2])) hn (by rw [← h1, hk])
    rw [this, hm] at h2; cases h2
  | some vp =>
    obtain ⟨v, p⟩ := vp
    obtain ⟨e, he, h1, h2, h3⟩ := h.complete name v p hm
    cases hf : s.find? (fun e => decide (e.key = encKey name)) with
    | none =>
      have := List.find?_eq_none.mp hf e he
      simp [h1] at this
    | some e' =>
      have hk : e'.key = encKey name := by simpa using List.find?_some hf
      have hmem := List.mem_of_find?_eq_some hf
      have := sorted_key_inj s h.sorted e' e hmem he (by rw [hk, h1])
      simp [this, h3]

namespace BoltRel

/-- the hypothesis `hE` of `newest_of_entries` for the bolt store (`entries_iff` is the trie's) -/
theorem under_iff {s : Bolt} {m : Content} (h : BoltRel s m) {name : Name} (hn : NameWF name) (e : Nat × Pkt) :
    (∃ be ∈ s, (encKey name).isPrefixOf be.key = true ∧ e = (be.ver, be.pkt)) ↔
      ∃ nm, pfxOf name nm = true ∧ m nm = some e := by
  constructor
  · rintro ⟨be, hbe, hp, he⟩
    obtain ⟨nm, k1, k2⟩ := h.sound be hbe
    rw [k1] at hp
    exact ⟨nm, (encKey_prefix_iff name nm hn (h.support nm (by rw [k2]; simp))).mp hp, he ▸ k2⟩
  · rintro ⟨nm, hnm, hm⟩
    obtain ⟨be, hbe, k1, k2, k3⟩ := h.complete nm e.1 e.2 hm
    refine ⟨be, hbe, ?_, by rw [k2, k3]⟩
    rw [k1]
    exact (encKey_prefix_iff name nm hn (h.support nm (by rw [hm]; simp))).mpr hnm

end BoltRel

end Ndn.C15
