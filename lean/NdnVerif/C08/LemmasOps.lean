/-
  What the operations of the forwarding thread do to the state: shapes and induction principles of Interest /
  Data processing and of the timer loop, and the predicates (`Closed`) that no packet can break.
-/
import NdnVerif.C08.LemmasPit
import NdnVerif.C07.LemmasInv
namespace Ndn.C08
open Ndn.C07 (fill)

theorem dnlInsert_eq (s : St) (n : Name) (x : Nat) : ∃ d, dnlInsert s n x = { s with dnl := d } := by
  unfold dnlInsert
  split
  · exact ⟨s.dnl, rfl⟩
  · exact ⟨_, rfl⟩

theorem fold_dnlInsert {P : St → Prop} (hins : ∀ a n x, P a → P (dnlInsert a n x)) {α : Type} (l : List α)
    (f : α → Name × Nat) (s : St) (h : P s) : P (l.foldl (fun s r => dnlInsert s (f r).1 (f r).2) s) := by
  induction l generalizing s with
  | nil => exact h
  | cons a t ih => exact ih _ (hins s _ _ h)

theorem fold_dnlInsert_eq {α : Type} (l : List α) (f : α → Name × Nat) (s : St) :
    ∃ d, l.foldl (fun s r => dnlInsert s (f r).1 (f r).2) s = { s with dnl := d } :=
  fold_dnlInsert (P := fun b => ∃ d, b = { s with dnl := d })
    (fun a n x ⟨d, e⟩ => (dnlInsert_eq a n x).imp fun d' e' => by rw [e', e]) l f s ⟨s.dnl, rfl⟩

def PitEntry.Bounded (e : PitEntry) : Prop := ∀ r ∈ e.ins ++ e.outs, r.exp ≤ e.horizon

/-- what a packet makes of the entry `e`; the upper bounds hold if the records of `e` ended by its horizon -/
structure Resched (now : Nat) (e e' : PitEntry) : Prop where
  tok : e'.tok = e.tok
  name : e'.name = e.name
  sched : ∃ p, e'.sched = some p ∧ now ≤ p ∧ (e.Bounded → p ≤ max e'.horizon now)
  recs : e.Bounded → e'.Bounded

theorem Resched.of_latest {now : Nat} {e e' : PitEntry} (e0 : PitEntry) (htok : e'.tok = e.tok) (hname : e'.name = e.name)
    (hs : e'.sched = some (latest now e0))
    (h0 : e.Bounded → ∀ r ∈ e0.ins ++ e0.outs, r.exp ≤ e'.horizon) (hb : e.Bounded → e'.Bounded) : Resched now e e' :=
  ⟨htok, hname, ⟨_, hs, latest_ge _ _, fun h => latest_le _ _ _ (h0 h)⟩, hb⟩

/-- `InsertInRecord` -/
def withIn (now : Nat) (e : PitEntry) (i : Interest) : PitEntry :=
  { e with
    ins := match e.ins.find? (fun r => r.face == i.face) with
      | some _ => e.ins.map (fun r => if r.face = i.face then ⟨i.face, i.nonce, now, now + i.life, i.name⟩ else r)
      | none => e.ins ++ [⟨i.face, i.nonce, now, now + i.life, i.name⟩]
    horizon := max e.horizon (now + i.life) }

theorem withIn_bounded {now : Nat} {e : PitEntry} {i : Interest} (h : e.Bounded) : (withIn now e i).Bounded := by
  intro r hr
  show r.exp ≤ max e.horizon (now + i.life)
  rcases List.mem_append.mp hr with hr | hr
  · unfold withIn at hr
    split at hr
    · obtain ⟨x, hx, rfl⟩ := List.mem_map.mp hr
      split
      · exact Nat.le_max_right _ _
      · exact Nat.le_trans (h x (List.mem_append_left _ hx)) (Nat.le_max_left _ _)
    · rcases List.mem_append.mp hr with hr | hr
      · exact Nat.le_trans (h r (List.mem_append_left _ hr)) (Nat.le_max_left _ _)
      · rw [List.mem_singleton.mp hr]; exact Nat.le_max_right _ _
  · exact Nat.le_trans (h r (List.mem_append_right _ hr)) (Nat.le_max_left _ _)

def fwdEntry (s : St) (e : PitEntry) (i : Interest) : PitEntry :=
  { e with
    sched := some (latest s.now e)
    outs := (fwdTargets s { e with sched := some (latest s.now e) } i).foldl
      (fun outs nh => upsertOut outs nh.1 i.nonce s.now (s.now + i.life) i.name) e.outs }

theorem forward_fst (s : St) (e : PitEntry) (i : Interest) :
    (forward s e i).1 = { s with pit := setEntry s.pit (fwdEntry s e i) } := rfl

theorem fwdEntry_resched {s : St} {e : PitEntry} {i : Interest} (hl : s.now + i.life ≤ e.horizon) :
    Resched s.now e (fwdEntry s e i) := by
  refine Resched.of_latest e rfl rfl rfl (fun h => h) fun h r hr => ?_
  rcases List.mem_append.mp hr with hr | hr
  · exact h r (List.mem_append_left _ hr)
  · exact fold_upsertOut_recs _ _ _ _ _ hl _ (fun r hr => h r (List.mem_append_right _ hr)) r hr

/-- the entry written back after a Content-Store hit (`SendData` deletes the in-record) -/
def hitEntry (now : Nat) (e : PitEntry) (i : Interest) : PitEntry :=
  { withIn now e i with
    ins := (withIn now e i).ins.filter (fun r => r.face != i.face)
    sched := some (latest now { withIn now e i with ins := (withIn now e i).ins.filter (fun r => r.face != i.face) }) }

theorem hitEntry_resched (now : Nat) (e : PitEntry) (i : Interest) : Resched now e (hitEntry now e i) := by
  have hb : e.Bounded → (hitEntry now e i).Bounded := fun h r hr => by
    refine withIn_bounded (i := i) h r ?_
    rcases List.mem_append.mp hr with hr | hr
    · exact List.mem_append_left _ (List.mem_filter.mp hr).1
    · exact List.mem_append_right _ hr
  exact Resched.of_latest _ rfl rfl rfl hb hb

/-- before the PIT entry is written back: a dead-nonce insertion (retransmission) or the Content-Store lookup -/
def Side (ord : List Name → List Name) (i : Interest) (s s1 : St) : Prop :=
  (∃ x, s1 = dnlInsert s i.name x) ∨ s1 = { s with cs := (C07.findData ord s.cs i.name i.cbp i.mbf).1 }

theorem Side.frame {ord : List Name → List Name} {i : Interest} {s s1 : St} (h : Side ord i s s1) :
    s1.pit = s.pit ∧ s1.now = s.now := by
  rcases h with ⟨x, rfl⟩ | rfl
  · obtain ⟨d, e⟩ := dnlInsert_eq s i.name x
    rw [e]; exact ⟨rfl, rfl⟩
  · exact ⟨rfl, (C07.findData_frame ord s.cs _ _ _).2.2⟩

/-- the three ways `interestTail` ends: retransmission, Content-Store miss, Content-Store hit -/
theorem interestTail_cases (ord : List Name → List Name) (s : St) (e : PitEntry) (i : Interest) :
    (∃ x, interestTail ord s e i = forward (dnlInsert s i.name x) (withIn s.now e i) i) ∨
    interestTail ord s e i =
      forward { s with cs := (C07.findData ord s.cs i.name i.cbp i.mbf).1 } (withIn s.now e i) i ∨
    ∃ sends, interestTail ord s e i =
      ({ s with cs := (C07.findData ord s.cs i.name i.cbp i.mbf).1, pit := setEntry s.pit (hitEntry s.now e i) }, sends) := by
  unfold interestTail hitEntry withIn
  simp only
  cases e.ins.find? (fun r => r.face == i.face) with
  | some r0 => exact Or.inl ⟨r0.nonce, rfl⟩
  | none =>
    simp only
    cases (C07.findData ord s.cs i.name i.cbp i.mbf).2 with
    | none => exact Or.inr (Or.inl rfl)
    | some qa => exact Or.inr (Or.inr ⟨_, rfl⟩)

theorem interestTail_shape (ord : List Name → List Name) (s : St) (e : PitEntry) (i : Interest) :
    ∃ s1 e', (interestTail ord s e i).1 = { s1 with pit := setEntry s1.pit e' } ∧ Side ord i s s1 ∧ Resched s.now e e' := by
  have hfwd : ∀ s1, Side ord i s s1 → ∃ s' e', (forward s1 (withIn s.now e i) i).1 = { s' with pit := setEntry s'.pit e' } ∧
      Side ord i s s' ∧ Resched s.now e e' := by
    intro s1 h1
    have hr := fwdEntry_resched (s := s1) (e := withIn s.now e i) (i := i) (by rw [h1.frame.2]; exact Nat.le_max_right _ _)
    rw [h1.frame.2] at hr
    exact ⟨s1, _, forward_fst s1 _ i, h1, hr.tok, hr.name,
      hr.sched.imp fun p hp => ⟨hp.1, hp.2.1, fun h => hp.2.2 (withIn_bounded h)⟩, fun h => hr.recs (withIn_bounded h)⟩
  rcases interestTail_cases ord s e i with ⟨x, h⟩ | h | ⟨sends, h⟩ <;> rw [h]
  · exact hfwd _ (Or.inl ⟨x, rfl⟩)
  · exact hfwd _ (Or.inr rfl)
  · exact ⟨_, _, rfl, Or.inr rfl, hitEntry_resched s.now e i⟩

/-- `InsertInterest`, no match -/
def newEntry (s : St) (i : Interest) : PitEntry := { tok := s.tokNext, name := i.name, cbp := i.cbp, mbf := i.mbf }

def openEntry (s : St) (i : Interest) : St :=
  { s with cs := { s.cs with nodes := fill s.cs.nodes i.name }, pit := s.pit ++ [newEntry s i],
           nPit := s.nPit + 1, tokNext := s.tokNext + 1 }

theorem procInterest_cases (ord : List Name → List Name) (s : St) (i : Interest) :
    procInterest ord s i = (s, []) ∨ (∃ e ∈ s.pit, procInterest ord s i = interestTail ord s e i) ∨
    procInterest ord s i = interestTail ord (openEntry s i) (newEntry s i) i := by
  rw [procInterest]
  by_cases hd : dnlHas s.dnl i.name i.nonce = true
  · rw [if_pos hd]; exact Or.inl rfl
  · rw [if_neg hd]
    cases hf : s.pit.find? (fun e => decide (e.name = i.name ∧ e.cbp = i.cbp ∧ e.mbf = i.mbf)) with
    | some e =>
      by_cases hdup : (e.ins.any fun r => r.face != i.face && r.nonce == i.nonce) = true
      · exact Or.inl (if_pos hdup)
      · exact Or.inr (Or.inl ⟨e, List.mem_of_find?_eq_some hf, if_neg hdup⟩)
    | none => exact Or.inr (Or.inr rfl)

theorem satisfy_cases (s : St) (e : PitEntry) :
    (satisfy s e = s ∧ ∀ x ∈ s.pit, x.tok ≠ e.tok) ∨ ∃ c ∈ s.pit, c.tok = e.tok ∧
      satisfy s e = { s with pit := setEntry s.pit { c with ins := [], outs := [], sched := some s.now, satisfied := true } } := by
  unfold satisfy
  rcases getEntry_cases s.pit e.tok with ⟨c, hc, ht, hg⟩ | ⟨hg, hno⟩
  · exact Or.inr ⟨c, hc, ht, by rw [hg]; rfl⟩
  · refine Or.inl ⟨?_, hno⟩
    rw [hg]
    exact congrArg (fun p => { s with pit := p })
      (setEntry_of_no_tok (e := { e with ins := [], outs := [], sched := some s.now, satisfied := true }) hno)

/-- `procData` is the Content-Store insertion, then per match dead-nonce insertions (of some records `rs`) and
    `satisfy`; `P` may look at the matches satisfied so far -/
theorem procData_ind (s : St) (d : DataPkt) (P : St → List PitEntry → Prop)
    (h0 : P { s with cs := C07.insertData (pitAt s.pit) s.cs d.name d.wire d.fresh } [])
    (hstep : ∀ (s' : St) (l : List PitEntry) (e : PitEntry) (rs : List Rec), P s' l →
      P (satisfy (rs.foldl (fun s r => dnlInsert s d.name r.nonce) s') e) (l ++ [e])) :
    P (procData s d).1 (dataMatches { s with cs := C07.insertData (pitAt s.pit) s.cs d.name d.wire d.fresh } d) := by
  unfold procData
  simp only
  generalize ({ s with cs := C07.insertData (pitAt s.pit) s.cs d.name d.wire d.fresh } : St) = s1 at h0
  generalize dataMatches s1 d = ms
  match ms with
  | [] => exact h0
  | [e] => exact hstep s1 [] e e.outs h0
  | e0 :: e1 :: rest =>
    simp only
    generalize (e0 :: e1 :: rest) = l
    suffices ∀ (pre : List PitEntry) (acc : St × List Send), P acc.1 pre → P (l.foldl (fun (acc : St × List Send) e =>
        (satisfy (((getEntry acc.1.pit e0.tok).getD e0).outs.foldl (fun s r => dnlInsert s d.name r.nonce) acc.1) e,
         acc.2 ++ (((getEntry (((getEntry acc.1.pit e0.tok).getD e0).outs.foldl (fun s r => dnlInsert s d.name r.nonce) acc.1).pit e.tok).getD e).ins.filter
            (fun r => r.face != d.face)).map (fun r => Send.data r.face d.name))) acc).1 (pre ++ l) from this [] (s1, []) h0
    induction l with
    | nil => intro pre acc h; rw [List.append_nil]; exact h
    | cons x t ih =>
      intro pre acc h
      rw [List.foldl_cons, List.append_cons]
      exact ih _ _ (hstep acc.1 pre x _ h)

/-- `PitCsTree.Update` without the re-arming of the signal -/
def expire (t : Nat) (s : St) : St := (s.pit.filter (isDue t)).foldl (fun s e => removeEntry (finalize s e) e) s

theorem fireUpdate_eq (s : St) :
    ∃ d, d ≤ period ∧ fireUpdate s = { expire s.pitNext (setNow s s.pitNext) with pitNext := s.pitNext + d } := by
  refine ⟨_, ?_, rfl⟩
  split
  · split
    · exact Nat.min_le_right _ _
    · exact Nat.le_refl _
  · exact Nat.le_refl _

theorem advanceTo_ind {P : St → Prop} (tie : Nat → Bool) (target : Nat)
    (hU : ∀ s, P s → s.pitNext ≤ target → s.pitNext ≤ s.dnlNext → P (fireUpdate s))
    (hD : ∀ s, P s → s.dnlNext ≤ target → s.dnlNext ≤ s.pitNext → P (fireDnl s))
    (hN : ∀ s, P s → target < s.pitNext → target < s.dnlNext → P (setNow s target))
    (f : Nat) (s : St) (h : P s) : P (advanceTo tie f s target) := by
  induction f generalizing s with
  | zero => exact h
  | succ f ih =>
    rw [advanceTo]
    by_cases hc : s.pitNext ≤ target ∧ (s.pitNext < s.dnlNext ∨ (s.pitNext = s.dnlNext ∧ tie s.pitNext))
    · rw [if_pos hc]
      exact ih _ (hU s h hc.1 (hc.2.elim Nat.le_of_lt fun e => Nat.le_of_eq e.1))
    · rw [if_neg hc]
      by_cases hd : s.dnlNext ≤ target
      · rw [if_pos hd]
        -- were the update signal earlier it would be due too, and would have fired
        exact ih _ (hD s h hd (Nat.le_of_not_lt fun hlt => hc ⟨Nat.le_trans (Nat.le_of_lt hlt) hd, Or.inl hlt⟩))
      · rw [if_neg hd]
        by_cases hp : s.pitNext ≤ target
        · rw [if_pos hp]
          exact ih _ (hU s h hp (Nat.le_of_lt (Nat.lt_of_le_of_lt hp (Nat.lt_of_not_le hd))))
        · rw [if_neg hp]
          exact hN s h (Nat.lt_of_not_le hp) (Nat.lt_of_not_le hd)

theorem procInterestPkt_cases (ord : List Name → List Name) (s : St) (face : Nat) (name : Name) (cbp mbf : Bool)
    (nonce : Option Nat) (life : Nat) (hop nhf : Option Nat) :
    procInterestPkt ord s face name cbp mbf nonce life hop nhf = (s, []) ∨
    ∃ i, procInterestPkt ord s face name cbp mbf nonce life hop nhf = procInterest ord s i := by
  unfold procInterestPkt
  by_cases h1 : (!faceExists face) = true
  · exact Or.inl (if_pos h1)
  · rw [if_neg h1]
    by_cases h2 : (hop == some 0) = true
    · exact Or.inl (if_pos h2)
    · rw [if_neg h2]
      by_cases h3 : isLocalhost name = true
      · exact Or.inl (if_pos h3)
      · rw [if_neg h3]
        cases nonce with
        | none => exact Or.inl rfl
        | some x => exact Or.inr ⟨_, rfl⟩

theorem procDataPkt_cases (s : St) (d : DataPkt) : procDataPkt s d = (s, []) ∨ procDataPkt s d = procData s d := by
  unfold procDataPkt
  by_cases h1 : (!faceExists d.face) = true
  · exact Or.inl (if_pos h1)
  · rw [if_neg h1]
    by_cases h2 : isLocalhost d.name = true
    · exact Or.inl (if_pos h2)
    · exact Or.inr (if_neg h2)

theorem step_cases (s : St) (op : Op) :
    step s op = s ∨ (∃ ord i, step s op = (procInterest ord s i).1) ∨ (∃ d, step s op = (procData s d).1) ∨
    (∃ k, step s op = setCap s k) ∨ ∃ tie fuel d, step s op = advanceTo tie fuel s (s.now + d) := by
  cases op with
  | interest ord face name cbp mbf nonce life hop nhf =>
    rcases procInterestPkt_cases ord s face name cbp mbf nonce life hop nhf with e | ⟨i, e⟩
    · exact Or.inl (congrArg Prod.fst e)
    · exact Or.inr (Or.inl ⟨ord, i, congrArg Prod.fst e⟩)
  | data d =>
    rcases procDataPkt_cases s d with e | e
    · exact Or.inl (congrArg Prod.fst e)
    · exact Or.inr (Or.inr (Or.inl ⟨d, congrArg Prod.fst e⟩))
  | cap k => exact Or.inr (Or.inr (Or.inr (Or.inl ⟨k, rfl⟩)))
  | adv tie fuel d => exact Or.inr (Or.inr (Or.inr (Or.inr ⟨tie, fuel, d, rfl⟩)))

/-- only Content Store, counters and PIT differ, and what is newly scheduled is not scheduled in the past -/
def Quiet (a b : St) : Prop :=
  b.dnl = a.dnl ∧ b.now = a.now ∧ b.pitNext = a.pitNext ∧ b.dnlNext = a.dnlNext ∧ b.cfg = a.cfg ∧
  ∀ x ∈ b.pit, ∀ p, x.sched = some p → x ∈ a.pit ∨ a.now ≤ p

/-- every step of packet processing is a `Quiet` change or a dead-nonce insertion, so these two clauses suffice -/
structure Closed (P : St → Prop) : Prop where
  quiet : ∀ a b, Quiet a b → P a → P b
  ins : ∀ a n x, P a → P (dnlInsert a n x)

theorem Closed.upd {P : St → Prop} (hc : Closed P) {s : St} (h : P s) (c : C07.St) (hnow : c.now = s.cs.now)
    {e' : PitEntry} {p : Nat} (hs : e'.sched = some p) (hp : s.now ≤ p) : P { s with cs := c, pit := setEntry s.pit e' } := by
  refine hc.quiet s _ ⟨rfl, hnow, rfl, rfl, rfl, fun x hx q hq => ?_⟩ h
  rcases mem_setEntry hx with rfl | ⟨hx', _⟩
  · exact Or.inr (Option.some.inj (hs.symm.trans hq) ▸ hp)
  · exact Or.inl hx'

theorem procInterest_closed {P : St → Prop} (hc : Closed P) (ord : List Name → List Name) (s : St) (i : Interest) (h : P s) :
    P (procInterest ord s i).1 := by
  have tail : ∀ b e, P b → P (interestTail ord b e i).1 := by
    intro b e hb
    obtain ⟨s1, e', he, h1, hr⟩ := interestTail_shape ord b e i
    obtain ⟨p, hs, hp, _⟩ := hr.sched
    have hp1 : s1.now ≤ p := h1.frame.2 ▸ hp
    rw [he]
    rcases h1 with ⟨_, rfl⟩ | rfl
    · exact hc.upd (hc.ins b _ _ hb) _ rfl hs hp1
    · exact hc.upd hb _ (C07.findData_frame ord b.cs _ _ _).2.2 hs hp
  rcases procInterest_cases ord s i with e | ⟨e, _, he⟩ | e
  · rw [e]; exact h
  · rw [he]; exact tail s e h
  · rw [e]
    -- the entry just created is not scheduled
    refine tail _ _ (hc.quiet s _ ⟨rfl, rfl, rfl, rfl, rfl, fun x hx p hp => ?_⟩ h)
    rcases List.mem_append.mp hx with hx | hx
    · exact Or.inl hx
    · rw [List.mem_singleton.mp hx] at hp; cases hp

theorem satisfy_closed {P : St → Prop} (hc : Closed P) (s : St) (e : PitEntry) (h : P s) : P (satisfy s e) := by
  rcases satisfy_cases s e with ⟨e0, _⟩ | ⟨c, _, _, e0⟩
  · rw [e0]; exact h
  · rw [e0]; exact hc.upd h s.cs rfl rfl (Nat.le_refl _)

theorem procData_closed {P : St → Prop} (hc : Closed P) (s : St) (d : DataPkt) (h : P s) : P (procData s d).1 :=
  procData_ind s d (fun s' _ => P s')
    (hc.quiet s _ ⟨rfl, C07.insertData_now _ _ _ _ _, rfl, rfl, rfl, fun _ hx _ _ => Or.inl hx⟩ h)
    fun s' _ e rs hs => satisfy_closed hc _ e (fold_dnlInsert hc.ins rs (fun r => (d.name, r.nonce)) s' hs)

theorem removeEntry_quiet (s : St) (e : PitEntry) : Quiet s (removeEntry s e) :=
  ⟨rfl, rfl, rfl, rfl, rfl, fun _ hx _ _ => Or.inl (removeSwap_sub hx)⟩

theorem expire_closed {P : St → Prop} (hc : Closed P) (t : Nat) (s : St) (h : P s) : P (expire t s) := by
  unfold expire
  generalize s.pit.filter (isDue t) = l
  induction l generalizing s with
  | nil => exact h
  | cons e r ih =>
    exact ih _ (hc.quiet _ _ (removeEntry_quiet _ e) (fold_dnlInsert hc.ins e.outs (fun r => (r.name, r.nonce)) s h))

theorem frame_closed (a : St) :
    Closed fun b => b.now = a.now ∧ b.dnlNext = a.dnlNext ∧ b.cfg = a.cfg := by
  refine ⟨fun b c ⟨_, h2, _, h4, h5, _⟩ ⟨g2, g4, g5⟩ => ⟨h2.trans g2, h4.trans g4, h5.trans g5⟩, fun b n x hb => ?_⟩
  obtain ⟨d, e⟩ := dnlInsert_eq b n x
  rw [e]; exact hb

end Ndn.C08
