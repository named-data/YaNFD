/-
  The virtual tables of the hash-table FIB.
  `VInv m inK vn vt`: for the set `inK` of real names, the virtual tables `vn` (virtTableNames) and
  `vt` (virtTable) hold exactly one entry per virtual name `take m x` of a real name `x` with
  `m ≤ |x|`, the recorded names are exactly those real names, and md is the longest of them.
-/
import NdnVerif.C08.Assoc
namespace Ndn.C08
open Ndn.C07 (memb rem mem_rem mem_addNew)

structure VInv (m : Nat) (inK : Name → Prop) (vn : List (Name × List Name)) (vt : List (Name × Nat)) : Prop where
  nodupN : (keys vn).Nodup
  nodupT : (keys vt).Nodup
  same : ∀ v, v ∈ keys vt ↔ v ∈ keys vn
  names : ∀ v, v ∈ keys vn → ∀ x, x ∈ aget [] vn v ↔ (inK x ∧ m ≤ x.length ∧ x.take m = v)
  nonempty : ∀ v, v ∈ keys vn → aget [] vn v ≠ []
  md : ∀ v, v ∈ keys vt → aget 0 vt v = maxLen (aget [] vn v)
  covered : ∀ x, inK x → m ≤ x.length → x.take m ∈ keys vn

/-- what `VInv` says of one virtual name `v`, key of the tables or not -/
structure VAt (m : Nat) (inK : Name → Prop) (vn : List (Name × List Name)) (vt : List (Name × Nat)) (v : Name) :
    Prop where
  same : v ∈ keys vt ↔ v ∈ keys vn
  names : ∀ x, x ∈ aget [] vn v ↔ (inK x ∧ m ≤ x.length ∧ x.take m = v)
  nonempty : v ∈ keys vn → aget [] vn v ≠ []
  md : aget 0 vt v = maxLen (aget [] vn v)

theorem VInv.at {m : Nat} {inK : Name → Prop} {vn vt} (h : VInv m inK vn vt) (v : Name) : VAt m inK vn vt v := by
  by_cases hv : v ∈ keys vn
  · exact ⟨h.same v, h.names v hv, h.nonempty v, h.md v ((h.same v).mpr hv)⟩
  · refine ⟨h.same v, fun x => ?_, fun hk => absurd hk hv, ?_⟩
    · rw [aget_of_not_mem _ _ _ hv]
      exact ⟨fun hx => (nomatch hx), fun ⟨h1, h2, h3⟩ => absurd (h3 ▸ h.covered x h1 h2) hv⟩
    · rw [aget_of_not_mem _ _ _ hv, aget_of_not_mem _ _ _ (fun hk => hv ((h.same v).mp hk))]; rfl

theorem VInv.of_at {m : Nat} {inK : Name → Prop} {vn vt} (hN : (keys vn).Nodup) (hT : (keys vt).Nodup)
    (h : ∀ v, VAt m inK vn vt v) : VInv m inK vn vt := by
  refine ⟨hN, hT, fun v => (h v).same, fun v _ => (h v).names, fun v => (h v).nonempty, fun v _ => (h v).md, ?_⟩
  intro x hx hl
  -- a virtual name with a recorded name is a key: absent keys read as `[]`
  refine Classical.byContradiction fun hk => ?_
  have := ((h (x.take m)).names x).mpr ⟨hx, hl, rfl⟩
  rw [aget_of_not_mem _ _ _ hk] at this
  cases this

def OffAt {β : Type} (v0 : Name) (a b : List (Name × β)) : Prop :=
  ∀ v, v ≠ v0 → (v ∈ keys b ↔ v ∈ keys a) ∧ ∀ d, aget d b v = aget d a v

theorem OffAt.refl {β : Type} (v0 : Name) (a : List (Name × β)) : OffAt v0 a a := fun _ _ => ⟨Iff.rfl, fun _ => rfl⟩

theorem OffAt.aset {β : Type} (v0 : Name) (a : List (Name × β)) (x : β) : OffAt v0 a (aset a v0 x) := fun v hv =>
  ⟨by rw [mem_keys_aset]; exact ⟨fun h => h.resolve_right hv, Or.inl⟩, fun d => aget_aset_of_ne d a x hv⟩

theorem OffAt.adel {β : Type} (v0 : Name) (a : List (Name × β)) : OffAt v0 a (adel a v0) := fun v hv =>
  ⟨by rw [mem_keys_adel]; exact ⟨fun h => h.1, fun h => ⟨h, hv⟩⟩, fun d => by rw [aget_adel, if_neg hv]⟩

theorem VInv.modify {m : Nat} {inK inK' : Name → Prop} {vn vn' vt vt'} (h : VInv m inK vn vt) (v0 : Name)
    (hnN : (keys vn').Nodup) (hnT : (keys vt').Nodup) (hN : OffAt v0 vn vn') (hT : OffAt v0 vt vt')
    (hK : ∀ x, x.take m ≠ v0 → (inK' x ↔ inK x)) (h0 : VAt m inK' vn' vt' v0) : VInv m inK' vn' vt' := by
  refine VInv.of_at hnN hnT fun v => ?_
  by_cases hv : v = v0
  · exact hv ▸ h0
  · obtain ⟨kN, gN⟩ := hN v hv
    obtain ⟨kT, gT⟩ := hT v hv
    have hv' := h.at v
    refine ⟨by rw [kN, kT]; exact hv'.same, fun x => ?_, by rw [kN, gN]; exact hv'.nonempty, by rw [gN, gT]; exact hv'.md⟩
    rw [gN, hv'.names x]
    exact and_congr_left fun hx => (hK x (hx.2 ▸ hv)).symm

theorem VInv.congr {m : Nat} {inK inK' : Name → Prop} {vn vt} (h : VInv m inK vn vt)
    (hk : ∀ x, m ≤ x.length → (inK x ↔ inK' x)) : VInv m inK' vn vt := by
  refine ⟨h.nodupN, h.nodupT, h.same, fun v hv x => ?_, h.nonempty, h.md, fun x hx hl => h.covered x ((hk x hl).mpr hx) hl⟩
  rw [h.names v hv x]
  exact and_congr_left fun hx => hk x hx.1

/-- an absent virtual name reads as md 0, so the new md is the same maximum in both cases -/
theorem md_insert (vt : List (Name × Nat)) (v : Name) (k : Nat) :
    (if vt.any (fun p => decide (p.1 = v)) then max (aget 0 vt v) k else k) = max (aget 0 vt v) k := by
  split
  · rfl
  · rename_i hany
    rw [aget_of_not_mem _ _ _ (fun hk => hany ((any_key_iff _ _).mpr hk)), Nat.zero_max]

/-- `insertEntryEnc` for a name with a virtual name -/
theorem VInv.insert {m : Nat} {inK : Name → Prop} {vn vt} (h : VInv m inK vn vt) (n : Name) (hl : m ≤ n.length) :
    VInv m (fun x => inK x ∨ x = n)
      (aset vn (n.take m) (if memb n (aget [] vn (n.take m)) then aget [] vn (n.take m) else aget [] vn (n.take m) ++ [n]))
      (aset vt (n.take m) (if vt.any (fun p => decide (p.1 = n.take m)) then max (aget 0 vt (n.take m)) n.length else n.length)) := by
  have hat := h.at (n.take m)
  refine h.modify (n.take m) (nodup_keys_aset _ _ _ h.nodupN) (nodup_keys_aset _ _ _ h.nodupT) (OffAt.aset _ _ _)
    (OffAt.aset _ _ _) ?_ ⟨?_, ?_, ?_, ?_⟩
  · intro x hx
    exact ⟨fun hk => hk.resolve_right fun e => hx (e ▸ rfl), Or.inl⟩
  · rw [mem_keys_aset, mem_keys_aset]
    exact ⟨fun _ => Or.inr rfl, fun _ => Or.inr rfl⟩
  · intro x
    rw [aget_aset_self, mem_addNew, hat.names]
    constructor
    · rintro (⟨h1, h2, h3⟩ | rfl)
      · exact ⟨Or.inl h1, h2, h3⟩
      · exact ⟨Or.inr rfl, hl, rfl⟩
    · rintro ⟨h1 | rfl, h2, h3⟩
      · exact Or.inl ⟨h1, h2, h3⟩
      · exact Or.inr rfl
  · intro _
    rw [aget_aset_self]
    exact List.ne_nil_of_mem (mem_addNew.mpr (Or.inr rfl))
  · rw [aget_aset_self, aget_aset_self, md_insert, maxLen_addNew, hat.md]

/-- the virtual part of `pruneTables` -/
def vnDel (vn : List (Name × List Name)) (n v : Name) : List (Name × List Name) :=
  if (rem n (aget [] vn v)).isEmpty then adel vn v else aset vn v (rem n (aget [] vn v))

def vtDel (vn' : List (Name × List Name)) (vt : List (Name × Nat)) (n v : Name) : List (Name × Nat) :=
  if n.length == aget 0 vt v then
    (if vn'.any (fun p => decide (p.1 = v)) then aset vt v (maxLen (aget [] vn' v)) else adel vt v)
  else vt

theorem vnDel_at {vn : List (Name × List Name)} (hN : (keys vn).Nodup) (n v : Name) :
    (keys (vnDel vn n v)).Nodup ∧ OffAt v vn (vnDel vn n v) ∧
    (v ∈ keys (vnDel vn n v) ↔ rem n (aget [] vn v) ≠ []) ∧ aget [] (vnDel vn n v) v = rem n (aget [] vn v) := by
  unfold vnDel
  split
  · rename_i he
    have hnil := List.isEmpty_iff.mp he
    refine ⟨nodup_keys_adel _ _ hN, OffAt.adel _ _, ?_, ?_⟩
    · rw [mem_keys_adel, hnil]; exact ⟨fun h => absurd rfl h.2, fun h => absurd rfl h⟩
    · rw [aget_adel, if_pos rfl, hnil]
  · rename_i he
    exact ⟨nodup_keys_aset _ _ _ hN, OffAt.aset _ _ _,
      ⟨fun _ e => he (by rw [e]; rfl), fun _ => (mem_keys_aset _ _ _ _).mpr (Or.inr rfl)⟩, aget_aset_self _ _ _ _⟩

/-- what `vtDel` leaves at `v`, when `vt` held the longest length of the names `L` recorded for `v`, `n` among them,
    and `vn'` records the others: their longest length, under a key iff there are any -/
theorem vtDel_at {vn' : List (Name × List Name)} {vt : List (Name × Nat)} {n v : Name} {L : List Name}
    (hT : (keys vt).Nodup) (hk : v ∈ keys vt) (hmd : aget 0 vt v = maxLen L) (hn : n ∈ L)
    (hk' : v ∈ keys vn' ↔ rem n L ≠ []) (hg : aget [] vn' v = rem n L) :
    (keys (vtDel vn' vt n v)).Nodup ∧ OffAt v vt (vtDel vn' vt n v) ∧
    (v ∈ keys (vtDel vn' vt n v) ↔ rem n L ≠ []) ∧ aget 0 (vtDel vn' vt n v) v = maxLen (rem n L) := by
  unfold vtDel
  by_cases hc : n.length = aget 0 vt v
  · rw [if_pos (beq_iff_eq.mpr hc)]
    by_cases hany : v ∈ keys vn'
    · rw [if_pos ((any_key_iff _ _).mpr hany), hg]
      exact ⟨nodup_keys_aset _ _ _ hT, OffAt.aset _ _ _,
        ⟨fun _ => hk'.mp hany, fun _ => (mem_keys_aset _ _ _ _).mpr (Or.inr rfl)⟩, aget_aset_self _ _ _ _⟩
    · rw [if_neg fun h => hany ((any_key_iff _ _).mp h)]
      have hnil : rem n L = [] := Classical.byContradiction fun e => hany (hk'.mpr e)
      refine ⟨nodup_keys_adel _ _ hT, OffAt.adel _ _, ?_, ?_⟩
      · rw [mem_keys_adel, hnil]; exact ⟨fun h => absurd rfl h.2, fun h => absurd rfl h⟩
      · rw [aget_adel, if_pos rfl, hnil]; rfl
  · -- `n` was not the longest: a longest name stays, md is unchanged
    rw [if_neg fun hb => hc (beq_iff_eq.mp hb)]
    obtain ⟨y, hy, hyl⟩ := maxLen_attained (List.ne_nil_of_mem hn)
    have hy' : y ∈ rem n L := mem_rem.mpr ⟨hy, fun e => hc (by rw [hmd, ← hyl, e])⟩
    refine ⟨hT, OffAt.refl _ _, ⟨fun _ => List.ne_nil_of_mem hy', fun _ => hk⟩, ?_⟩
    rw [hmd]
    exact Nat.le_antisymm (hyl ▸ mem_le_maxLen hy') (maxLen_mono fun x hx => (mem_rem.mp hx).1)

theorem VInv.delete {m : Nat} {inK : Name → Prop} {vn vt} (h : VInv m inK vn vt) (n : Name) (hn : inK n)
    (hl : m ≤ n.length) :
    VInv m (fun x => inK x ∧ x ≠ n) (vnDel vn n (n.take m)) (vtDel (vnDel vn n (n.take m)) vt n (n.take m)) := by
  have hat := h.at (n.take m)
  have hkN : n.take m ∈ keys vn := h.covered n hn hl
  obtain ⟨n1, n2, n3, n4⟩ := vnDel_at h.nodupN n (n.take m)
  obtain ⟨t1, t2, t3, t4⟩ := vtDel_at h.nodupT (hat.same.mpr hkN) hat.md ((hat.names n).mpr ⟨hn, hl, rfl⟩) n3 n4
  refine h.modify (n.take m) n1 t1 n2 t2 (fun x hx => ⟨fun hk => hk.1, fun hk => ⟨hk, fun e => hx (e ▸ rfl)⟩⟩)
    ⟨t3.trans n3.symm, fun x => ?_, fun hk => n4 ▸ n3.mp hk, t4.trans (congrArg maxLen n4.symm)⟩
  rw [n4, mem_rem, hat.names, and_right_comm]

end Ndn.C08
