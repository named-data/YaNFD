/-
  A Data packet schedules every PIT entry it satisfies for "now".
-/
import NdnVerif.C08.LemmasOps
import NdnVerif.C08.Spec
namespace Ndn.C08

theorem mem_prefixMatch {pit : List PitEntry} {n : Name} {e : PitEntry} :
    e ∈ prefixMatch pit n ↔ e ∈ pit ∧ dataSatisfies n e = true := by
  simp only [prefixMatch, List.mem_flatMap, List.mem_reverse, List.mem_range, List.mem_filter, Bool.and_eq_true,
    decide_eq_true_eq, Bool.or_eq_true, beq_iff_eq, dataSatisfies]
  constructor
  · rintro ⟨k, hk, he, hname, hc⟩
    refine ⟨he, ?_⟩
    rcases hc with hc | hc
    · right
      refine ⟨hc, ?_⟩
      rw [hname, List.length_take, Nat.min_eq_left (by omega)]
    · left; rw [hname, hc, List.take_length]
  · rintro ⟨he, hs⟩
    rcases hs with hs | ⟨hc, hs⟩
    · exact ⟨n.length, by omega, he, by rw [hs, List.take_length], Or.inr rfl⟩
    · refine ⟨e.name.length, ?_, he, hs.symm, Or.inl hc⟩
      have := congrArg List.length hs
      simp only [List.length_take] at this
      omega

theorem procData_sched (s : St) (d : DataPkt) :
    ∀ x ∈ (procData s d).1.pit, (∃ y ∈ s.pit, y.tok = x.tok ∧ y.name = x.name ∧ y.cbp = x.cbp) ∧
      (x.tok ∈ (dataMatches { s with cs := C07.insertData (pitAt s.pit) s.cs d.name d.wire d.fresh } d).map (·.tok) →
        x.sched = some s.now) := by
  refine (procData_ind s d
    (fun s' l => s'.now = s.now ∧ ∀ x ∈ s'.pit, (∃ y ∈ s.pit, y.tok = x.tok ∧ y.name = x.name ∧ y.cbp = x.cbp) ∧
      (x.tok ∈ l.map (·.tok) → x.sched = some s.now))
    ⟨C07.insertData_now _ _ _ _ _, fun x hx => ⟨⟨x, hx, rfl, rfl, rfl⟩, fun h => nomatch h⟩⟩ ?_).2
  intro s' l e rs ⟨hn, hp⟩
  obtain ⟨dl, e1⟩ := fold_dnlInsert_eq rs (fun r => (d.name, r.nonce)) s'
  rw [e1]
  have hin : ∀ {x : PitEntry}, x.tok ≠ e.tok → x.tok ∈ (l ++ [e]).map (·.tok) → x.tok ∈ l.map (·.tok) := by
    intro x hne hx
    rw [List.map_append, List.mem_append] at hx
    exact hx.resolve_right fun h => hne (List.mem_singleton.mp h)
  rcases satisfy_cases { s' with dnl := dl } e with ⟨e0, hno⟩ | ⟨c, hc, hct, e0⟩ <;> rw [e0]
  · exact ⟨hn, fun x hx => ⟨(hp x hx).1, fun hT => (hp x hx).2 (hin (hno x hx) hT)⟩⟩
  · refine ⟨hn, fun x hx => ?_⟩
    rcases mem_setEntry hx with rfl | ⟨hx', hne⟩
    · exact ⟨(hp c hc).1, fun _ => congrArg some hn⟩
    · exact ⟨(hp x hx').1, fun hT => (hp x hx').2 (hin (hct ▸ hne) hT)⟩

theorem procData_prompt (s : St) (d : DataPkt) (htok : d.tok = none) :
    ∀ x ∈ (procData s d).1.pit, dataSatisfies d.name x = true → x.sched = some s.now := by
  intro x hx hsx
  obtain ⟨⟨y, hy, y1, y2, y3⟩, hs⟩ := procData_sched s d x hx
  refine hs (y1 ▸ List.mem_map_of_mem ?_)
  rw [dataMatches, htok]
  refine mem_prefixMatch.mpr ⟨hy, ?_⟩
  rw [dataSatisfies, y2, y3]; exact hsx

end Ndn.C08
