/-
  The timing invariant `InvT` (the update signal is armed within one period and no scheduled entry is
  more than one period behind it), and all three invariants — `Inv8`, `InvT`, `DInv` — along every
  history; the configuration never changes (`run_cfg`).
-/
import NdnVerif.C08.LemmasInv8
import NdnVerif.C08.LemmasDnl
namespace Ndn.C08

structure InvT (s : St) : Prop where
  armed : s.pitNext ≤ s.now + period
  behind : ∀ e ∈ s.pit, ∀ p, e.sched = some p → s.pitNext ≤ p + period

theorem invT_init (cfg : Cfg) (k : Nat) : InvT (init cfg k) :=
  ⟨Nat.le_add_left period 0, fun _ h => absurd h List.not_mem_nil⟩

theorem invT_closed : Closed InvT := by
  constructor
  · intro a b ⟨_, h2, h3, _, _, h6⟩ h
    refine ⟨h2 ▸ h3 ▸ h.armed, fun e he p hp => ?_⟩
    rw [h3]
    rcases h6 e he p hp with hold | hnew
    · exact h.behind e hold p hp
    · exact Nat.le_trans h.armed (Nat.add_le_add_right hnew _)
  · intro a n x h
    obtain ⟨d, e⟩ := dnlInsert_eq a n x
    rw [e]; exact ⟨h.armed, h.behind⟩

theorem fireUpdate_invT {s : St} (hi : Inv8 s) (hord : s.pitNext ≤ s.dnlNext) : InvT (fireUpdate s) := by
  obtain ⟨_, r2, r4, r6⟩ := fireUpdate_spec hi hord
  refine ⟨r2 ▸ r4, fun e he p hp => ?_⟩
  -- what stays was not due: its time lies after the instant of this update
  have hnd := ((r6 e).mp he).2
  rw [isDue, hp, decide_eq_false_iff_not] at hnd
  exact Nat.le_trans r4 (Nat.add_le_add_right (Nat.le_of_lt (Nat.lt_of_not_le hnd)) _)

theorem InvT.later {s s' : St} (ht : InvT s) (hn : s.now ≤ s'.now) (hp : s'.pitNext = s.pitNext) (hpit : s'.pit = s.pit) :
    InvT s' :=
  ⟨hp ▸ Nat.le_trans ht.armed (Nat.add_le_add_right hn _), hpit ▸ hp ▸ ht.behind⟩

theorem advanceTo_inv (tie : Nat → Bool) (f : Nat) {s : St} (hi : Inv8 s) (hT : InvT s) (hd : DInv s) (target : Nat)
    (ht : s.now ≤ target) :
    (Inv8 (advanceTo tie f s target) ∧ InvT (advanceTo tie f s target) ∧ DInv (advanceTo tie f s target)) ∧
    ∀ x ∈ (advanceTo tie f s target).pit, x ∈ s.pit := by
  refine (advanceTo_ind (P := fun s' => ((Inv8 s' ∧ InvT s' ∧ DInv s') ∧ ∀ x ∈ s'.pit, x ∈ s.pit) ∧ s'.now ≤ target)
    tie target ?_ ?_ ?_ f s ⟨⟨⟨hi, hT, hd⟩, fun _ h => h⟩, ht⟩).1
  · intro a ⟨⟨⟨hi, _, hd⟩, hsub⟩, _⟩ hp hord
    obtain ⟨r1, r2, _, r6⟩ := fireUpdate_spec hi hord
    exact ⟨⟨⟨r1, fireUpdate_invT hi hord, fireUpdate_dinv hd hi.time.1⟩, fun x hx => hsub x ((r6 x).mp hx).1⟩, r2 ▸ hp⟩
  · intro a ⟨⟨⟨hi, hT, hd⟩, hsub⟩, _⟩ hp hord
    exact ⟨⟨⟨fireDnl_inv hi hord, hT.later (s' := fireDnl a) hi.time.2 rfl rfl, fireDnl_dinv hd hi.time.2⟩, hsub⟩, hp⟩
  · intro a ⟨⟨⟨hi, hT, hd⟩, hsub⟩, hn⟩ h1 h2
    exact ⟨⟨⟨setNow_inv hi _ hn (Nat.le_of_lt h1) (Nat.le_of_lt h2), hT.later (s' := setNow a target) hn rfl rfl, setNow_dinv hd _ hn⟩, hsub⟩,
      Nat.le_refl _⟩

theorem step_inv {s : St} (hi : Inv8 s) (hT : InvT s) (hd : DInv s) (op : Op) :
    Inv8 (step s op) ∧ InvT (step s op) ∧ DInv (step s op) := by
  rcases step_cases s op with e | ⟨ord, i, e⟩ | ⟨d, e⟩ | ⟨k, e⟩ | ⟨tie, fuel, d, e⟩ <;> rw [e]
  · exact ⟨hi, hT, hd⟩
  · exact ⟨procInterest_inv ord hi i, procInterest_closed invT_closed ord s i hT, procInterest_closed dinv_closed ord s i hd⟩
  · exact ⟨procData_inv hi d, procData_closed invT_closed s d hT, procData_closed dinv_closed s d hd⟩
  · exact ⟨setCap_inv8 hi k, ⟨hT.armed, hT.behind⟩, ⟨hd.sorted, hd.born, hd.armed, hd.rank⟩⟩
  · exact (advanceTo_inv tie fuel hi hT hd _ (Nat.le_add_right _ _)).1

theorem run_inv {s : St} (hi : Inv8 s) (hT : InvT s) (hd : DInv s) (ops : List Op) :
    Inv8 (run s ops) ∧ InvT (run s ops) ∧ DInv (run s ops) := by
  induction ops generalizing s with
  | nil => exact ⟨hi, hT, hd⟩
  | cons op t ih =>
    obtain ⟨h1, h2, h3⟩ := step_inv hi hT hd op
    exact ih h1 h2 h3

theorem reachable_all (cfg : Cfg) (cap : Nat) (ops : List Op) :
    Inv8 (run (init cfg cap) ops) ∧ InvT (run (init cfg cap) ops) ∧ DInv (run (init cfg cap) ops) :=
  run_inv (inv8_init cfg cap) (invT_init cfg cap) (dinv_init cfg cap) ops

theorem run_cfg (s : St) (ops : List Op) : (run s ops).cfg = s.cfg := by
  have hc := fun a : St => frame_closed a
  induction ops generalizing s with
  | nil => rfl
  | cons op t ih =>
    refine (ih (step s op)).trans ?_
    rcases step_cases s op with e | ⟨ord, i, e⟩ | ⟨d, e⟩ | ⟨k, e⟩ | ⟨tie, fuel, d, e⟩ <;> rw [e]
    · exact (procInterest_closed (hc s) ord s i ⟨rfl, rfl, rfl⟩).2.2
    · exact (procData_closed (hc s) s d ⟨rfl, rfl, rfl⟩).2.2
    · rfl
    · refine advanceTo_ind (P := fun s' => s'.cfg = s.cfg) tie _ (fun a ha _ _ => ?_) (fun a ha _ _ => ha)
        (fun a ha _ _ => ha) fuel s rfl
      obtain ⟨d, _, e⟩ := fireUpdate_eq a
      rw [e]
      exact ((expire_closed (hc (setNow a a.pitNext)) a.pitNext _ ⟨rfl, rfl, rfl⟩).2.2).trans ha

end Ndn.C08
