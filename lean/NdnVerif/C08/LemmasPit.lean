/-
  The PIT as a list of entries with distinct tokens: `setEntry`, `getEntry`, `removeSwap`; bounds on
  `latest` and on the expiry of out-records.
-/
import NdnVerif.C08.Model
import NdnVerif.C07.Lemmas
namespace Ndn.C08

theorem mem_setEntry {pit : List PitEntry} {e x : PitEntry} (h : x ∈ setEntry pit e) :
    x = e ∨ (x ∈ pit ∧ x.tok ≠ e.tok) := by
  simp only [setEntry, List.mem_map] at h
  obtain ⟨y, hy, rfl⟩ := h
  by_cases ht : y.tok = e.tok
  · simp [ht]
  · simp [ht, hy]

theorem setEntry_map_tok (pit : List PitEntry) (e : PitEntry) : (setEntry pit e).map (·.tok) = pit.map (·.tok) := by
  simp only [setEntry, List.map_map]
  apply List.map_congr_left
  intro x _
  by_cases ht : x.tok = e.tok <;> simp [ht]

theorem setEntry_map_name (pit : List PitEntry) (e : PitEntry) (h : ∀ x ∈ pit, x.tok = e.tok → x.name = e.name) :
    (setEntry pit e).map (·.name) = pit.map (·.name) := by
  simp only [setEntry, List.map_map]
  apply List.map_congr_left
  intro x hx
  by_cases ht : x.tok = e.tok
  · simp [ht, h x hx ht]
  · simp [ht]

theorem setEntry_length (pit : List PitEntry) (e : PitEntry) : (setEntry pit e).length = pit.length := by
  simp [setEntry]

theorem filter_tok_length {pit : List PitEntry} (hn : (pit.map (·.tok)).Nodup) {e : PitEntry} (he : e ∈ pit) :
    (pit.filter (fun x => x.tok != e.tok)).length + 1 = pit.length :=
  length_filter_one (nodup_of_nodup_map _ hn) he fun x hx => by
    rw [bne_eq_false_iff_eq]
    exact ⟨inj_of_nodup_map _ hn hx he, fun h => h ▸ rfl⟩

theorem removeSwap_spec {pit : List PitEntry} (hn : (pit.map (·.tok)).Nodup) {e : PitEntry} (he : e ∈ pit) :
    (∀ x, x ∈ removeSwap pit e ↔ x ∈ pit ∧ x.tok ≠ e.tok) ∧
    (removeSwap pit e).length + 1 = pit.length ∧ ((removeSwap pit e).map (·.tok)).Nodup := by
  unfold removeSwap
  have hne : pit.filter (fun x => decide (x.name = e.name)) ≠ [] := by
    intro h
    have : e ∈ pit.filter (fun x => decide (x.name = e.name)) := by simp [he]
    rw [h] at this; cases this
  cases hl : (pit.filter (fun x => decide (x.name = e.name))).getLast? with
  | none => rw [List.getLast?_eq_none_iff] at hl; exact absurd hl hne
  | some l =>
    have hlmem : l ∈ pit.filter (fun x => decide (x.name = e.name)) := List.mem_of_getLast? hl
    have hlp : l ∈ pit := (List.mem_filter.mp hlmem).1
    simp only
    by_cases hle : l.tok = e.tok
    · rw [if_pos hle]
      refine ⟨fun x => ?_, filter_tok_length hn he, hn.sublist (List.Sublist.map _ List.filter_sublist)⟩
      rw [List.mem_filter, bne_iff_ne]
    · rw [if_neg hle]
      have hpn : pit.Nodup := nodup_of_nodup_map _ hn
      refine ⟨?_, ?_, ?_⟩
      · intro y
        simp only [List.mem_map, List.mem_filter, bne_iff_ne, ne_eq]
        constructor
        · rintro ⟨x, ⟨hx, hxl⟩, rfl⟩
          by_cases hxe : x.tok = e.tok
          · rw [if_pos hxe]; exact ⟨hlp, hle⟩
          · rw [if_neg hxe]; exact ⟨hx, hxe⟩
        · rintro ⟨hy, hye⟩
          by_cases hyl : y.tok = l.tok
          · have : y = l := inj_of_nodup_map _ hn hy hlp hyl
            subst this
            exact ⟨e, ⟨he, fun h => hle h.symm⟩, by simp⟩
          · exact ⟨y, ⟨hy, hyl⟩, by simp [hye]⟩
      · rw [List.length_map]; exact filter_tok_length hn hlp
      -- `l` leaves the list before it is written into the place of `e`, so its token occurs once
      · rw [List.map_map]
        refine List.pairwise_map.mpr ((hpn.sublist List.filter_sublist).imp_of_mem fun {x y} hx hy hne hxy => hne ?_)
        · have hx' := List.mem_filter.mp hx
          have hy' := List.mem_filter.mp hy
          simp only [bne_iff_ne, ne_eq] at hx' hy'
          apply inj_of_nodup_map _ hn hx'.1 hy'.1
          simp only [Function.comp] at hxy
          by_cases hxe : x.tok = e.tok <;> by_cases hye : y.tok = e.tok
          · rw [hxe, hye]
          · simp only [hxe, ↓reduceIte, hye] at hxy; exact absurd hxy.symm hy'.2
          · simp only [hxe, ↓reduceIte, hye] at hxy; exact absurd hxy hx'.2
          · simpa [hxe, hye] using hxy

theorem removeSwap_sub {pit : List PitEntry} {e x : PitEntry} (h : x ∈ removeSwap pit e) : x ∈ pit := by
  unfold removeSwap at h
  cases hl : (pit.filter (fun x => decide (x.name = e.name))).getLast? with
  | none => rw [hl] at h; exact h
  | some l =>
    rw [hl] at h
    simp only at h
    by_cases hle : l.tok = e.tok
    · rw [if_pos hle] at h; exact (List.mem_filter.mp h).1
    · rw [if_neg hle] at h
      obtain ⟨y, hy, rfl⟩ := List.mem_map.mp h
      by_cases hy' : y.tok = e.tok
      · rw [if_pos hy']; exact (List.mem_filter.mp (List.mem_of_getLast? hl)).1
      · rw [if_neg hy']; exact (List.mem_filter.mp hy).1

theorem setEntry_of_no_tok {pit : List PitEntry} {e : PitEntry} (h : ∀ x ∈ pit, x.tok ≠ e.tok) : setEntry pit e = pit := by
  unfold setEntry
  conv => rhs; rw [← List.map_id pit]
  exact List.map_congr_left fun x hx => if_neg (h x hx)

theorem getEntry_cases (pit : List PitEntry) (tok : Nat) :
    (∃ c ∈ pit, c.tok = tok ∧ getEntry pit tok = some c) ∨ (getEntry pit tok = none ∧ ∀ x ∈ pit, x.tok ≠ tok) := by
  unfold getEntry
  cases hg : pit.find? (fun e => e.tok == tok) with
  | some c =>
    have ht := List.find?_some (p := fun e : PitEntry => e.tok == tok) hg
    exact Or.inl ⟨c, List.mem_of_find?_eq_some hg, beq_iff_eq.mp ht, rfl⟩
  | none => exact Or.inr ⟨rfl, fun x hx e => List.find?_eq_none.mp hg x hx (beq_iff_eq.mpr e)⟩

theorem latest_le (now H : Nat) (e : PitEntry) (h : ∀ r ∈ e.ins ++ e.outs, r.exp ≤ H) : latest now e ≤ max H now := by
  unfold latest
  generalize e.ins ++ e.outs = l at h
  suffices ∀ (acc : Nat), acc ≤ max H now → l.foldl (fun m r => max m r.exp) acc ≤ max H now from
    this now (Nat.le_max_right _ _)
  induction l with
  | nil => exact fun acc ha => ha
  | cons r t ih =>
    intro acc ha
    exact ih (fun r' hr' => h r' (List.mem_cons_of_mem _ hr')) _
      (Nat.max_le.mpr ⟨ha, Nat.le_trans (h r List.mem_cons_self) (Nat.le_max_left _ _)⟩)

theorem latest_ge (now : Nat) (e : PitEntry) : now ≤ latest now e := by
  unfold latest
  generalize e.ins ++ e.outs = l
  suffices ∀ (acc : Nat), now ≤ acc → now ≤ l.foldl (fun m r => max m r.exp) acc from this now (Nat.le_refl _)
  induction l with
  | nil => exact fun acc h => h
  | cons r t ih => exact fun acc h => ih _ (Nat.le_trans h (Nat.le_max_left _ _))

theorem upsertOut_recs {outs : List Rec} {H : Nat} (h : ∀ r ∈ outs, r.exp ≤ H) (face nonce now exp : Nat) (name : Name)
    (he : exp ≤ H) : ∀ r ∈ upsertOut outs face nonce now exp name, r.exp ≤ H := by
  intro r hr
  rw [upsertOut] at hr
  by_cases hany : (outs.any fun r => r.face == face) = true
  · rw [if_pos hany] at hr
    obtain ⟨x, hx, rfl⟩ := List.mem_map.mp hr
    by_cases hf : x.face = face
    · rw [if_pos hf]; exact he
    · rw [if_neg hf]; exact h x hx
  · rw [if_neg hany] at hr
    rcases List.mem_append.mp hr with hr | hr
    · exact h r hr
    · rw [List.mem_singleton.mp hr]; exact he

theorem fold_upsertOut_recs {H : Nat} (targets : List (Nat × Nat)) (nonce now exp : Nat) (name : Name) (he : exp ≤ H) :
    ∀ (outs : List Rec), (∀ r ∈ outs, r.exp ≤ H) →
      ∀ r ∈ targets.foldl (fun outs nh => upsertOut outs nh.1 nonce now exp name) outs, r.exp ≤ H := by
  induction targets with
  | nil => exact fun outs h => h
  | cons a t ih => exact fun outs h => ih _ (upsertOut_recs h _ _ _ _ _ he)

theorem pitAt_iff {pit : List PitEntry} {m : Name} : pitAt pit m = true ↔ m ∈ pit.map (·.name) := by
  simp [pitAt]

end Ndn.C08
