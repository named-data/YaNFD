/-
  The structural invariant `Inv8` of the forwarding thread and its preservation.  `Inv8x t` is `Inv8` while the
  entry with token `t` is being worked on: a new entry is not scheduled before `interestTail` has written it back.
-/
import NdnVerif.C08.LemmasOps
import NdnVerif.C07.LemmasMin
namespace Ndn.C08
open Ndn.C07 (fill Minimal OnPath)

structure Inv8 (s : St) : Prop where
  cs : C07.Inv s.cs
  sched : ∀ e ∈ s.pit, ∃ p, e.sched = some p ∧ p ≤ max e.horizon s.now
  recs : ∀ e ∈ s.pit, ∀ r ∈ e.ins ++ e.outs, r.exp ≤ e.horizon
  npit : s.nPit = s.pit.length
  toks : (s.pit.map (·.tok)).Nodup
  tokb : ∀ e ∈ s.pit, e.tok < s.tokNext
  minimal : Minimal s.cs.nodes (s.cs.cs.keys ++ s.pit.map (·.name))
  time : s.now ≤ s.pitNext ∧ s.now ≤ s.dnlNext

/-- `Inv8` except that `sched` and `recs` skip the entry with token `t` -/
structure Inv8x (t : Nat) (s : St) : Prop where
  cs : C07.Inv s.cs
  sched : ∀ e ∈ s.pit, e.tok ≠ t → ∃ p, e.sched = some p ∧ p ≤ max e.horizon s.now
  recs : ∀ e ∈ s.pit, e.tok ≠ t → ∀ r ∈ e.ins ++ e.outs, r.exp ≤ e.horizon
  npit : s.nPit = s.pit.length
  toks : (s.pit.map (·.tok)).Nodup
  tokb : ∀ e ∈ s.pit, e.tok < s.tokNext
  minimal : Minimal s.cs.nodes (s.cs.cs.keys ++ s.pit.map (·.name))
  time : s.now ≤ s.pitNext ∧ s.now ≤ s.dnlNext

theorem Inv8.toX {s : St} (h : Inv8 s) (t : Nat) : Inv8x t s :=
  ⟨h.cs, fun e he _ => h.sched e he, fun e he _ => h.recs e he, h.npit, h.toks, h.tokb, h.minimal, h.time⟩

theorem inv8_init (cfg : Cfg) (k : Nat) : Inv8 (init cfg k) := by
  refine ⟨C07.inv_init k, fun _ h => absurd h List.not_mem_nil, fun _ h => absurd h List.not_mem_nil, rfl, List.nodup_nil,
    fun _ h => absurd h List.not_mem_nil, fun x => ?_, Nat.zero_le period, Nat.zero_le period⟩
  show x ∈ [] ↔ OnPath [] x
  exact ⟨fun h => absurd h List.not_mem_nil, fun ⟨_, hm, _⟩ => absurd hm List.not_mem_nil⟩

theorem Inv8.dnl {s : St} (h : Inv8 s) (d : List Dn) : Inv8 { s with dnl := d } :=
  ⟨h.cs, h.sched, h.recs, h.npit, h.toks, h.tokb, h.minimal, h.time⟩

theorem Inv8x.dnl {t : Nat} {s : St} (h : Inv8x t s) (d : List Dn) : Inv8x t { s with dnl := d } :=
  ⟨h.cs, h.sched, h.recs, h.npit, h.toks, h.tokb, h.minimal, h.time⟩

theorem Inv8x.setCs {t : Nat} {s : St} (h : Inv8x t s) {c : C07.St} (hc : C07.Inv c) (h1 : c.cs = s.cs.cs)
    (h2 : c.nodes = s.cs.nodes) (h3 : c.now = s.cs.now) : Inv8x t { s with cs := c } := by
  refine ⟨hc, ?_, h.recs, h.npit, h.toks, h.tokb, ?_, ?_⟩
  · show ∀ e ∈ s.pit, e.tok ≠ t → ∃ p, e.sched = some p ∧ p ≤ max e.horizon c.now
    rw [h3]; exact h.sched
  · show Minimal c.nodes (c.cs.keys ++ _)
    rw [h1, h2]; exact h.minimal
  · show c.now ≤ s.pitNext ∧ c.now ≤ s.dnlNext
    rw [h3]; exact h.time

theorem setEntry_invx {s : St} {t : Nat} (hi : Inv8x t s) (e0 e : PitEntry) (h0 : e0 ∈ s.pit) (ht0 : e0.tok = t)
    (ht : e.tok = t) (hname : e.name = e0.name) (hs : ∃ p, e.sched = some p ∧ p ≤ max e.horizon s.now)
    (hr : ∀ r ∈ e.ins ++ e.outs, r.exp ≤ e.horizon) :
    Inv8 { s with pit := setEntry s.pit e } := by
  have hnm : (setEntry s.pit e).map (·.name) = s.pit.map (·.name) := by
    apply setEntry_map_name
    intro x hx hxt
    rw [inj_of_nodup_map _ hi.toks hx h0 (by rw [hxt, ht, ht0]), hname]
  refine ⟨hi.cs, fun x hx => ?_, fun x hx => ?_, ?_, ?_, fun x hx => ?_, ?_, hi.time⟩
  · rcases mem_setEntry hx with rfl | ⟨hx', hne⟩
    · exact hs
    · exact hi.sched x hx' (ht ▸ hne)
  · rcases mem_setEntry hx with rfl | ⟨hx', hne⟩
    · exact hr
    · exact hi.recs x hx' (ht ▸ hne)
  · show s.nPit = (setEntry s.pit e).length
    rw [setEntry_length]; exact hi.npit
  · show ((setEntry s.pit e).map (·.tok)).Nodup
    rw [setEntry_map_tok]; exact hi.toks
  · rcases mem_setEntry hx with rfl | ⟨hx', _⟩
    · show x.tok < s.tokNext
      rw [ht, ← ht0]; exact hi.tokb e0 h0
    · exact hi.tokb x hx'
  · show Minimal s.cs.nodes (s.cs.cs.keys ++ (setEntry s.pit e).map (·.name))
    rw [hnm]; exact hi.minimal

theorem setEntry_inv {s : St} (hi : Inv8 s) (e0 e : PitEntry) (h0 : e0 ∈ s.pit) (ht : e.tok = e0.tok)
    (hname : e.name = e0.name) (hs : ∃ p, e.sched = some p ∧ p ≤ max e.horizon s.now)
    (hr : ∀ r ∈ e.ins ++ e.outs, r.exp ≤ e.horizon) :
    Inv8 { s with pit := setEntry s.pit e } :=
  setEntry_invx (hi.toX e0.tok) e0 e h0 rfl ht hname hs hr

theorem Inv8x.upd {s : St} {e e' : PitEntry} (hi : Inv8x e.tok s) (he : e ∈ s.pit) (hb : e.Bounded)
    (hr : Resched s.now e e') : Inv8 { s with pit := setEntry s.pit e' } := by
  obtain ⟨p, hs, _, hp⟩ := hr.sched
  exact setEntry_invx hi e e' he rfl hr.tok hr.name ⟨p, hs, hp hb⟩ (hr.recs hb)

theorem Inv8x.side {ord : List Name → List Name} {i : Interest} {t : Nat} {s s1 : St} (h1 : Side ord i s s1)
    (hi : Inv8x t s) : Inv8x t s1 := by
  rcases h1 with ⟨x, rfl⟩ | rfl
  · obtain ⟨d, e⟩ := dnlInsert_eq s i.name x
    rw [e]; exact hi.dnl d
  · obtain ⟨f1, f2, f3⟩ := C07.findData_frame ord s.cs i.name i.cbp i.mbf
    exact hi.setCs (C07.findData_inv ord hi.cs _ _ _) f1 f2 f3

theorem Inv8.openEntry {s : St} (hi : Inv8 s) (i : Interest) : Inv8x s.tokNext (openEntry s i) := by
  have hnew : ∀ x ∈ s.pit ++ [newEntry s i], x.tok ≠ s.tokNext → x ∈ s.pit := fun x hx hne =>
    (List.mem_append.mp hx).elim id fun h => absurd (List.mem_singleton.mp h ▸ rfl) hne
  refine ⟨hi.cs.setNodes _ fun n hn p hp => C07.mem_fill.mpr (Or.inl (hi.cs.reach n hn p hp)),
    fun x hx hne => hi.sched x (hnew x hx hne), fun x hx hne => hi.recs x (hnew x hx hne), ?_, ?_, fun x hx => ?_, ?_, hi.time⟩
  · show s.nPit + 1 = (s.pit ++ [newEntry s i]).length
    rw [List.length_append, hi.npit]; rfl
  · show ((s.pit ++ [newEntry s i]).map (·.tok)).Nodup
    rw [List.map_append, List.nodup_append]
    refine ⟨hi.toks, List.nodup_cons.mpr ⟨List.not_mem_nil, List.nodup_nil⟩, fun a ha b hb => ?_⟩
    obtain ⟨x, hx, rfl⟩ := List.mem_map.mp ha
    rw [List.mem_singleton.mp hb]
    exact Nat.ne_of_lt (hi.tokb x hx)
  · show x.tok < s.tokNext + 1
    rcases List.mem_append.mp hx with h | h
    · exact Nat.lt_succ_of_lt (hi.tokb x h)
    · rw [List.mem_singleton.mp h]; exact Nat.lt_succ_self _
  · show Minimal (fill s.cs.nodes i.name) (s.cs.cs.keys ++ (s.pit ++ [newEntry s i]).map (·.name))
    refine C07.fill_minimal hi.minimal _ fun m => ?_
    rw [List.map_append, ← List.append_assoc, List.mem_append]
    exact or_congr Iff.rfl List.mem_singleton

theorem procInterest_inv (ord : List Name → List Name) {s : St} (hi : Inv8 s) (i : Interest) :
    Inv8 (procInterest ord s i).1 := by
  have tail : ∀ b e, Inv8x e.tok b → e ∈ b.pit → e.Bounded → Inv8 (interestTail ord b e i).1 := by
    intro b e hb he hbd
    obtain ⟨s1, e', heq, h1, hr⟩ := interestTail_shape ord b e i
    rw [heq]
    exact (hb.side h1).upd (h1.frame.1 ▸ he) hbd (h1.frame.2 ▸ hr)
  rcases procInterest_cases ord s i with e | ⟨e, he, heq⟩ | e
  · rw [e]; exact hi
  · rw [heq]; exact tail s e (hi.toX _) he (hi.recs e he)
  · rw [e]; exact tail _ _ (hi.openEntry i) (List.mem_append_right _ List.mem_cons_self) fun _ h => absurd h List.not_mem_nil

theorem satisfy_inv {s : St} (hi : Inv8 s) (e : PitEntry) : Inv8 (satisfy s e) := by
  rcases satisfy_cases s e with ⟨e0, _⟩ | ⟨c, hc, _, e0⟩
  · rw [e0]; exact hi
  · rw [e0]
    exact (hi.toX c.tok).upd hc (hi.recs c hc)
      ⟨rfl, rfl, ⟨_, rfl, Nat.le_refl _, fun _ => Nat.le_max_right _ _⟩, fun _ _ hr => nomatch hr⟩

theorem procData_inv {s : St} (hi : Inv8 s) (d : DataPkt) : Inv8 (procData s d).1 := by
  refine procData_ind s d (fun s' _ => Inv8 s') ?_ fun s' _ e rs hs => ?_
  · have hnow := C07.insertData_now (pitAt s.pit) s.cs d.name d.wire d.fresh
    refine ⟨C07.insertData_inv (pitAt s.pit) hi.cs d.name d.wire d.fresh, ?_, hi.recs, hi.npit, hi.toks, hi.tokb,
      C07.insertData_minimal (pitAt s.pit) (s.pit.map (·.name)) (fun m => pitAt_iff) hi.cs hi.minimal d.name d.wire d.fresh, ?_⟩
    · show ∀ e ∈ s.pit, ∃ p, e.sched = some p ∧ p ≤ max e.horizon (C07.insertData _ s.cs _ _ _).now
      rw [hnow]; exact hi.sched
    · show (C07.insertData _ s.cs _ _ _).now ≤ s.pitNext ∧ (C07.insertData _ s.cs _ _ _).now ≤ s.dnlNext
      rw [hnow]; exact hi.time
  · obtain ⟨dl, e1⟩ := fold_dnlInsert_eq rs (fun r => (d.name, r.nonce)) s'
    rw [e1]; exact satisfy_inv (hs.dnl dl) e

theorem removeEntry_inv {s : St} (hi : Inv8 s) {e : PitEntry} (he : e ∈ s.pit) : Inv8 (removeEntry s e) := by
  obtain ⟨hmem, hlen, hnd⟩ := removeSwap_spec hi.toks he
  have hsub : ∀ x, x ∈ removeSwap s.pit e → x ∈ s.pit := fun x hx => ((hmem x).mp hx).1
  -- the live names after the removal: none is new, and only the name of `e` can have gone
  have hA : ∀ m, m ∈ s.cs.cs.keys ++ (removeSwap s.pit e).map (·.name) → m ∈ s.cs.cs.keys ++ s.pit.map (·.name) := by
    intro m hm
    rcases List.mem_append.mp hm with h | h
    · exact List.mem_append_left _ h
    · obtain ⟨x, hx, rfl⟩ := List.mem_map.mp h
      exact List.mem_append_right _ (List.mem_map_of_mem (hsub x hx))
  have hB : ∀ m, m ∈ s.cs.cs.keys ++ s.pit.map (·.name) →
      m ∈ s.cs.cs.keys ++ (removeSwap s.pit e).map (·.name) ∨ m = e.name := by
    intro m hm
    rcases List.mem_append.mp hm with h | h
    · exact Or.inl (List.mem_append_left _ h)
    · obtain ⟨x, hx, rfl⟩ := List.mem_map.mp h
      by_cases hxe : x.tok = e.tok
      · exact Or.inr (by rw [inj_of_nodup_map _ hi.toks hx he hxe])
      · exact Or.inl (List.mem_append_right _ (List.mem_map_of_mem ((hmem x).mpr ⟨hx, hxe⟩)))
  have hmin : Minimal (removeEntry s e).cs.nodes (s.cs.cs.keys ++ (removeSwap s.pit e).map (·.name)) := by
    show Minimal (if _ then _ else _) _
    split
    · rename_i hat
      refine C07.minimal_congr hi.minimal fun m => ⟨fun hm => ?_, hA m⟩
      exact (hB m hm).elim id fun e' => e' ▸ List.mem_append_right _ (pitAt_iff.mp hat)
    · refine C07.prune_minimal' hi.minimal (fun p hp => (hi.minimal p).mpr ⟨e.name, ?_, hp⟩) hB hA fun m _ => ?_
      · exact List.mem_append_right _ (List.mem_map_of_mem he)
      · rw [Bool.or_eq_true, C07.has_iff, pitAt_iff, List.mem_append]
  have hre : removeEntry s e =
      { s with pit := removeSwap s.pit e, nPit := s.nPit - 1, cs := { s.cs with nodes := (removeEntry s e).cs.nodes } } :=
    rfl
  rw [hre]
  generalize (removeEntry s e).cs.nodes = N at hmin
  refine ⟨hi.cs.setNodes N fun n hn p hp => (hmin p).mpr ⟨n, List.mem_append_left _ hn, hp⟩,
    fun x hx => hi.sched x (hsub x hx), fun x hx => hi.recs x (hsub x hx), ?_, hnd, fun x hx => hi.tokb x (hsub x hx),
    hmin, hi.time⟩
  show s.nPit - 1 = (removeSwap s.pit e).length
  rw [hi.npit, ← hlen]; rfl

theorem setNow_inv {s : St} (hi : Inv8 s) (t : Nat) (h1 : s.now ≤ t) (h2 : t ≤ s.pitNext) (h3 : t ≤ s.dnlNext) :
    Inv8 (setNow s t) := by
  -- `C07.Inv` does not mention the clock
  refine ⟨⟨hi.cs.qnodup, hi.cs.knodup, hi.cs.qmem, hi.cs.ncs, hi.cs.hist, hi.cs.lru, hi.cs.reach, hi.cs.cached⟩,
    fun x hx => ?_, hi.recs, hi.npit, hi.toks, hi.tokb, hi.minimal, h2, h3⟩
  obtain ⟨p, hp, hb⟩ := hi.sched x hx
  exact ⟨p, hp, Nat.le_trans hb (Nat.max_le.mpr ⟨Nat.le_max_left _ _, Nat.le_trans h1 (Nat.le_max_right _ _)⟩)⟩

theorem expire_inv {s : St} (hi : Inv8 s) (t : Nat) :
    Inv8 (expire t s) ∧ ∀ x, x ∈ (expire t s).pit ↔ x ∈ s.pit ∧ isDue t x = false := by
  unfold expire
  have hl : ((s.pit.filter (isDue t)).map (·.tok)).Nodup := hi.toks.sublist (List.Sublist.map _ List.filter_sublist)
  have hm : ∀ e ∈ s.pit.filter (isDue t), e ∈ s.pit ∧ isDue t e = true := fun e he => List.mem_filter.mp he
  -- an entry stays iff it is not in the list of those removed
  suffices ∀ (l : List PitEntry) (s' : St), (l.map (·.tok)).Nodup → Inv8 s' → (∀ e ∈ l, e ∈ s'.pit) →
      Inv8 (l.foldl (fun s e => removeEntry (finalize s e) e) s') ∧
      ∀ x, x ∈ (l.foldl (fun s e => removeEntry (finalize s e) e) s').pit ↔ x ∈ s'.pit ∧ x ∉ l by
    obtain ⟨r1, r2⟩ := this _ s hl hi fun e he => (hm e he).1
    refine ⟨r1, fun x => (r2 x).trans (and_congr_right fun hx => ?_)⟩
    rw [List.mem_filter, not_and, Bool.not_eq_true]
    exact ⟨fun h => h hx, fun h _ => h⟩
  intro l
  induction l with
  | nil => exact fun s' _ hi' _ => ⟨hi', fun x => ⟨fun h => ⟨h, List.not_mem_nil⟩, fun h => h.1⟩⟩
  | cons e r ih =>
    intro s' hl hi' hmem
    obtain ⟨hne, hr⟩ := List.nodup_cons.mp hl
    obtain ⟨d, ed⟩ := fold_dnlInsert_eq e.outs (fun r => (r.name, r.nonce)) s'
    have ef : finalize s' e = { s' with dnl := d } := ed
    have he : e ∈ s'.pit := hmem e List.mem_cons_self
    have hm2 := (removeSwap_spec hi'.toks he).1
    have hi2 : Inv8 (removeEntry (finalize s' e) e) := ef ▸ removeEntry_inv (hi'.dnl d) he
    have hp2 : (removeEntry (finalize s' e) e).pit = removeSwap s'.pit e := by rw [ef]; rfl
    obtain ⟨r1, r2⟩ := ih _ hr hi2 fun x hx => by
      rw [hp2, hm2]
      exact ⟨hmem x (List.mem_cons_of_mem _ hx), fun hxe => hne (List.mem_map.mpr ⟨x, hx, hxe⟩)⟩
    refine ⟨r1, fun x => ?_⟩
    rw [List.foldl_cons, r2 x, hp2, hm2, List.mem_cons, not_or, and_assoc]
    refine and_congr_right fun hx => and_congr_left fun _ => ⟨fun h e' => h (e' ▸ rfl), fun h e' => h ?_⟩
    exact inj_of_nodup_map _ hi'.toks hx he e'

theorem fireUpdate_spec {s : St} (hi : Inv8 s) (hord : s.pitNext ≤ s.dnlNext) :
    Inv8 (fireUpdate s) ∧ (fireUpdate s).now = s.pitNext ∧ (fireUpdate s).pitNext ≤ s.pitNext + period ∧
    (∀ x, x ∈ (fireUpdate s).pit ↔ x ∈ s.pit ∧ isDue s.pitNext x = false) := by
  obtain ⟨d, hd, e⟩ := fireUpdate_eq s
  obtain ⟨r1, r2⟩ := expire_inv (setNow_inv hi _ hi.time.1 (Nat.le_refl _) hord) s.pitNext
  obtain ⟨f1, f3, _⟩ := expire_closed (frame_closed (setNow s s.pitNext)) s.pitNext _ ⟨rfl, rfl, rfl⟩
  rw [e]
  refine ⟨⟨r1.cs, r1.sched, r1.recs, r1.npit, r1.toks, r1.tokb, r1.minimal, ?_, ?_⟩, f1, Nat.add_le_add_left hd _, r2⟩
  · exact f1 ▸ Nat.le_add_right _ _
  · exact (f1.trans (rfl : (setNow s s.pitNext).now = s.pitNext)) ▸ f3 ▸ hord

theorem fireDnl_inv {s : St} (hi : Inv8 s) (hord : s.dnlNext ≤ s.pitNext) : Inv8 (fireDnl s) := by
  have h0 := setNow_inv hi _ hi.time.2 hord (Nat.le_refl _)
  exact ⟨h0.cs, h0.sched, h0.recs, h0.npit, h0.toks, h0.tokb, h0.minimal, hord, Nat.le_add_right _ _⟩

theorem setCap_inv8 {s : St} (hi : Inv8 s) (k : Nat) : Inv8 (setCap s k) :=
  ⟨C07.setCap_inv hi.cs k, hi.sched, hi.recs, hi.npit, hi.toks, hi.tokb, hi.minimal, hi.time⟩

end Ndn.C08
