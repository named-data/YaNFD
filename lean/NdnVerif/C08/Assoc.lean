/-
  Association lists keyed by names (`aget` / `aset` / `adel` of the route-structure models), `removeFirst`
  and `maxLen`.
-/
import NdnVerif.C08.ModelFib
import NdnVerif.C07.Lemmas
namespace Ndn.C08
open Ndn.C07 (memb rem mem_addNew)

def keys {β : Type} (m : List (Name × β)) : List Name := m.map (·.1)

theorem keys_cons {β : Type} (k : Name) (w : β) (t : List (Name × β)) : keys ((k, w) :: t) = k :: keys t := rfl

theorem aget_cons {β : Type} (d : β) (k : Name) (w : β) (t : List (Name × β)) (n : Name) :
    aget d ((k, w) :: t) n = if k = n then w else aget d t n := rfl

theorem aset_cons {β : Type} (k : Name) (w : β) (t : List (Name × β)) (n : Name) (v : β) :
    aset ((k, w) :: t) n v = if k = n then (k, v) :: t else (k, w) :: aset t n v := rfl

theorem any_key_iff {β : Type} (m : List (Name × β)) (v : Name) :
    m.any (fun p => decide (p.1 = v)) = true ↔ v ∈ keys m := by
  simp only [List.any_eq_true, decide_eq_true_eq, keys, List.mem_map]

/-! `aget d` is `afind` of C05/Assoc with a default, `aset` its `aset`, `adel` its `aerase`. -/

theorem aget_eq {β : Type} (d : β) (m : List (Name × β)) (n : Name) : aget d m n = (C05.afind m n).getD d := by
  induction m with
  | nil => rfl
  | cons p t ih => rw [aget_cons, C05.afind, ih]; split <;> rfl

theorem aset_eq {β : Type} (m : List (Name × β)) (n : Name) (v : β) : aset m n v = C05.aset m n v :=
  -- the model writes the old key back, C05 the new one: the same when they are equal
  C05.aset_unique (fun _ _ => rfl) (fun a b t k v => by
    rw [aset_cons]
    by_cases e : a = k
    · rw [if_pos e, if_pos e, e]
    · rw [if_neg e, if_neg e]) m n v

theorem adel_eq {β : Type} (m : List (Name × β)) (n : Name) : adel m n = C05.aerase m n := by
  simp only [adel, C05.aerase, ne_eq, decide_not]

theorem aget_of_not_mem {β : Type} (d : β) (m : List (Name × β)) (n : Name) (h : n ∉ keys m) : aget d m n = d := by
  rw [aget_eq, (C05.afind_eq_none_iff m n).mpr h]; rfl

theorem mem_keys_of_aget_ne {β : Type} {d : β} {m : List (Name × β)} {n : Name} (h : aget d m n ≠ d) : n ∈ keys m :=
  Classical.byContradiction fun hk => h (aget_of_not_mem _ _ _ hk)

theorem aget_of_mem_nodup {β : Type} (d : β) (m : List (Name × β)) (h : (keys m).Nodup) {p : Name × β} (hp : p ∈ m) :
    aget d m p.1 = p.2 := by
  rw [aget_eq, C05.mem_afind h hp]; rfl

theorem aget_aset {β : Type} (d : β) (m : List (Name × β)) (n x : Name) (v : β) :
    aget d (aset m n v) x = if x = n then v else aget d m x := by
  rw [aget_eq, aset_eq, C05.afind_aset', aget_eq]; split <;> rfl

theorem aget_aset_self {β : Type} (d : β) (m : List (Name × β)) (n : Name) (v : β) : aget d (aset m n v) n = v :=
  (aget_aset d m n n v).trans (if_pos rfl)

theorem aget_aset_of_ne {β : Type} (d : β) (m : List (Name × β)) {n x : Name} (v : β) (hx : x ≠ n) :
    aget d (aset m n v) x = aget d m x :=
  (aget_aset d m n x v).trans (if_neg hx)

theorem mem_keys_aset {β : Type} (m : List (Name × β)) (n x : Name) (v : β) :
    x ∈ keys (aset m n v) ↔ x ∈ keys m ∨ x = n :=
  aset_eq m n v ▸ C05.mem_keys_aset m n x v

theorem nodup_keys_aset {β : Type} (m : List (Name × β)) (n : Name) (v : β) (h : (keys m).Nodup) :
    (keys (aset m n v)).Nodup :=
  aset_eq m n v ▸ C05.keysNodup_aset h n v

theorem aset_of_not_mem {β : Type} (m : List (Name × β)) (n : Name) (v : β) (h : n ∉ keys m) :
    aset m n v = m ++ [(n, v)] :=
  (aset_eq m n v).trans (C05.aset_of_not_mem h v)

theorem aset_aget_self {β : Type} (d : β) (m : List (Name × β)) (n : Name) (h : n ∈ keys m) :
    aset m n (aget d m n) = m := by
  rw [aget_eq, aset_eq]
  cases hf : C05.afind m n with
  | none => exact absurd h ((C05.afind_eq_none_iff m n).mp hf)
  | some v => exact C05.aset_of_afind hf

theorem mem_keys_adel {β : Type} (m : List (Name × β)) (n x : Name) :
    x ∈ keys (adel m n) ↔ x ∈ keys m ∧ x ≠ n := by
  have : keys (adel m n) = rem n (keys m) := by rw [adel, keys, keys, rem, List.filter_map]; rfl
  rw [this, C07.mem_rem]

theorem nodup_keys_adel {β : Type} (m : List (Name × β)) (n : Name) (h : (keys m).Nodup) :
    (keys (adel m n)).Nodup :=
  h.sublist (List.Sublist.map _ List.filter_sublist)

theorem aget_adel {β : Type} (d : β) (m : List (Name × β)) (n x : Name) :
    aget d (adel m n) x = if x = n then d else aget d m x := by
  rw [aget_eq, adel_eq, C05.afind_aerase', aget_eq]; split <;> rfl

theorem isEmpty_of_any {α : Type} {p : α → Bool} {l : List α} (h : l.any p = true) : l.isEmpty = false := by
  cases l with
  | nil => cases h
  | cons _ _ => rfl

theorem removeFirst_nil_of_nil {α : Type} (p : α → Bool) (l : List α) (h : l.isEmpty = true) :
    (removeFirst p l).isEmpty = true := by
  rw [List.isEmpty_iff.mp h]; rfl

theorem removeFirst_nonempty {α : Type} (p : α → Bool) (l : List α) (h : (removeFirst p l).isEmpty = false) :
    l.isEmpty = false := by
  cases hl : l.isEmpty with
  | false => rfl
  | true => rw [removeFirst_nil_of_nil p l hl] at h; cases h

theorem foldl_max_length (l : List Name) (a : Nat) : l.foldl (fun a n => max a n.length) a = max a (maxLen l) := by
  induction l generalizing a with
  | nil => exact (Nat.max_zero _).symm
  | cons y t ih => rw [maxLen, List.foldl_cons, ih, List.foldl_cons, ih (max 0 _), Nat.zero_max, Nat.max_assoc]

theorem maxLen_cons (x : Name) (t : List Name) : maxLen (x :: t) = max x.length (maxLen t) := by
  rw [maxLen, List.foldl_cons, foldl_max_length, Nat.zero_max]

theorem maxLen_le_iff {l : List Name} {k : Nat} : maxLen l ≤ k ↔ ∀ x ∈ l, x.length ≤ k := by
  induction l with
  | nil => exact ⟨fun _ _ hx => (nomatch hx), fun _ => Nat.zero_le _⟩
  | cons y t ih => rw [maxLen_cons, Nat.max_le, ih, List.forall_mem_cons]

theorem mem_le_maxLen {l : List Name} {x : Name} (hx : x ∈ l) : x.length ≤ maxLen l :=
  maxLen_le_iff.mp (Nat.le_refl _) x hx

theorem maxLen_mono {a b : List Name} (h : ∀ x ∈ a, x ∈ b) : maxLen a ≤ maxLen b :=
  maxLen_le_iff.mpr fun x hx => mem_le_maxLen (h x hx)

theorem maxLen_congr {a b : List Name} (h : ∀ x, x ∈ a ↔ x ∈ b) : maxLen a = maxLen b :=
  Nat.le_antisymm (maxLen_mono fun x => (h x).mp) (maxLen_mono fun x => (h x).mpr)

theorem maxLen_addNew (n : Name) (l : List Name) :
    maxLen (if memb n l then l else l ++ [n]) = max (maxLen l) n.length := by
  apply Nat.le_antisymm
  · refine maxLen_le_iff.mpr fun x hx => ?_
    rcases mem_addNew.mp hx with hx | rfl
    · exact Nat.le_trans (mem_le_maxLen hx) (Nat.le_max_left _ _)
    · exact Nat.le_max_right _ _
  · exact Nat.max_le.mpr ⟨maxLen_mono fun x hx => mem_addNew.mpr (Or.inl hx), mem_le_maxLen (mem_addNew.mpr (Or.inr rfl))⟩

theorem maxLen_attained {l : List Name} (h : l ≠ []) : ∃ x ∈ l, x.length = maxLen l := by
  induction l with
  | nil => exact absurd rfl h
  | cons y t ih =>
    rw [maxLen_cons]
    by_cases hy : maxLen t ≤ y.length
    · exact ⟨y, List.mem_cons_self, (Nat.max_eq_left hy).symm⟩
    · have ht : t ≠ [] := fun e => hy (e ▸ Nat.zero_le _)
      obtain ⟨x, hx, hl⟩ := ih ht
      exact ⟨x, List.mem_cons_of_mem _ hx, by rw [hl, Nat.max_eq_right (Nat.le_of_not_le hy)]⟩

end Ndn.C08
