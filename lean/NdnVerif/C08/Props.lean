/-
  C08 — the property theorems, with the lemmas that tie the executable predicates of Spec.lean to them
  (helper lemmas: Assoc.lean, the Lemmas*.lean files and the tree lemmas of NdnVerif/C07).  All statements
  are about the models of Model.lean / ModelFib.lean for EVERY history: any list of `Op` (Interests, Data,
  capacity changes, passages of time with any resolution `tie` of simultaneous timers and any fuel) from
  `init cfg cap`, any FIB configuration `cfg`, any capacity; any list of FIB / RIB operations.

  Assumptions: A-hash (tables keyed by names instead of 64-bit hashes; dead nonce list keyed by
  (name, nonce)), A-tok (PIT tokens are distinct: the code draws random tokens until unused; the
  model numbers entries).
-/
import NdnVerif.C08.LemmasDrain
import NdnVerif.C08.LemmasFib
import NdnVerif.C08.LemmasHash
import NdnVerif.C08.LemmasPrompt
namespace Ndn.C08
open Ndn.C07 (Minimal OnPath prefixes)

/-- every reachable state satisfies the structural invariant and the timing invariant -/
theorem reachable_inv (cfg : Cfg) (cap : Nat) (ops : List Op) :
    Inv8 (run (init cfg cap) ops) ∧ InvT (run (init cfg cap) ops) :=
  ⟨(reachable_all cfg cap ops).1, (reachable_all cfg cap ops).2.1⟩

/-- **pit_entry_scheduled.** In every reachable state every PIT entry has an item in the expiry queue
    (`sched = some p`) — so it will be reaped — and its time `p` is no later than the latest end of
    lifetime among the Interests recorded in it (`horizon`, which also bounds the expiration of every
    in- and out-record) or the current instant.  This includes entries created for Interests that
    were answered from the Content Store. -/
theorem pit_entry_scheduled (cfg : Cfg) (cap : Nat) (ops : List Op) :
    let s := run (init cfg cap) ops
    (∀ e ∈ s.pit, ∃ p, e.sched = some p ∧ p ≤ max e.horizon s.now) ∧
    (∀ e ∈ s.pit, ∀ r ∈ e.ins ++ e.outs, r.exp ≤ e.horizon) ∧
    allScheduled (dumpOf s) = true := by
  intro s
  have h := (reachable_inv cfg cap ops).1
  refine ⟨h.sched, h.recs, ?_⟩
  simp only [allScheduled, dumpOf, List.all_eq_true]
  intro e he
  obtain ⟨p, hp, _⟩ := h.sched e he
  simp [hp]

example : (run (init { nexthops := [(3, 10)] } 4)
    [Op.data ⟨3, [⟨8, [97]⟩], 0, none, [1]⟩, Op.interest id 1 [⟨8, [97]⟩] false false (some 7) 1000 none none]).pit.map (·.sched)
    = [some 0] := by decide

/-- **pit_removed_by.** Whenever the forwarder is at rest (every armed timer lies in the future, as
    after each `advanceTo` that had enough fuel), no PIT entry is still present one update period
    after its scheduled time; one `Update` removes every entry whose time has come, and two
    consecutive updates are at most one period apart.  With `pit_entry_scheduled`: an entry is gone
    at most `period` (100 ms) after the latest lifetime recorded in it, and at most `period` after it
    was satisfied (satisfaction schedules it for "now"). -/
theorem pit_removed_by (cfg : Cfg) (cap : Nat) (ops : List Op) :
    let s := run (init cfg cap) ops
    (s.now < s.pitNext → notOverdue (dumpOf s) = true) ∧
    (s.pitNext ≤ s.dnlNext → (∀ x ∈ (fireUpdate s).pit, isDue s.pitNext x = false) ∧
      (fireUpdate s).pitNext ≤ s.pitNext + period) := by
  intro s
  obtain ⟨h, hT⟩ := reachable_inv cfg cap ops
  constructor
  · intro hrest
    simp only [notOverdue, dumpOf, List.all_eq_true]
    intro e he
    cases hs : e.sched with
    | none => rfl
    | some p =>
      have hb : s.pitNext ≤ p + period := hT.behind e he p hs
      exact decide_eq_true (by show s.now < p + period; omega)
  · intro hord
    obtain ⟨_, _, r4, r6⟩ := fireUpdate_spec h hord
    exact ⟨fun x hx => ((r6 x).mp hx).2, r4⟩

/-- **data_satisfied_promptly.** A Data packet (matched by name) schedules every PIT entry it
    satisfies — exact name, or a prefix with CanBePrefix; one match or many; whatever faces the
    in-records came from — for the current instant, so by `pit_removed_by` the entry is gone within
    one update period.  (`satisfiedPrompt` is the predicate the driver evaluates on the real dump.) -/
theorem data_satisfied_promptly (s : St) (d : DataPkt) (htok : d.tok = none) :
    (∀ x ∈ (procData s d).1.pit, dataSatisfies d.name x = true → x.sched = some s.now) ∧
    satisfiedPrompt (dumpOf (procData s d).1) (dataSatisfies d.name) = true := by
  have h := procData_prompt s d htok
  refine ⟨h, ?_⟩
  have hnow : (procData s d).1.now = s.now := (procData_closed (frame_closed s) s d ⟨rfl, rfl, rfl⟩).1
  unfold satisfiedPrompt
  rw [List.all_eq_true]
  intro x hx
  have hx' : x ∈ (procData s d).1.pit := hx
  cases hs : dataSatisfies d.name x with
  | false => rfl
  | true =>
    have hsch := h x hx' hs
    have hn : (dumpOf (procData s d).1).now = s.now := hnow
    simp [hsch, hn]

/-- **quiescent_drain.** From any reachable state, let time pass without traffic until `target`, at
    least one update period after every scheduled expiry (`m` bounds them; by `pit_entry_scheduled`
    `m` can be taken as the latest lifetime recorded, or now).  If the timers were really run until
    then (`target < pitNext` afterwards, i.e. the fuel sufficed) the PIT is empty, its reported size
    and the token map are 0, the reported CS size is the true size, and the name tree is exactly the
    prefix closure of the names that still hold a cache entry: no dead branch from expiry or
    eviction. -/
theorem quiescent_drain (cfg : Cfg) (cap : Nat) (ops : List Op) (tie : Nat → Bool) (fuel m target : Nat) :
    let s := run (init cfg cap) ops
    let s' := advanceTo tie fuel s target
    (∀ e ∈ s.pit, ∀ p, e.sched = some p → p ≤ m) → s.now ≤ target → m + period ≤ target → target < s'.pitNext →
    s'.pit = [] ∧ s'.nPit = 0 ∧ (dumpOf s').tokMap = 0 ∧ (dumpOf s').qLen = 0 ∧
    s'.cs.nCs = s'.cs.cs.length ∧ s'.cs.queue.length = s'.cs.cs.length ∧
    Minimal s'.cs.nodes s'.cs.cs.keys := by
  intro s s' hm hnow hq hrun
  obtain ⟨h, hT, hd⟩ := reachable_all cfg cap ops
  obtain ⟨⟨h', hT', _⟩, hsub⟩ : (Inv8 s' ∧ InvT s' ∧ DInv s') ∧ ∀ x ∈ s'.pit, x ∈ s.pit :=
    advanceTo_inv tie fuel h hT hd target hnow
  have hempty : s'.pit = [] := by
    apply List.eq_nil_iff_forall_not_mem.mpr
    intro x hx
    have hxs : x ∈ s.pit := hsub x hx
    obtain ⟨p, hp, _⟩ := h'.sched x hx
    have h1 := hT'.behind x hx p hp
    have h2 := hm x hxs p hp
    omega
  have hmin := h'.minimal
  rw [hempty] at hmin
  refine ⟨hempty, by rw [h'.npit, hempty]; rfl, by simp [dumpOf, hempty], by simp [dumpOf, hempty],
    h'.cs.ncs, h'.cs.qlen, ?_⟩
  simpa using hmin

example :
    let s := run (init { nexthops := [(3, 10)] } 4) [Op.interest id 1 [⟨8, [97]⟩] false false (some 7) 1000000 none none]
    (advanceTo (fun _ => true) 50 s 200000000).pit = [] ∧ s.pit.length = 1 := by decide

-- an Interest whose NextHopFaceId names a face that does not exist creates an entry that is scheduled and drains
example :
    let s := run (init { nexthops := [(3, 10)] } 4) [Op.interest id 1 [⟨8, [97]⟩] false false (some 7) 1000000 none (some 9)]
    s.pit.map (·.sched) = [some 1000000] ∧ (advanceTo (fun _ => true) 50 s 200000000).pit = [] := by decide

/-- **tree minimality** (every reachable state, not only at quiescence): the node set of the PIT-CS
    name tree is exactly the set of non-empty prefixes of the names holding a cache entry or a PIT
    entry; the reported sizes are the true sizes; PIT tokens are distinct. -/
theorem tree_minimal (cfg : Cfg) (cap : Nat) (ops : List Op) :
    let s := run (init cfg cap) ops
    Minimal s.cs.nodes (s.cs.cs.keys ++ s.pit.map (·.name)) ∧
    s.nPit = s.pit.length ∧ s.cs.nCs = s.cs.cs.length ∧ s.cs.queue.length = s.cs.cs.length ∧
    (s.pit.map (·.tok)).Nodup := by
  intro s
  have h := (reachable_inv cfg cap ops).1
  exact ⟨h.minimal, h.npit, h.cs.ncs, h.cs.qlen, h.toks⟩

/-- the executable predicate used by the driver agrees with `Minimal` -/
theorem sameSet_iff (a b : List Name) : sameSet a b = true ↔ ∀ x, x ∈ a ↔ x ∈ b := by
  simp only [sameSet, subset, Bool.and_eq_true, List.all_eq_true, C07.memb_iff]
  constructor
  · rintro ⟨h1, h2⟩ x; exact ⟨h1 x, h2 x⟩
  · intro h; exact ⟨fun x hx => (h x).mp hx, fun x hx => (h x).mpr hx⟩

theorem sameSet_closure_iff (nodes L : List Name) : sameSet nodes (closure L) = true ↔ Minimal nodes L :=
  (sameSet_iff _ _).trans (forall_congr' fun _ => iff_congr Iff.rfl List.mem_flatMap)

theorem tree_minimal_spec (cfg : Cfg) (cap : Nat) (ops : List Op) :
    treeMinimal (dumpOf (run (init cfg cap) ops)) = true ∧ sizesTrue (dumpOf (run (init cfg cap) ops)) = true := by
  obtain ⟨h1, h2, h3, h4, _⟩ := tree_minimal cfg cap ops
  constructor
  · exact (sameSet_closure_iff _ _).mpr h1
  · simp [sizesTrue, dumpOf, h2, h3, h4, C07.CsMap.keys]

/-- **dnl_drains.** In every reachable state every dead-nonce record expires exactly its configured
    lifetime after its insertion (`exp = born + dnlLife`, `born ≤ now`), and whenever the forwarder is
    at rest (the reaper's next tick lies in the future) a record that is still present is younger than
    `lifetime + (⌊rank/100⌋ + 1)` ticks, where `rank` is the number of records that were in the list
    when it was inserted (the reaper removes at most `dnlBatch` = 100 expired records per 100 ms tick,
    oldest first).  So every record disappears at most that long after its insertion, for every
    traffic history. -/
theorem dnl_drains (cfg : Cfg) (cap : Nat) (ops : List Op) :
    let s := run (init cfg cap) ops
    (∀ x ∈ s.dnl, x.exp = x.born + cfg.dnlLife ∧ x.born ≤ s.now) ∧
    (s.now < s.dnlNext → ∀ x ∈ s.dnl, s.now < x.born + cfg.dnlLife + period * (x.rank / dnlBatch + 1)) := by
  intro s
  have hd : DInv s := (reachable_all cfg cap ops).2.2
  have hcfg : s.cfg = cfg := run_cfg (init cfg cap) ops
  have hborn : ∀ x ∈ s.dnl, x.exp = x.born + cfg.dnlLife ∧ x.born ≤ s.now := by
    intro x hx; have := hd.born x hx; rw [hcfg] at this; exact this
  refine ⟨hborn, fun hrest x hx => ?_⟩
  rw [← (hborn x hx).1]
  exact RankOk.bound hd.rank hx hrest

example :
    let s := run (init { nexthops := [(3, 10)], dnlLife := 50 } 4)
      [Op.interest id 1 [⟨8, [97]⟩] false false (some 7) 1000 none none, Op.interest id 1 [⟨8, [97]⟩] false false (some 8) 1000 none none]
    s.dnl.map (fun x => (x.nonce, x.exp, x.born, x.rank)) = [(7, 50, 0, 0)] := by decide

/-- corollary: at rest, once every record's deadline has passed, the dead nonce list is empty -/
theorem dnl_empty_at_quiescence (cfg : Cfg) (cap : Nat) (ops : List Op) :
    let s := run (init cfg cap) ops
    s.now < s.dnlNext →
    (∀ x ∈ s.dnl, x.born + cfg.dnlLife + period * (x.rank / dnlBatch + 1) ≤ s.now) → s.dnl = [] := by
  intro s hrest hall
  apply List.eq_nil_iff_forall_not_mem.mpr
  intro x hx
  have h1 : s.now < x.born + cfg.dnlLife + period * (x.rank / dnlBatch + 1) := (dnl_drains cfg cap ops).2 hrest x hx
  have h2 : x.born + cfg.dnlLife + period * (x.rank / dnlBatch + 1) ≤ s.now := hall x hx
  omega

/-- one tick of the reaper when every record is already past its expiry: `dnlBatch` records go (all
    of them if fewer), none is added, and the premise persists -/
theorem dnl_tick (s : St) (h : ∀ x ∈ s.dnl, x.exp < s.dnlNext) :
    (fireDnl s).dnl.length = s.dnl.length - dnlBatch ∧ (∀ x ∈ (fireDnl s).dnl, x.exp < (fireDnl s).dnlNext) := by
  have hall : s.dnl.takeWhile (fun x => decide (x.exp < s.dnlNext)) = s.dnl := by
    have := List.takeWhile_append_of_pos (p := fun x : Dn => decide (x.exp < s.dnlNext)) (l₂ := [])
      (fun a ha => decide_eq_true (h a ha))
    rwa [List.append_nil, List.takeWhile_nil, List.append_nil] at this
  refine ⟨?_, fun x hx => Nat.lt_add_right period (h x (List.mem_of_mem_drop hx))⟩
  show (s.dnl.drop (min dnlBatch _)).length = _
  rw [hall, List.length_drop]
  rcases Nat.le_total dnlBatch s.dnl.length with hle | hle
  · rw [Nat.min_eq_left hle]
  · rw [Nat.min_eq_right hle, Nat.sub_self, Nat.sub_eq_zero_of_le hle]

/-- `n` consecutive ticks of the dead-nonce reaper -/
def ticks : Nat → St → St
  | 0, s => s
  | n + 1, s => ticks n (fireDnl s)

theorem dnl_ticks (s : St) (h : ∀ x ∈ s.dnl, x.exp < s.dnlNext) (n : Nat) :
    (ticks n s).dnl.length = s.dnl.length - dnlBatch * n := by
  induction n generalizing s with
  | zero => rfl
  | succ n ih =>
    obtain ⟨h1, h2⟩ := dnl_tick s h
    rw [ticks, ih (fireDnl s) h2, h1, Nat.mul_succ, Nat.sub_sub, Nat.add_comm]

example : (ticks 1 { dnl := [⟨[], 1, 5, 0, 0⟩, ⟨[], 2, 7, 0, 1⟩], dnlNext := 10 }).dnl = [] := by decide

/-- **fib_tree_minimal.** After every history of InsertNextHop / RemoveNextHop / ClearNextHops /
    SetStrategy / UnSetStrategy the name-tree FIB holds exactly the nodes on paths to prefixes with a
    next hop or a strategy. -/
theorem fib_tree_minimal (ops : List FibOp) :
    let f := ({} : FibTree).run ops
    Minimal f.nodes f.liveList ∧ (∀ m, m ∈ f.liveList ↔ f.live m = true) ∧
    -- the fibPrefixes side table holds exactly the prefixes with a next hop, each once
    f.pfx.Nodup ∧ (∀ m, m ∈ f.pfx ↔ (aget [] f.nh m).isEmpty = false) := by
  intro f
  obtain ⟨hm, hp⟩ := FibTree.run_inv FibTree.init_inv ops
  exact ⟨hm, fun m => FibTree.mem_liveList, hp.nodup, hp.exact⟩

example : (({} : FibTree).run [FibOp.ins [⟨8, [97]⟩, ⟨8, [98]⟩, ⟨8, [99]⟩] 1, FibOp.rem [⟨8, [97]⟩, ⟨8, [98]⟩, ⟨8, [99]⟩] 1]).nodes = [] := by
  decide

/-- **fib_hash_minimal.** After every history of the five mutators on the hash-table FIB, for every
    virtual-name length `m ≥ 1`:
    * the real table has one entry per name and every entry carries a next hop or a strategy
      (so it holds exactly the prefixes with next hops or a strategy);
    * `virtTable` and `virtTableNames` have the same keys, one entry each, namely exactly the
      `m`-component prefixes of the real names of at least `m` components;
    * the names recorded under a virtual name are exactly those real names — at least one — and
      `md` is the length of the longest of them.
    (`m = 0` is excluded: the constructor puts "/" into the real table without a virtual entry.) -/
theorem fib_hash_minimal (m : Nat) (hm : 1 ≤ m) (ops : List FibOp) :
    let f := ({ m := m } : FibHash).run ops
    (keys f.real).Nodup ∧ (∀ n ∈ keys f.real, liveE (aget ([], false) f.real n) = true) ∧
    (keys f.vnames).Nodup ∧ (keys f.virt).Nodup ∧ (∀ v, v ∈ keys f.virt ↔ v ∈ keys f.vnames) ∧
    (∀ v, v ∈ keys f.vnames ↔ ∃ x, x ∈ keys f.real ∧ m ≤ x.length ∧ x.take m = v) ∧
    (∀ v, v ∈ keys f.vnames →
      (∀ x, x ∈ aget [] f.vnames v ↔ (x ∈ keys f.real ∧ m ≤ x.length ∧ x.take m = v)) ∧
      aget [] f.vnames v ≠ [] ∧ aget 0 f.virt v = maxLen (aget [] f.vnames v)) := by
  intro f
  obtain ⟨h, hfm⟩ := FibHash.run_inv (FibHash.init_inv m hm) ops
  have hfm' : f.m = m := hfm
  have hv := h.virt
  rw [hfm'] at hv
  refine ⟨h.rnodup, fun n hn => h.live n hn (by simp), hv.nodupN, hv.nodupT, hv.same, ?_, ?_⟩
  · intro v
    constructor
    · intro hk
      have hne := hv.nonempty v hk
      cases hl : aget [] f.vnames v with
      | nil => exact absurd hl hne
      | cons x t =>
        have hx : x ∈ aget [] f.vnames v := by rw [hl]; simp
        exact ⟨x, (hv.names v hk x).mp hx⟩
    · rintro ⟨x, hx, hl, rfl⟩
      exact hv.covered x hx hl
  · intro v hk
    exact ⟨hv.names v hk, hv.nonempty v hk, hv.md v ((hv.same v).mpr hk)⟩

example : (({ m := 2 } : FibHash).run [FibOp.ins [⟨8, [97]⟩, ⟨8, [98]⟩, ⟨8, [99]⟩] 1, FibOp.ins [⟨8, [97]⟩, ⟨8, [98]⟩, ⟨8, [99]⟩, ⟨8, [100]⟩] 1,
    FibOp.rem [⟨8, [97]⟩, ⟨8, [98]⟩, ⟨8, [99]⟩, ⟨8, [100]⟩] 1, FibOp.rem [⟨8, [97]⟩, ⟨8, [98]⟩, ⟨8, [99]⟩] 1]).virt = [] := by decide

/-- **rib_minimal.** After every history of AddRoute / RemoveRoute / CleanUpFace the RIB tree holds
    exactly the nodes on paths to names with at least one route. -/
theorem rib_minimal (ops : List RibOp) :
    let r := ({} : Rib).run ops
    Minimal r.nodes r.liveList ∧ ∀ m, m ∈ r.liveList ↔ r.live m = true := by
  intro r
  exact ⟨Rib.run_inv Rib.init_inv ops, fun m => Rib.mem_liveList⟩

example : (({} : Rib).run [RibOp.add [⟨8, [97]⟩, ⟨8, [98]⟩] 1 0, RibOp.add [⟨8, [97]⟩] 2 0, RibOp.cleanUp 1]).nodes = [[⟨8, [97]⟩]] := by
  decide

theorem rib_minimal_spec (ops : List RibOp) :
    ribMinimal (({} : Rib).run ops).nodes (({} : Rib).run ops).liveList = true :=
  (sameSet_closure_iff _ _).mpr (rib_minimal ops).1

theorem fib_tree_minimal_spec (ops : List FibOp) :
    sameSet (({} : FibTree).run ops).nodes (closure (({} : FibTree).run ops).liveList) = true :=
  (sameSet_closure_iff _ _).mpr (fib_tree_minimal ops).1

/-- the predicate `fibHashMinimal` the driver evaluates on the real code's dump holds on the dump of
    the model after every history -/
theorem fib_hash_minimal_spec (m : Nat) (hm : 1 ≤ m) (ops : List FibOp) :
    let f := ({ m := m } : FibHash).run ops
    fibHashMinimal m (keys f.real) ((keys f.real).filter (fun n => liveE (aget ([], false) f.real n))) f.virt f.vnames = true := by
  intro f
  obtain ⟨_, hlive, hnN, hnT, hsame, hkeys, hrec⟩ := fib_hash_minimal m hm ops
  have hlong : ∀ v x, x ∈ ((keys f.real).filter (fun n => decide (n.length ≥ m))).filter (fun n => decide (n.take m = v)) ↔
      (x ∈ keys f.real ∧ m ≤ x.length ∧ x.take m = v) := by
    intro v x; simp only [List.mem_filter, decide_eq_true_eq, ge_iff_le]; constructor
    · rintro ⟨⟨h1, h2⟩, h3⟩; exact ⟨h1, h2, h3⟩
    · rintro ⟨h1, h2, h3⟩; exact ⟨⟨h1, h2⟩, h3⟩
  have hvs : ∀ v, v ∈ ((keys f.real).filter (fun n => decide (n.length ≥ m))).map (fun n => n.take m) ↔ v ∈ keys f.vnames := by
    intro v
    rw [hkeys v]
    simp only [List.mem_map, List.mem_filter, decide_eq_true_eq, ge_iff_le]
    constructor
    · rintro ⟨x, ⟨h1, h2⟩, h3⟩; exact ⟨x, h1, h2, h3⟩
    · rintro ⟨x, h1, h2, h3⟩; exact ⟨x, ⟨h1, h2⟩, h3⟩
  unfold fibHashMinimal
  simp only [Bool.and_eq_true, List.all_eq_true, decide_eq_true_eq, beq_iff_eq]
  refine ⟨⟨⟨⟨⟨⟨?_, ?_⟩, ?_⟩, ?_⟩, ?_⟩, ?_⟩, ?_⟩
  · rw [sameSet_iff]; intro x
    simp only [List.mem_filter]
    exact ⟨fun hx => ⟨hx, hlive x hx⟩, fun hx => hx.1⟩
  · rw [sameSet_iff]; intro v
    show v ∈ keys f.virt ↔ _
    rw [hvs v, hsame v]
  · rw [sameSet_iff]; intro v
    show v ∈ keys f.vnames ↔ _
    rw [hvs v]
  · intro p hp
    have hk : p.1 ∈ keys f.virt := List.mem_map.mpr ⟨p, hp, rfl⟩
    have hkN := (hsame p.1).mp hk
    obtain ⟨h1, _, h3⟩ := hrec p.1 hkN
    rw [← aget_of_mem_nodup 0 f.virt hnT hp, h3]
    apply maxLen_congr
    intro x; rw [h1 x, hlong p.1 x]
  · intro p hp
    have hkN : p.1 ∈ keys f.vnames := List.mem_map.mpr ⟨p, hp, rfl⟩
    obtain ⟨h1, _, _⟩ := hrec p.1 hkN
    rw [sameSet_iff]; intro x
    rw [← aget_of_mem_nodup [] f.vnames hnN hp, h1 x, hlong p.1 x]
  · have hperm : (keys f.virt).Perm (keys f.vnames) := (List.perm_ext_iff_of_nodup hnT hnN).mpr hsame
    have := hperm.length_eq
    simpa [keys] using this
  · exact hnT

end Ndn.C08
