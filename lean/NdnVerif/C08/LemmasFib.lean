/-
  The name-tree FIB and the RIB keep exactly the prefix closure of their live names; the `fibPrefixes`
  side table holds exactly the prefixes with a next hop.
-/
import NdnVerif.C08.Assoc
import NdnVerif.C07.LemmasPrune
namespace Ndn.C08
open Ndn.C07 (prefixes fill prune Minimal memb_iff mem_rem mem_addNew)

theorem FibTree.mem_liveList {f : FibTree} {m : Name} : m ∈ f.liveList ↔ f.live m = true := by
  rw [FibTree.liveList, List.mem_filter, List.mem_append]
  refine ⟨fun h => h.2, fun h => ⟨?_, h⟩⟩
  rw [FibTree.live, Bool.or_eq_true] at h
  rcases h with h | h
  · exact Or.inl (mem_keys_of_aget_ne (d := []) fun e => by rw [e] at h; cases h)
  · exact Or.inr (mem_keys_of_aget_ne (d := false) fun e => by rw [e] at h; cases h)

structure FibTree.PfxInv (f : FibTree) : Prop where
  nodup : f.pfx.Nodup
  exact : ∀ m, m ∈ f.pfx ↔ (aget [] f.nh m).isEmpty = false

def FibTree.Inv (f : FibTree) : Prop := Minimal f.nodes f.liveList ∧ f.PfxInv

theorem FibTree.live_nh (f : FibTree) (nodes pfx : List Name) (n m : Name) (v : List Nat) :
    FibTree.live { nodes := nodes, nh := aset f.nh n v, st := f.st, pfx := pfx } m =
      if m = n then (!v.isEmpty || aget false f.st n) else f.live m := by
  unfold FibTree.live
  split
  · rename_i hm; rw [hm, aget_aset_self]
  · rename_i hm; rw [aget_aset_of_ne _ _ _ hm]

theorem FibTree.live_st (f : FibTree) (nodes pfx : List Name) (n m : Name) (b : Bool) :
    FibTree.live { nodes := nodes, nh := f.nh, st := aset f.st n b, pfx := pfx } m =
      if m = n then (!(aget [] f.nh n).isEmpty || b) else f.live m := by
  unfold FibTree.live
  split
  · rename_i hm; rw [hm, aget_aset_self]
  · rename_i hm; rw [aget_aset_of_ne _ _ _ hm]

theorem FibTree.pruneAt_min {f g : FibTree} {n : Name} (hf : Minimal f.nodes f.liveList) (hn : g.nodes = f.nodes)
    (hnode : f.nodeAt n = true)
    (hsame : ∀ m, m ≠ n → g.live m = f.live m) (hless : g.live n = true → f.live n = true) :
    Minimal (g.pruneAt n).nodes (g.pruneAt n).liveList := by
  show Minimal (prune g.live (n.length + 1) g.nodes n) g.liveList
  rw [hn]
  exact C07.prune_live (fun _ => FibTree.mem_liveList) (fun _ => FibTree.mem_liveList) hf (C07.all_prefixes_iff.mp hnode)
    hsame hless

theorem FibTree.fill_min {f g : FibTree} {n : Name} (hf : Minimal f.nodes f.liveList) (hn : g.nodes = fill f.nodes n)
    (hsame : ∀ m, m ≠ n → g.live m = f.live m) (hn' : g.live n = true) : Minimal g.nodes g.liveList := by
  rw [hn]
  exact C07.fill_live (fun _ => FibTree.mem_liveList) (fun _ => FibTree.mem_liveList) hf hsame hn'

theorem FibTree.PfxInv.write {f : FibTree} (h : f.PfxInv) {n : Name} {v : List Nat} {pfx : List Name} (hnd : pfx.Nodup)
    (hoff : ∀ m, m ≠ n → (m ∈ pfx ↔ m ∈ f.pfx)) (hat : n ∈ pfx ↔ v.isEmpty = false) (nodes : List Name)
    (st : List (Name × Bool)) : FibTree.PfxInv { nodes := nodes, nh := aset f.nh n v, st := st, pfx := pfx } := by
  refine ⟨hnd, fun m => ?_⟩
  show m ∈ pfx ↔ (aget [] (aset f.nh n v) m).isEmpty = false
  by_cases hm : m = n
  · rw [hm, aget_aset_self]; exact hat
  · rw [aget_aset_of_ne _ _ _ hm, hoff m hm]; exact h.exact m

theorem FibTree.PfxInv.pruneAt {f : FibTree} (h : f.PfxInv) (n : Name) : (f.pruneAt n).PfxInv := ⟨h.nodup, h.exact⟩

/-- `RemoveNextHop` (`v` = the next hops left) and `ClearNextHops` (`v = []`) -/
theorem FibTree.dropNh_inv {f : FibTree} (hf : f.Inv) (n : Name) (v : List Nat)
    (hv : v.isEmpty = false → (aget [] f.nh n).isEmpty = false) :
    (if f.nodeAt n then
      ({ f with nh := aset f.nh n v, pfx := if v.isEmpty then C07.rem n f.pfx else f.pfx } : FibTree).pruneAt n
     else f).Inv := by
  by_cases hnode : f.nodeAt n = true
  · rw [if_pos hnode]
    obtain ⟨hm, h⟩ := hf
    refine ⟨FibTree.pruneAt_min (n := n) hm rfl hnode (fun m hm => by rw [FibTree.live_nh, if_neg hm]) ?_, ?_⟩
    · rw [FibTree.live_nh, if_pos rfl, FibTree.live, Bool.or_eq_true, Bool.or_eq_true, Bool.not_eq_true', Bool.not_eq_true']
      exact Or.imp_left hv
    · refine FibTree.PfxInv.pruneAt ?_ n
      by_cases he : v.isEmpty = true
      · rw [if_pos he]
        exact h.write (C07.rem_nodup h.nodup) (fun m hm => mem_rem.trans (and_iff_left hm))
          ⟨fun hn => absurd rfl (mem_rem.mp hn).2, fun hv => by rw [he] at hv; cases hv⟩ _ _
      · rw [if_neg he]
        have he' := Bool.eq_false_iff.mpr he
        exact h.write h.nodup (fun _ _ => Iff.rfl) ⟨fun _ => he', fun _ => (h.exact n).mpr (hv he')⟩ _ _
  · rw [if_neg hnode]; exact hf

/-- each mutator is treated once: what it does to the liveness of its name (tree) and to its next hops (side table) -/
theorem FibTree.step_inv {f : FibTree} (hf : f.Inv) (op : FibOp) : (f.step op).Inv := by
  cases op with
  | ins n face =>
    obtain ⟨hm, h⟩ := hf
    simp only [FibTree.step, FibTree.ins]
    by_cases hc : ((aget [] f.nh n).any (· == face)) = true
    · rw [if_pos hc]
      refine ⟨FibTree.fill_min (n := n) hm rfl (fun m _ => rfl) ?_, h.nodup, h.exact⟩
      show (!(aget [] f.nh n).isEmpty || _) = true
      rw [isEmpty_of_any hc]; rfl
    · rw [if_neg hc]
      refine ⟨FibTree.fill_min (n := n) hm rfl (fun m hm => by rw [FibTree.live_nh, if_neg hm]) ?_,
        h.write (C07.nodup_addNew h.nodup) (fun m hm => mem_addNew.trans (or_iff_left hm))
          ⟨fun _ => by cases aget [] f.nh n <;> rfl, fun _ => mem_addNew.mpr (Or.inr rfl)⟩ _ _⟩
      rw [FibTree.live_nh, if_pos rfl]; cases aget [] f.nh n <;> rfl
  | rem n face => exact FibTree.dropNh_inv hf n _ (removeFirst_nonempty (· == face) _)
  | clr n => exact FibTree.dropNh_inv hf n [] fun h => nomatch h
  | set n =>
    obtain ⟨hm, h⟩ := hf
    refine ⟨FibTree.fill_min (n := n) hm rfl (fun m hm => ?_) ?_, h.nodup, h.exact⟩
    · show FibTree.live { nodes := _, nh := f.nh, st := aset f.st n true, pfx := f.pfx } m = _
      rw [FibTree.live_st, if_neg hm]
    · show FibTree.live { nodes := _, nh := f.nh, st := aset f.st n true, pfx := f.pfx } n = true
      rw [FibTree.live_st, if_pos rfl, Bool.or_true]
  | uns n =>
    obtain ⟨hm, h⟩ := hf
    show (f.uns n).Inv
    rw [FibTree.uns]
    by_cases hnode : f.nodeAt n = true
    · rw [if_pos hnode]
      refine ⟨FibTree.pruneAt_min (n := n) hm rfl hnode (fun m hm => by rw [FibTree.live_st, if_neg hm]) ?_, h.nodup, h.exact⟩
      rw [FibTree.live_st, if_pos rfl, Bool.or_false, FibTree.live]
      exact fun h => Bool.or_eq_true_iff.mpr (Or.inl h)
    · rw [if_neg hnode]; exact ⟨hm, h⟩

theorem FibTree.init_inv : ({} : FibTree).Inv := by
  refine ⟨fun x => ⟨fun h => absurd h List.not_mem_nil, fun ⟨m, hm, hp⟩ => ?_⟩,
    List.nodup_nil, fun _ => ⟨fun h => (nomatch h), fun h => (nomatch h)⟩⟩
  -- only the root is live, and it has no non-empty prefix
  have : m = [] := by
    have hm' : m ∈ [([] : Name)].filter ({} : FibTree).live := hm
    exact List.mem_singleton.mp (List.mem_filter.mp hm').1
  rw [this] at hp; cases hp

theorem FibTree.run_inv {f : FibTree} (hf : f.Inv) (ops : List FibOp) : (f.run ops).Inv := by
  induction ops generalizing f with
  | nil => exact hf
  | cons op t ih => exact ih (FibTree.step_inv hf op)

theorem Rib.mem_liveList {r : Rib} {m : Name} : m ∈ r.liveList ↔ r.live m = true := by
  rw [Rib.liveList, List.mem_filter]
  refine ⟨fun h => h.2, fun h => ⟨mem_keys_of_aget_ne (d := []) fun e => ?_, h⟩⟩
  rw [Rib.live, e] at h; cases h

def Rib.Inv (r : Rib) : Prop := Minimal r.nodes r.liveList

theorem Rib.live_routes (r : Rib) (nodes : List Name) (n m : Name) (v : List (Nat × Nat)) :
    Rib.live { nodes := nodes, routes := aset r.routes n v } m = if m = n then !v.isEmpty else r.live m := by
  unfold Rib.live
  split
  · rename_i hm; rw [hm, aget_aset_self]
  · rename_i hm; rw [aget_aset_of_ne _ _ _ hm]

theorem Rib.removeAt_inv {r : Rib} (hr : r.Inv) (n : Name) (g : List (Nat × Nat) → List (Nat × Nat))
    (hg : ∀ l, l.isEmpty = true → (g l).isEmpty = true) (hpath : ∀ q ∈ prefixes n, q ∈ r.nodes) :
    (({ r with routes := aset r.routes n (g (aget [] r.routes n)) } : Rib).pruneAt n).Inv := by
  refine C07.prune_live (fun _ => Rib.mem_liveList) (fun _ => Rib.mem_liveList) hr hpath
    (fun m hm => by rw [Rib.live_routes, if_neg hm]) fun h => ?_
  rw [Rib.live_routes, if_pos rfl] at h
  cases hcur : (aget [] r.routes n).isEmpty with
  | false => exact congrArg (!·) hcur
  | true => rw [hg _ hcur] at h; cases h

theorem Rib.cleanUp_inv {r : Rib} (hr : r.Inv) (face : Nat) : (r.cleanUp face).Inv := by
  unfold Rib.cleanUp
  generalize deepFirst ([] :: r.nodes) = l
  induction l generalizing r with
  | nil => exact hr
  | cons n t ih =>
    rw [List.foldl_cons]
    refine ih ?_
    split
    · rename_i hm
      refine Rib.removeAt_inv hr n (fun l => l.filter (fun x => x.1 != face))
        (fun l hl => by rw [List.isEmpty_iff.mp hl]; rfl) ?_
      rcases List.mem_cons.mp (memb_iff.mp (Bool.and_eq_true_iff.mp hm).1) with rfl | hn
      · exact fun _ h => nomatch h
      · exact C07.minimal_path hr hn
    · exact hr

theorem Rib.step_inv {r : Rib} (hr : r.Inv) (op : RibOp) : (r.step op).Inv := by
  cases op with
  | add n f o =>
    simp only [Rib.step, Rib.add]
    split
    · rename_i hc
      refine C07.fill_live (fun _ => Rib.mem_liveList) (fun _ => Rib.mem_liveList) hr (fun m _ => rfl) ?_
      show (!(aget [] r.routes n).isEmpty) = true
      rw [isEmpty_of_any hc]; rfl
    · refine C07.fill_live (fun _ => Rib.mem_liveList) (fun _ => Rib.mem_liveList) hr
        (fun m hm => by rw [Rib.live_routes, if_neg hm]) ?_
      rw [Rib.live_routes, if_pos rfl]; cases aget [] r.routes n <;> rfl
  | remove n f o =>
    simp only [Rib.step, Rib.remove]
    split
    · rename_i hnode
      refine Rib.removeAt_inv hr n (removeFirst (fun x => x.1 == f && x.2 == o)) (removeFirst_nil_of_nil _) ?_
      exact C07.all_prefixes_iff.mp hnode
    · exact hr
  | cleanUp f => exact Rib.cleanUp_inv hr f

theorem Rib.init_inv : ({} : Rib).Inv :=
  fun _ => ⟨fun h => absurd h List.not_mem_nil, fun ⟨_, hm, _⟩ => absurd hm List.not_mem_nil⟩

theorem Rib.run_inv {r : Rib} (hr : r.Inv) (ops : List RibOp) : (r.run ops).Inv := by
  induction ops generalizing r with
  | nil => exact hr
  | cons op t ih => exact ih (Rib.step_inv hr op)

end Ndn.C08
