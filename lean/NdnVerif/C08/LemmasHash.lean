/-
  The hash-table FIB: invariant `HInv` and its preservation by the five mutators.  `HInvX (some n)` is the
  invariant while the entry of `n` is between `insertEntry` / a write and the write / `pruneTables` that follows.
-/
import NdnVerif.C08.LemmasHashVirt
namespace Ndn.C08
open Ndn.C07 (memb memb_iff)

/-- a real entry carries information: a next hop or a strategy -/
def liveE (e : List Nat × Bool) : Bool := !e.1.isEmpty || e.2

structure HInvX (n : Option Name) (f : FibHash) : Prop where
  rnodup : (keys f.real).Nodup
  live : ∀ x, x ∈ keys f.real → some x ≠ n → liveE (aget ([], false) f.real x) = true
  virt : VInv f.m (fun x => x ∈ keys f.real) f.vnames f.virt

abbrev HInv (f : FibHash) : Prop := HInvX none f

theorem HInvX.weaken {f : FibHash} (h : HInv f) (n : Name) : HInvX (some n) f :=
  ⟨h.rnodup, fun x hx _ => h.live x hx (by simp), h.virt⟩

theorem HInvX.close {f : FibHash} {n : Name} (h : HInvX (some n) f) (hn : liveE (aget ([], false) f.real n) = true) :
    HInv f := by
  refine ⟨h.rnodup, fun x hx _ => ?_, h.virt⟩
  by_cases hxn : x = n
  · exact hxn ▸ hn
  · exact h.live x hx fun e => hxn (Option.some.inj e)

theorem has_iff_keys (f : FibHash) (n : Name) : f.has n = true ↔ n ∈ keys f.real := any_key_iff _ _

theorem HInvX.write {f : FibHash} {n : Name} (h : HInvX (some n) f) (e : List Nat × Bool)
    (hn : n ∈ keys f.real) : HInvX (some n) { f with real := aset f.real n e } := by
  refine ⟨nodup_keys_aset _ _ _ h.rnodup, fun x hx hxn => ?_, h.virt.congr fun x _ => ?_⟩
  · have hxn' : x ≠ n := fun e' => hxn (e' ▸ rfl)
    show liveE (aget ([], false) (aset f.real n e) x) = true
    rw [aget_aset_of_ne _ _ _ hxn']
    exact h.live x (((mem_keys_aset _ _ _ _).mp hx).resolve_right hxn') hxn
  · show x ∈ keys f.real ↔ x ∈ keys (aset f.real n e)
    rw [mem_keys_aset]
    exact ⟨Or.inl, fun hx => hx.elim id fun e' => e' ▸ hn⟩

theorem FibHash.insertEntry_m (f : FibHash) (n : Name) : (f.insertEntry n).m = f.m := by
  simp only [FibHash.insertEntry, apply_ite FibHash.m, ite_self]

theorem FibHash.pruneTables_m (f : FibHash) (n : Name) : (f.pruneTables n).m = f.m := by
  simp only [FibHash.pruneTables, apply_ite FibHash.m, ite_self]

theorem FibHash.insertEntry_real (f : FibHash) (n : Name) :
    (f.insertEntry n).real = aset f.real n (aget ([], false) f.real n) := by
  have : (if f.has n then f else { f with real := f.real ++ [(n, ([], false))] }).real =
      aset f.real n (aget ([], false) f.real n) := by
    split
    · rename_i hh; exact (aset_aget_self _ _ _ ((has_iff_keys f n).mp hh)).symm
    · rename_i hh
      have hk : n ∉ keys f.real := fun hk => hh ((has_iff_keys f n).mpr hk)
      rw [aget_of_not_mem _ _ _ hk, aset_of_not_mem _ _ _ hk]
  rw [← this]
  simp only [FibHash.insertEntry, apply_ite FibHash.real, ite_self]

theorem FibHash.insertEntry_virtual (f : FibHash) (n : Name) :
    (f.insertEntry n).vnames = (if f.m ≤ n.length then
        aset f.vnames (n.take f.m) (if memb n (aget [] f.vnames (n.take f.m)) then aget [] f.vnames (n.take f.m)
          else aget [] f.vnames (n.take f.m) ++ [n])
      else f.vnames) ∧
    (f.insertEntry n).virt = (if f.m ≤ n.length then
        aset f.virt (n.take f.m) (if f.virt.any (fun p => decide (p.1 = n.take f.m)) then max (aget 0 f.virt (n.take f.m)) n.length
          else n.length)
      else f.virt) := by
  constructor <;>
    simp only [FibHash.insertEntry, apply_ite FibHash.vnames, apply_ite FibHash.m, apply_ite FibHash.virt, ite_self, ge_iff_le]

theorem insertEntry_inv {f : FibHash} (h : HInv f) (n : Name) :
    HInvX (some n) (f.insertEntry n) ∧ n ∈ keys (f.insertEntry n).real := by
  have hk : ∀ x, x ∈ keys (f.insertEntry n).real ↔ x ∈ keys f.real ∨ x = n := by
    intro x; rw [f.insertEntry_real, mem_keys_aset]
  refine ⟨⟨?_, fun x hx hxn => ?_, ?_⟩, (hk n).mpr (Or.inr rfl)⟩
  · rw [f.insertEntry_real]; exact nodup_keys_aset _ _ _ h.rnodup
  · have hxn' : x ≠ n := fun e => hxn (e ▸ rfl)
    rw [f.insertEntry_real, aget_aset_of_ne _ _ _ hxn']
    exact h.live x (((hk x).mp hx).resolve_right hxn') (by simp)
  · rw [f.insertEntry_m, (f.insertEntry_virtual n).1, (f.insertEntry_virtual n).2]
    by_cases hl : f.m ≤ n.length
    · rw [if_pos hl, if_pos hl]
      exact (h.virt.insert n hl).congr fun x _ => (hk x).symm
    · rw [if_neg hl, if_neg hl]
      refine h.virt.congr fun x hxl => ⟨fun hx => (hk x).mpr (Or.inl hx), fun hx => ((hk x).mp hx).resolve_right ?_⟩
      intro e; exact hl (e ▸ hxl)

theorem not_liveE_eq (e : List Nat × Bool) : (e.1.isEmpty && !e.2) = !liveE e := by
  unfold liveE; cases e.1.isEmpty <;> cases e.2 <;> rfl

theorem FibHash.pruneTables_live {f : FibHash} {n : Name} (hn : liveE (aget ([], false) f.real n) = true) :
    f.pruneTables n = f := by
  rw [FibHash.pruneTables]
  simp only [not_liveE_eq, hn, Bool.not_true, Bool.false_eq_true, ↓reduceIte]

theorem FibHash.pruneTables_dead {f : FibHash} {n : Name} (hn : liveE (aget ([], false) f.real n) = false) :
    (f.pruneTables n).real = adel f.real n ∧
    (¬ f.m ≤ n.length → (f.pruneTables n).vnames = f.vnames ∧ (f.pruneTables n).virt = f.virt) ∧
    (f.m ≤ n.length → n.take f.m ∈ keys f.virt → n.take f.m ∈ keys f.vnames → n ∈ aget [] f.vnames (n.take f.m) →
      (f.pruneTables n).vnames = vnDel f.vnames n (n.take f.m) ∧
      (f.pruneTables n).virt = vtDel (vnDel f.vnames n (n.take f.m)) f.virt n (n.take f.m)) := by
  refine ⟨?_, fun hl => ?_, fun hl hT hN hx => ?_⟩
  · simp only [FibHash.pruneTables, not_liveE_eq, hn, apply_ite FibHash.real, ite_self, Bool.not_false, ↓reduceIte]
  · constructor <;> simp only [FibHash.pruneTables, not_liveE_eq, hn, ge_iff_le, hl, Bool.not_false, ↓reduceIte]
  · have a1 := (any_key_iff _ _).mpr hT
    have a2 := (any_key_iff _ _).mpr hN
    have a3 := memb_iff.mpr hx
    unfold vtDel vnDel
    constructor <;>
      simp only [FibHash.pruneTables, not_liveE_eq, hn, apply_ite FibHash.vnames, apply_ite FibHash.virt, apply_ite FibHash.m,
        ge_iff_le, hl, a1, a2, a3, ite_self, Bool.not_false, Bool.and_self, Bool.true_and, ↓reduceIte]

theorem pruneTables_inv {f : FibHash} {n : Name} (h : HInvX (some n) f) (hn : n ∈ keys f.real) :
    HInv (f.pruneTables n) := by
  cases hlive : liveE (aget ([], false) f.real n) with
  | true => rw [FibHash.pruneTables_live hlive]; exact h.close hlive
  | false =>
    obtain ⟨hr, hshort, hlong⟩ := FibHash.pruneTables_dead hlive
    have hk : ∀ x, x ∈ keys (f.pruneTables n).real ↔ (x ∈ keys f.real ∧ x ≠ n) := by
      intro x; rw [hr, mem_keys_adel]
    refine ⟨?_, fun x hx _ => ?_, ?_⟩
    · rw [hr]; exact nodup_keys_adel _ _ h.rnodup
    · obtain ⟨hx1, hx2⟩ := (hk x).mp hx
      rw [hr, aget_adel, if_neg hx2]
      exact h.live x hx1 fun e => hx2 (Option.some.inj e)
    · rw [f.pruneTables_m]
      by_cases hl : f.m ≤ n.length
      · have hkN := h.virt.covered n hn hl
        obtain ⟨e1, e2⟩ := hlong hl ((h.virt.same _).mpr hkN) hkN ((h.virt.names _ hkN n).mpr ⟨hn, hl, rfl⟩)
        rw [e1, e2]
        exact (h.virt.delete n hn hl).congr fun x _ => (hk x).symm
      · obtain ⟨e1, e2⟩ := hshort hl
        rw [e1, e2]
        refine h.virt.congr fun x hxl => ⟨fun hx => (hk x).mpr ⟨hx, ?_⟩, fun hx => ((hk x).mp hx).1⟩
        intro e; exact hl (e ▸ hxl)

/-- `RemoveNextHop`, `ClearNextHops`, `UnSetStrategy`: if the entry exists, write, then prune -/
theorem writePrune_inv {f : FibHash} (h : HInv f) (n : Name) (e : List Nat × Bool) :
    HInv (if f.has n then ({ f with real := aset f.real n e } : FibHash).pruneTables n else f) := by
  by_cases hh : f.has n = true
  · rw [if_pos hh]
    exact pruneTables_inv ((HInvX.weaken h n).write e ((has_iff_keys f n).mp hh)) ((mem_keys_aset _ _ _ _).mpr (Or.inr rfl))
  · rw [if_neg hh]; exact h

/-- `InsertNextHop`, `SetStrategy`: create the entry, then write a live one -/
theorem insertWrite_inv {f : FibHash} (h : HInv f) (n : Name) (e : List Nat × Bool) (he : liveE e = true) :
    HInv { f.insertEntry n with real := aset (f.insertEntry n).real n e } := by
  obtain ⟨hx, hn⟩ := insertEntry_inv h n
  exact (hx.write e hn).close (by show liveE (aget _ (aset _ n e) n) = true; rw [aget_aset_self]; exact he)

theorem liveE_of_any {l : List Nat} {b : Bool} {face : Nat} (h : l.any (· == face) = true) : liveE (l, b) = true := by
  rw [liveE, isEmpty_of_any h]; rfl

theorem liveE_append (l : List Nat) (face : Nat) (b : Bool) : liveE (l ++ [face], b) = true := by
  cases l <;> rfl

theorem FibHash.step_inv {f : FibHash} (h : HInv f) (op : FibOp) : HInv (f.step op) := by
  cases op with
  | ins n face =>
    simp only [FibHash.step, FibHash.ins]
    by_cases hc : ((aget ([], false) (f.insertEntry n).real n).1.any (· == face)) = true
    · rw [if_pos hc]; exact (insertEntry_inv h n).1.close (liveE_of_any hc)
    · rw [if_neg hc]; exact insertWrite_inv h n _ (liveE_append _ _ _)
  | rem n face =>
    show HInv (f.rem n face)
    rw [FibHash.rem]
    by_cases hc : ((aget ([], false) f.real n).1.any (· == face)) = true
    · rw [if_pos hc]; exact writePrune_inv h n _
    · rw [if_neg hc, ite_self]; exact h
  | clr n => exact writePrune_inv h n _
  | set n => exact insertWrite_inv h n _ (Bool.or_true _)
  | uns n => exact writePrune_inv h n _

theorem FibHash.step_m (f : FibHash) (op : FibOp) : (f.step op).m = f.m := by
  cases op <;>
    simp only [FibHash.step, FibHash.ins, FibHash.rem, FibHash.clr, FibHash.set, FibHash.uns, apply_ite FibHash.m,
      FibHash.insertEntry_m, FibHash.pruneTables_m, ite_self]

theorem FibHash.init_inv (m : Nat) (hm : 1 ≤ m) : HInv ({ m := m } : FibHash) := by
  refine ⟨List.nodup_cons.mpr ⟨List.not_mem_nil, List.nodup_nil⟩, fun x hx _ => ?_, ?_⟩
  · rw [List.mem_singleton.mp hx]; rfl
  · refine ⟨List.nodup_nil, List.nodup_nil, fun v => Iff.rfl, fun _ h => absurd h List.not_mem_nil,
      fun _ h => absurd h List.not_mem_nil, fun _ h => absurd h List.not_mem_nil, fun x hx hl => ?_⟩
    -- the root has length 0 < m: it has no virtual name
    rw [List.mem_singleton.mp hx] at hl
    exact absurd hl (by show ¬ m ≤ 0; omega)

theorem FibHash.run_inv {f : FibHash} (h : HInv f) (ops : List FibOp) : HInv (f.run ops) ∧ (f.run ops).m = f.m := by
  induction ops generalizing f with
  | nil => exact ⟨h, rfl⟩
  | cons op t ih =>
    obtain ⟨h3, h4⟩ := ih (FibHash.step_inv h op)
    exact ⟨h3, h4.trans (f.step_m op)⟩

end Ndn.C08
