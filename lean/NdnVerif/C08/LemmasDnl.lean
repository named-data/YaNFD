/-
  The dead nonce list.  `DInv`: records are sorted by expiry, expiry = insertion time + lifetime, the
  ticker is armed within one period, and a record of rank `r` (number of records present when it was
  inserted) at index `i` has seen at most `(r - i)/100` ticks since it expired.
-/
import NdnVerif.C08.LemmasOps
namespace Ndn.C08

/-- ticks of the reaper that have fired strictly after instant `e` -/
def ticksAfter (s : St) (e : Nat) : Nat := (s.dnlNext - 1 - e) / period

structure DInv (s : St) : Prop where
  sorted : s.dnl.Pairwise (fun a b => a.exp ≤ b.exp)
  born : ∀ x ∈ s.dnl, x.exp = x.born + s.cfg.dnlLife ∧ x.born ≤ s.now
  armed : s.dnlNext ≤ s.now + period
  rank : ∀ (i : Nat) (h : i < s.dnl.length), i + dnlBatch * ticksAfter s (s.dnl[i]).exp ≤ (s.dnl[i]).rank

theorem period_pos : 0 < period := by decide

/-- `DInv.rank` as a property of the list and the instant of the next tick -/
def RankOk (next : Nat) (l : List Dn) : Prop :=
  ∀ (i : Nat) (h : i < l.length), i + dnlBatch * ((next - 1 - (l[i]).exp) / period) ≤ (l[i]).rank

theorem RankOk.snoc {next : Nat} {l : List Dn} (h : RankOk next l) {x : Dn} (hx : next ≤ x.exp + period)
    (hr : x.rank = l.length) : RankOk next (l ++ [x]) := by
  intro i hi
  by_cases hlt : i < l.length
  · rw [List.getElem_append_left hlt]
    exact h i hlt
  · have hieq : i = l.length := by
      rw [List.length_append, List.length_singleton] at hi; omega
    subst hieq
    rw [List.getElem_append_right (Nat.le_refl _)]
    simp only [Nat.sub_self, List.getElem_cons_zero]
    rw [Nat.div_eq_of_lt (by have := period_pos; omega), hr]
    exact Nat.le_refl _

theorem not_expired_of_drop {l : List Dn} (hs : l.Pairwise (fun a b => a.exp ≤ b.exp)) (t : Nat) :
    ∀ x ∈ l.drop (l.takeWhile (fun x => decide (x.exp < t))).length, t ≤ x.exp := by
  induction l with
  | nil => exact fun _ h => absurd h List.not_mem_nil
  | cons a r ih =>
    obtain ⟨ha, hr⟩ := List.pairwise_cons.mp hs
    rw [List.takeWhile_cons]
    split
    · exact ih hr
    · rename_i hexp
      have hat : t ≤ a.exp := Nat.le_of_not_lt fun hlt => hexp (decide_eq_true hlt)
      intro x hx
      rcases List.mem_cons.mp hx with rfl | hx
      · exact hat
      · exact Nat.le_trans hat (ha x hx)

theorem ticks_next (a e : Nat) :
    (a + period - 1 - e) / period ≤ (a - 1 - e) / period + 1 ∧ (a ≤ e → (a + period - 1 - e) / period = 0) := by
  have hp := period_pos
  refine ⟨?_, fun h => Nat.div_eq_of_lt (by omega)⟩
  rw [← Nat.add_div_right _ hp]
  exact Nat.div_le_div_right (by omega)

theorem RankOk.tick {next : Nat} {l : List Dn} (h : RankOk next l) (hs : l.Pairwise (fun a b => a.exp ≤ b.exp)) :
    RankOk (next + period) (l.drop (min dnlBatch (l.takeWhile (fun x => decide (x.exp < next))).length)) := by
  have hrest := not_expired_of_drop hs next
  have hmin := @Nat.min_def dnlBatch (l.takeWhile (fun x => decide (x.exp < next))).length
  generalize min dnlBatch (l.takeWhile (fun x => decide (x.exp < next))).length = k at hmin
  intro i hi
  have hi' : k + i < l.length := Nat.add_lt_of_lt_sub' (List.length_drop ▸ hi)
  have hold := h (k + i) hi'
  have hmem : (l.drop k)[i] ∈ l.drop k := List.getElem_mem _
  rw [List.getElem_drop] at hmem ⊢
  generalize l[k + i] = x at hold hmem
  obtain ⟨h1, h0⟩ := ticks_next next x.exp
  split at hmin
  · -- a full batch went: the index drops by it, and at most one more tick is counted
    refine Nat.le_trans (Nat.add_le_add_left (Nat.mul_le_mul_left dnlBatch h1) i) ?_
    rw [Nat.mul_add, Nat.mul_one]
    subst hmin
    omega
  · -- fewer went: everything that had expired, so no tick is counted for what remains
    rw [h0 (hrest x (hmin ▸ hmem))]
    exact Nat.le_trans (Nat.le_add_left _ _) (Nat.le_of_add_right_le hold)

theorem RankOk.bound {next : Nat} {l : List Dn} (h : RankOk next l) {x : Dn} (hx : x ∈ l) {now : Nat} (hn : now < next) :
    now < x.exp + period * (x.rank / dnlBatch + 1) := by
  obtain ⟨i, hi, rfl⟩ := List.getElem_of_mem hx
  have hr := h i hi
  generalize l[i] = x at hr
  -- ticks since the expiry ≤ `rank / 100` (`RankOk` without the index), and `next - 1 - exp < period * (ticks + 1)`
  have hc : (next - 1 - x.exp) / period ≤ x.rank / dnlBatch :=
    (Nat.le_div_iff_mul_le (by decide)).mpr (Nat.le_trans (Nat.le_add_left _ _) (Nat.mul_comm _ _ ▸ hr))
  have h1 := Nat.lt_mul_div_succ (next - 1 - x.exp) period_pos
  have h2 := Nat.mul_le_mul_left period (Nat.add_le_add_right hc 1)
  have h3 : next - 1 ≤ x.exp + (next - 1 - x.exp) := Nat.add_comm _ _ ▸ Nat.le_add_of_sub_le (Nat.le_refl _)
  exact Nat.lt_of_le_of_lt (Nat.le_trans (Nat.le_sub_one_of_lt hn) h3) (Nat.add_lt_add_left (Nat.lt_of_lt_of_le h1 h2) _)

theorem dinv_init (cfg : Cfg) (k : Nat) : DInv (init cfg k) :=
  ⟨List.Pairwise.nil, fun _ h => absurd h List.not_mem_nil, Nat.le_add_left period 0, fun _ h => absurd h (Nat.not_lt_zero _)⟩

theorem dinv_closed : Closed DInv := by
  constructor
  · intro a b ⟨h1, h2, _, h3, h4, _⟩ h
    refine ⟨h1 ▸ h.sorted, ?_, ?_, ?_⟩
    · rw [h1, h2, h4]; exact h.born
    · rw [h2, h3]; exact h.armed
    · show RankOk b.dnlNext b.dnl
      rw [h1, h3]; exact h.rank
  · intro a n x h
    unfold dnlInsert
    split
    · exact h
    · refine ⟨?_, fun y hy => ?_, h.armed, RankOk.snoc h.rank ?_ rfl⟩
      -- one lifetime for all records: what is in the list was inserted no later than now, so it expires no later
      · refine List.pairwise_append.mpr ⟨h.sorted, List.pairwise_singleton _ _, fun y hy z hz => ?_⟩
        rw [List.mem_singleton.mp hz]
        exact (h.born y hy).1 ▸ Nat.add_le_add_right (h.born y hy).2 _
      · rcases List.mem_append.mp hy with hy | hy
        · exact h.born y hy
        · rw [List.mem_singleton.mp hy]; exact ⟨rfl, Nat.le_refl _⟩
      · exact Nat.le_trans h.armed (Nat.add_le_add_right (Nat.le_add_right _ _) _)

theorem setNow_dinv {s : St} (h : DInv s) (t : Nat) (ht : s.now ≤ t) : DInv (setNow s t) :=
  ⟨h.sorted, fun x hx => ⟨(h.born x hx).1, Nat.le_trans (h.born x hx).2 ht⟩,
    Nat.le_trans h.armed (Nat.add_le_add_right ht _), h.rank⟩

theorem fireDnl_dinv {s : St} (h : DInv s) (ht : s.now ≤ s.dnlNext) : DInv (fireDnl s) :=
  ⟨h.sorted.sublist (List.drop_sublist _ _),
    fun x hx => ⟨(h.born x (List.mem_of_mem_drop hx)).1, Nat.le_trans (h.born x (List.mem_of_mem_drop hx)).2 ht⟩,
    Nat.le_refl _, RankOk.tick h.rank h.sorted⟩

theorem fireUpdate_dinv {s : St} (h : DInv s) (ht : s.now ≤ s.pitNext) : DInv (fireUpdate s) := by
  obtain ⟨d, _, e⟩ := fireUpdate_eq s
  rw [e]
  have h1 := expire_closed dinv_closed s.pitNext _ (setNow_dinv h s.pitNext ht)
  exact ⟨h1.sorted, h1.born, h1.armed, h1.rank⟩

end Ndn.C08
