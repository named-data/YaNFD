/-
  Histories: the invariants and the refinement relations (`TreeRel`, `HashRel`) hold after every operation sequence
  (`runTree_rel`, `runHash_rel`); membership in the listings of the three tables in terms of `nhAt` / `stAt`.
-/
import NdnVerif.C05.LemmasTree
import NdnVerif.C05.LemmasHash
namespace Ndn.C05
open NameTree

def runTree (d : Name) (ops : List Op) : Tree := ops.foldl Tree.apply (Tree.init d)
def runHash (m : Nat) (d : Name) (ops : List Op) : Hash := ops.foldl Hash.apply (Hash.init m d)
def runSpec (d : Name) (ops : List Op) : Spec := ops.foldl Spec.apply (Spec.init d)

structure SpecInv (s : Spec) : Prop where
  nhKeys : KeysNodup s.nh
  stKeys : KeysNodup s.st
  hops : ∀ n, KeysNodup (s.nhAt n)

theorem Spec.inv_init (d : Name) : SpecInv (Spec.init d) :=
  ⟨List.nodup_nil, List.pairwise_singleton _ _, fun _ => List.nodup_nil⟩

theorem Spec.inv_apply {s : Spec} (hi : SpecInv s) (op : Op) : SpecInv (s.apply op) := by
  refine ⟨?_, ?_, fun n => ?_⟩
  · cases op with
    | ins m f c => exact keysNodup_aset hi.nhKeys _ _
    | rem m f => simp only [Spec.apply]; split; exact keysNodup_aerase hi.nhKeys _; exact keysNodup_aset hi.nhKeys _ _
    | clr m => exact keysNodup_aerase hi.nhKeys _
    | _ => exact hi.nhKeys
  · cases op with
    | sets m x => exact keysNodup_aset hi.stKeys _ _
    | unsets m => exact keysNodup_aerase hi.stKeys _
    | rem m f => exact hi.stKeys
    | _ => exact hi.stKeys
  · rw [Spec.nhAt_apply, nhStep_eq]
    split
    · exact op.onHops_nodup (fun _ _ h => keysNodup_filter h _) (hi.hops _)
    · exact hi.hops n

theorem runSpec_inv (d : Name) (ops : List Op) : SpecInv (runSpec d ops) :=
  List.foldlRecOn ops _ (Spec.inv_init d) fun _ h op _ => Spec.inv_apply h op

theorem Tree.inv_init (d : Name) : TreeInv (Tree.init d) :=
  (treeInv_iff _).mpr (WF.single ⟨fun _ h => (Option.some.inj h).symm, fun _ => rfl, List.nodup_nil⟩)

def TreeRel (t : Tree) (s : Spec) : Prop := (∀ n, t.nhAt n = s.nhAt n) ∧ (∀ n, t.stAt n = s.stAt n)

theorem runTree_rel (d : Name) (ops : List Op) :
    TreeInv (runTree d ops) ∧ SpecInv (runSpec d ops) ∧ TreeRel (runTree d ops) (runSpec d ops) := by
  refine List.foldl_rel (r := fun t s => TreeInv t ∧ SpecInv s ∧ TreeRel t s)
    ⟨Tree.inv_init d, Spec.inv_init d, fun n => ?_, fun n => ?_⟩ fun op _ t s => ?_
  · rw [Tree.nhAt_eq]; exact (valAt_single ..).trans (ite_self _)
  · rw [Tree.stAt_eq]; exact valAt_single ..
  · rintro ⟨hi, si, hr1, hr2⟩
    obtain ⟨a, b, c⟩ := Tree.apply_spec hi op
    refine ⟨a, Spec.inv_apply si op, fun n => ?_, fun n => ?_⟩
    · rw [b n, Spec.nhAt_apply]
      exact (nhStep_rel (R := fun x y => x = y ∧ KeysNodup y) (fun n => ⟨hr1 n, si.hops n⟩)
        (fun _ _ f c h => ⟨by rw [h.1], keysNodup_aset h.2 f c⟩)
        (fun _ _ f h => ⟨by rw [h.1, removeHopShift_eq_filter h.2], keysNodup_filter h.2 _⟩)
        ⟨rfl, List.nodup_nil⟩ op n).1
    · rw [c n, Spec.stAt_apply, show t.stAt = s.stAt from funext hr2]

theorem Hash.inv_init (m : Nat) (hm1 : 1 ≤ m) (d : Name) : HashInv (Hash.init m d) := by
  refine ⟨List.pairwise_singleton _ _, fun n e hf => ?_, fun n hn hm => ?_⟩
  · have hk := eq_of_ahas_single ((ahas_iff _ _).mpr ⟨e, hf⟩)
    subst hk
    cases hf; exact List.nodup_nil
  · rw [← eq_of_ahas_single hn] at hm
    exact absurd (Nat.le_trans hm1 hm) (Nat.not_succ_le_zero 0)

def HashRel (h : Hash) (s : Spec) : Prop := (∀ n, HopsEq (h.nhAt n) (s.nhAt n)) ∧ (∀ n, h.stAt n = s.stAt n)

theorem Hash.nhAt_nodup {h : Hash} (hi : HashInv h) (n : Name) : KeysNodup (h.nhAt n) := by
  unfold Hash.nhAt
  cases hf : afind h.real n with
  | none => exact List.nodup_nil
  | some e => exact hi.hops n e hf

theorem runHash_rel (m : Nat) (hm1 : 1 ≤ m) (d : Name) (ops : List Op) :
    HashInv (runHash m d ops) ∧ (runHash m d ops).m = m ∧ SpecInv (runSpec d ops) ∧
      HashRel (runHash m d ops) (runSpec d ops) := by
  refine List.foldl_rel (r := fun h s => HashInv h ∧ h.m = m ∧ SpecInv s ∧ HashRel h s)
    ⟨Hash.inv_init m hm1 d, rfl, Spec.inv_init d, fun n f => ?_, fun n => ?_⟩ fun op _ h s => ?_
  · rw [Hash.nhAt_eq]; exact congrArg (afind · f) ((valAt_single ..).trans (ite_self _))
  · rw [Hash.stAt_eq]; exact valAt_single ..
  · rintro ⟨hi, hm, si, hr1, hr2⟩
    obtain ⟨a, a', b, c⟩ := Hash.apply_spec hi op
    refine ⟨a, a'.trans hm, Spec.inv_apply si op, fun n => ?_, fun n => ?_⟩
    · rw [b n, Spec.nhAt_apply]
      exact (nhStep_rel (R := fun x y => HopsEq x y ∧ KeysNodup x) (fun n => ⟨hr1 n, Hash.nhAt_nodup hi n⟩)
        (fun _ _ f c h => ⟨hopsEq_aset h.1 f c, keysNodup_aset h.2 f c⟩)
        (fun _ _ f h => ⟨fun k => by rw [afind_removeHopSwap h.2, h.1 k]; exact (afind_aerase _ f k).symm, keysNodup_removeHopSwap h.2 f⟩)
        ⟨HopsEq.refl _, List.nodup_nil⟩ op n).1
    · rw [c n, Spec.stAt_apply, show h.stAt = s.stAt from funext hr2]

theorem TreeInv.name_getD {t : Tree} (hi : TreeInv t) {k : Name} {nd : TNode} (hf : afind t.nodes k = some nd)
    (hemp : nd.isEmpty = false) : nd.name.getD [] = k := by
  obtain ⟨x, hx⟩ := Option.isSome_iff_exists.mp (hi.nm2 k nd hf hemp)
  rw [hx]; exact hi.nm1 k nd x hf hx

theorem Tree.mem_listFib {t : Tree} (hi : TreeInv t) (n : Name) (hops : Hops) :
    (n, hops) ∈ t.listFib ↔ hops ≠ [] ∧ t.nhAt n = hops := by
  rw [Tree.nhAt_eq]
  refine mem_listing_filter hi.keys TNode.hops (fun q => q.2.name.getD []) (fun k nd hf hne => hi.name_getD hf ?_) n hops
  simp only [TNode.isEmpty, Bool.and_eq_false_iff, List.isEmpty_eq_false_iff]; exact .inl hne

theorem Tree.mem_listStrat {t : Tree} (hi : TreeInv t) (n : Name) (x : Name) :
    (n, x) ∈ t.listStrat ↔ t.stAt n = some x := by
  rw [Tree.stAt_eq]
  refine mem_listing_filterMap hi.keys TNode.strat (fun q => q.2.name.getD []) (fun k nd hf hs => hi.name_getD hf ?_) n x
  simp only [TNode.isEmpty, Bool.and_eq_false_iff, Option.isNone_eq_false_iff]; exact .inr hs

theorem Hash.mem_listFib {h : Hash} (hi : HashInv h) (n : Name) (hops : Hops) :
    (n, hops) ∈ h.listFib ↔ hops ≠ [] ∧ h.nhAt n = hops := by
  rw [Hash.nhAt_eq]
  exact mem_listing_filter hi.keys HEntry.hops (·.1) (fun _ _ _ _ => rfl) n hops

theorem Hash.mem_listStrat {h : Hash} (hi : HashInv h) (n : Name) (x : Name) :
    (n, x) ∈ h.listStrat ↔ h.stAt n = some x := by
  rw [Hash.stAt_eq]
  exact mem_listing_filterMap hi.keys HEntry.strat (·.1) (fun _ _ _ _ => rfl) n x

theorem Spec.mem_listFib {s : Spec} (hi : SpecInv s) (n : Name) (hops : Hops) :
    (n, hops) ∈ s.listFib ↔ hops ≠ [] ∧ s.nhAt n = hops := by
  have := mem_listing_filter hi.nhKeys id (·.1) (fun _ _ _ _ => rfl) n hops
  rw [Spec.nhAt_eq, ← this, show List.map (fun q : Name × Hops => (q.1, id q.2)) = id from funext List.map_id]
  rfl

theorem Spec.mem_listStrat {s : Spec} (hi : SpecInv s) (n : Name) (x : Name) :
    (n, x) ∈ s.listStrat ↔ s.stAt n = some x :=
  mem_iff_afind hi.stKeys n x

end Ndn.C05
