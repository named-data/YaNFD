/-
  The hash-table FIB: abstraction `Hash.nhAt` / `Hash.stAt`, invariant `HashInv`, `findLpm` returns the longest prefix
  present in the real table (`Hash.findLpm_spec`), lookups are `lpm` of the abstraction, every operation acts on it as
  `nhStep` / `stStep` (`Hash.apply_spec`).
-/
import NdnVerif.C05.Lemmas
namespace Ndn.C05

def Hash.nhAt (h : Hash) (n : Name) : Hops :=
  match afind h.real n with
  | some e => e.hops
  | none => []

def Hash.stAt (h : Hash) (n : Name) : Option Name :=
  match afind h.real n with
  | some e => e.strat
  | none => none

/-- `virt` is what `findLpm` relies on: for a name longer than `m` it scans the lengths above `m` only if the `m`-prefix
    has a virtual entry, and only up to its `md`; so every real name of length ≥ m must be covered by one (`Covered`).
    The name sets are needed to keep this through `prune`, which recomputes `md` from them. -/
structure HashInv (h : Hash) : Prop where
  keys : KeysNodup h.real
  hops : ∀ n e, afind h.real n = some e → KeysNodup e.hops
  virt : ∀ n, ahas h.real n = true → h.m ≤ n.length →
    (∃ md, afind h.virt (n.take h.m) = some md ∧ n.length ≤ md) ∧
    (∃ ns, afind h.vnames (n.take h.m) = some ns ∧ nameIn ns n = true)

theorem Hash.nhAt_eq (h : Hash) : h.nhAt = valAt HEntry.hops [] h.real := by
  funext n; unfold Hash.nhAt valAt; cases afind h.real n <;> rfl

theorem Hash.stAt_eq (h : Hash) : h.stAt = valAt HEntry.strat none h.real := by
  funext n; unfold Hash.stAt valAt; cases afind h.real n <;> rfl

/-- `r` is the last index in `[lo, hi]` at which `p` holds: what a backwards scan returns -/
def IsLast (p : Nat → Bool) (lo hi : Nat) : Option Nat → Prop
  | some k => lo ≤ k ∧ k ≤ hi ∧ p k = true ∧ ∀ j, k < j → j ≤ hi → p j = false
  | none => ∀ j, lo ≤ j → j ≤ hi → p j = false

theorem IsLast.extend {p : Nat → Bool} {lo hi hi' : Nat} {r : Option Nat} (h : IsLast p lo hi r) (hle : hi ≤ hi')
    (hno : ∀ j, hi < j → j ≤ hi' → p j = false) : IsLast p lo hi' r := by
  have key : ∀ k, (∀ j, k < j → j ≤ hi → p j = false) → ∀ j, k < j → j ≤ hi' → p j = false := by
    intro k hk j h1 h2
    by_cases hj : j ≤ hi
    · exact hk j h1 hj
    · exact hno j (Nat.lt_of_not_le hj) h2
  cases r with
  | some k => exact ⟨h.1, Nat.le_trans h.2.1 hle, h.2.2.1, key k h.2.2.2⟩
  | none =>
    intro j h1 h2
    by_cases hj : j ≤ hi
    · exact h j h1 hj
    · exact hno j (Nat.lt_of_not_le hj) h2

/-- the scan of `[m+1, hi]` followed, if it finds nothing, by the scan of `[lo, m]`; `r` is the combined answer -/
theorem IsLast.join {p : Nat → Bool} {lo m hi : Nat} {r1 r2 r : Option Nat} (h1 : IsLast p (m + 1) hi r1)
    (h2 : IsLast p lo m r2) (hlo : lo ≤ m + 1) (hs : ∀ k, r1 = some k → r = some k) (hn : r1 = none → r = r2) :
    IsLast p lo (max m hi) r := by
  cases r1 with
  | some k =>
    rw [hs k rfl]
    have ha := h1.1
    exact ⟨Nat.le_trans hlo ha, Nat.le_trans h1.2.1 (Nat.le_max_right _ _), h1.2.2.1, fun j hb hc =>
      h1.2.2.2 j hb (by omega)⟩
  | none =>
    rw [hn rfl]
    exact h2.extend (Nat.le_max_left _ _) fun j ha hb => h1 j ha (by omega)

theorem IsLast.zero (p : Nat → Bool) (lo : Nat) :
    IsLast p lo 0 (if 0 < lo then none else if p 0 then some 0 else none) := by
  by_cases h0 : 0 < lo
  · rw [if_pos h0]; exact fun j h1 h2 => absurd (Nat.lt_of_lt_of_le h0 h1) (Nat.not_lt.mpr h2)
  · rw [if_neg h0]
    by_cases hh : p 0 = true
    · rw [if_pos hh]; exact ⟨Nat.le_of_not_lt h0, Nat.le_refl _, hh, fun j h1 h2 => absurd h2 (Nat.not_le.mpr h1)⟩
    · rw [if_neg hh]; exact fun j _ h2 => Nat.le_zero.mp h2 ▸ Bool.eq_false_iff.mpr hh

theorem IsLast.step {p : Nat → Bool} {lo hi : Nat} {r : Option Nat} (hr : IsLast p lo hi r) :
    IsLast p lo (hi + 1) (if hi + 1 < lo then none else if p (hi + 1) then some (hi + 1) else r) := by
  by_cases h0 : hi + 1 < lo
  · rw [if_pos h0]; exact fun j h1 h2 => absurd (Nat.lt_of_lt_of_le h0 h1) (Nat.not_lt.mpr h2)
  · rw [if_neg h0]
    by_cases hh : p (hi + 1) = true
    · rw [if_pos hh]; exact ⟨Nat.le_of_not_lt h0, Nat.le_refl _, hh, fun j h1 h2 => absurd h2 (Nat.not_le.mpr h1)⟩
    · rw [if_neg hh]
      refine hr.extend (Nat.le_succ _) fun j h1 h2 => ?_
      rw [Nat.le_antisymm h2 h1]; exact Bool.eq_false_iff.mpr hh

theorem scanReal_spec (real : List (Name × HEntry)) (name : Name) (lo hi : Nat) :
    IsLast (fun k => ahas real (name.take k)) lo hi (scanReal real name lo hi) := by
  induction hi with
  | zero => exact IsLast.zero _ lo
  | succ hi ih => exact ih.step

/-- what `findLongestPrefixMatchEnc` returns: the longest prefix present in the real table -/
def LongestReal (real : List (Name × HEntry)) (name : Name) : Option Nat → Prop
  | some k => k ≤ name.length ∧ ahas real (name.take k) = true ∧
      ∀ j, k < j → j ≤ name.length → ahas real (name.take j) = false
  | none => ∀ j, j ≤ name.length → ahas real (name.take j) = false

theorem Hash.findLpm_spec {h : Hash} (hi : HashInv h) (name : Name) : LongestReal h.real name (h.findLpm name) := by
  suffices hl : IsLast (fun k => ahas h.real (name.take k)) 0 name.length (h.findLpm name) by
    cases hr : h.findLpm name with
    | some k => rw [hr] at hl; exact hl.2
    | none => rw [hr] at hl; exact fun j hj => hl j (Nat.zero_le _) hj
  unfold Hash.findLpm
  by_cases hlen : name.length ≤ h.m
  · rw [if_pos hlen]; exact scanReal_spec h.real name 0 name.length
  · rw [if_neg hlen]
    -- a real prefix longer than `m` is covered by the virtual entry at the `m`-prefix
    have hK : ∀ j, h.m < j → j ≤ name.length → ahas h.real (name.take j) = true →
        ∃ md, afind h.virt (name.take h.m) = some md ∧ j ≤ md := by
      intro j h1 h2 hj
      have := (hi.virt (name.take j) hj (by
        rw [List.length_take]; exact Nat.le_min.mpr ⟨Nat.le_of_lt h1, Nat.le_trans (Nat.le_of_lt h1) h2⟩)).1
      rw [List.take_take, List.length_take, Nat.min_eq_left (Nat.le_of_lt h1), Nat.min_eq_left h2] at this
      exact this
    have low := scanReal_spec h.real name 0 h.m
    have hmlen : h.m ≤ name.length := Nat.le_of_lt (Nat.lt_of_not_le hlen)
    cases hv : afind h.virt (List.take h.m name) with
    | none =>
      refine low.extend hmlen fun j h1 h2 => ?_
      cases hj : ahas h.real (name.take j) with
      | false => rfl
      | true => obtain ⟨md, hmd, _⟩ := hK j h1 h2 hj; rw [hv] at hmd; cases hmd
    | some md =>
      simp only []
      refine ((scanReal_spec h.real name (h.m + 1) (min md name.length)).join low (Nat.zero_le _)
        (fun k e => by rw [e]) (fun e => by rw [e])).extend (Nat.max_le.mpr ⟨hmlen, Nat.min_le_right _ _⟩)
        fun j h1 h2 => ?_
      cases hj : ahas h.real (name.take j) with
      | false => rfl
      | true =>
        obtain ⟨md', hmd, h3⟩ := hK j (Nat.lt_of_le_of_lt (Nat.le_max_left _ _) h1) h2 hj
        rw [hv] at hmd; cases hmd
        exact absurd (Nat.lt_of_le_of_lt (Nat.le_trans (Nat.le_min.mpr ⟨h3, h2⟩) (Nat.le_max_right _ _)) h1)
          (Nat.lt_irrefl _)

theorem Hash.findNextHops_eq {h : Hash} (hi : HashInv h) (name : Name) :
    h.findNextHops name = lpm h.nhAt (fun x => !x.isEmpty) [] name name.length := by
  have hs := Hash.findLpm_spec hi name
  have hscan := scan_from_eq_lpm HEntry.hops [] (fun x => !x.isEmpty) rfl
    (fun x h => List.isEmpty_iff.mp (by simpa using h)) h.real name (scanHops h.real name)
    (fun o h => by simp only [scanHops, h]; cases o <;> rfl)
    (fun k o h => by simp only [scanHops, h]; cases o <;> rfl)
  unfold Hash.findNextHops
  rw [Hash.nhAt_eq]
  cases hl : h.findLpm name with
  | none =>
    rw [hl] at hs
    exact (lpm_none _ _ _ _ _ fun j hj => by rw [valAt_of_not_has _ _ (hs j hj)]; rfl).symm
  | some k =>
    rw [hl] at hs
    exact hscan k hs.1 hs.2.2

theorem Hash.findStrategy_eq {h : Hash} (hi : HashInv h) (name : Name) :
    h.findStrategy name = lpm h.stAt (fun x => x.isSome) none name name.length := by
  have hs := Hash.findLpm_spec hi name
  have hscan := scan_from_eq_lpm HEntry.strat none (fun x => x.isSome) rfl
    (fun x h => Option.not_isSome_iff_eq_none.mp (by simpa using h)) h.real name (scanStrat h.real name)
    (fun o h => by simp only [scanStrat, h]; cases o <;> rfl)
    (fun k o h => by simp only [scanStrat, h]; cases o <;> rfl)
  unfold Hash.findStrategy
  rw [Hash.stAt_eq]
  cases hl : h.findLpm name with
  | none =>
    rw [hl] at hs
    exact (lpm_none _ _ _ _ _ fun j hj => by rw [valAt_of_not_has _ _ (hs j hj)]; rfl).symm
  | some k =>
    rw [hl] at hs
    exact hscan k hs.1 hs.2.2

theorem nameIn_iff (ns : List Name) (n : Name) : nameIn ns n = true ↔ n ∈ ns := by
  simp only [nameIn, List.any_eq_true, decide_eq_true_eq]
  exact ⟨fun ⟨x, hx, e⟩ => e ▸ hx, fun h => ⟨n, h, rfl⟩⟩

theorem le_maxLen {ns : List Name} {n : Name} (h : n ∈ ns) : n.length ≤ maxLen ns := by
  induction ns with
  | nil => cases h
  | cons a t ih =>
    rcases List.mem_cons.mp h with h | h
    · exact h ▸ Nat.le_max_left _ _
    · exact Nat.le_trans (ih h) (Nat.le_max_right _ _)

def Covered (m : Nat) (virt : List (Name × Nat)) (vnames : List (Name × List Name)) (n : Name) : Prop :=
  (∃ md, afind virt (n.take m) = some md ∧ n.length ≤ md) ∧
  (∃ ns, afind vnames (n.take m) = some ns ∧ nameIn ns n = true)

theorem Hash.insertEntry_eq (h : Hash) (name : Name) :
    h.insertEntry name =
      { m := h.m
        real := h.real ++ (if ahas h.real name then [] else [name]).map fun k => (k, ⟨[], none⟩)
        virt := if name.length ≥ h.m then aset h.virt (name.take h.m)
            (match afind h.virt (name.take h.m) with | some md => max md name.length | none => name.length)
          else h.virt
        vnames := if name.length ≥ h.m then aset h.vnames (name.take h.m)
            (if nameIn ((afind h.vnames (name.take h.m)).getD []) name then (afind h.vnames (name.take h.m)).getD []
              else (afind h.vnames (name.take h.m)).getD [] ++ [name])
          else h.vnames } := by
  have hreal : (if ahas h.real name then h.real else h.real ++ [(name, (⟨[], none⟩ : HEntry))]) =
      h.real ++ (if ahas h.real name then [] else [name]).map fun k => (k, ⟨[], none⟩) := by
    split
    · exact (List.append_nil _).symm
    · rfl
  unfold Hash.insertEntry
  by_cases hlen : name.length ≥ h.m
  · simp only [hreal, hlen, if_true]; rfl
  · simp only [hreal, hlen, if_false]

theorem covered_insert {m : Nat} {virt : List (Name × Nat)} {vnames : List (Name × List Name)} {name n : Name}
    (h : Covered m virt vnames n ∨ n = name) :
    Covered m (aset virt (name.take m) (match afind virt (name.take m) with | some md => max md name.length | none => name.length))
      (aset vnames (name.take m) (if nameIn ((afind vnames (name.take m)).getD []) name then (afind vnames (name.take m)).getD []
        else (afind vnames (name.take m)).getD [] ++ [name])) n := by
  unfold Covered
  rw [afind_aset, afind_aset]
  by_cases hv : name.take m = n.take m
  · rw [if_pos hv, if_pos hv]
    refine ⟨⟨_, rfl, ?_⟩, ⟨_, rfl, ?_⟩⟩
    · rcases h with ⟨⟨md, h1, h2⟩, _⟩ | rfl
      · rw [hv, h1]; exact Nat.le_trans h2 (Nat.le_max_left _ _)
      · cases afind virt (List.take m n) with
        | none => exact Nat.le_refl _
        | some md => exact Nat.le_max_right _ _
    · rcases h with ⟨_, ⟨ns, h3, h4⟩⟩ | rfl
      · rw [hv, h3, Option.getD_some]
        split
        · exact h4
        · rw [nameIn_iff] at h4 ⊢; exact List.mem_append_left _ h4
      · split
        · assumption
        · rw [nameIn_iff]; exact List.mem_append_right _ (List.mem_singleton.mpr rfl)
  · rw [if_neg hv, if_neg hv]
    exact h.resolve_right fun e => hv (e ▸ rfl)

theorem Hash.insertEntry_spec {h : Hash} (hi : HashInv h) (name : Name) :
    HashInv (h.insertEntry name) ∧ (h.insertEntry name).m = h.m ∧ ahas (h.insertEntry name).real name = true ∧
      (∀ n, (h.insertEntry name).nhAt n = h.nhAt n) ∧ (∀ n, (h.insertEntry name).stAt n = h.stAt n) := by
  rw [Hash.insertEntry_eq]
  have hks : ∀ k ∈ (if ahas h.real name then [] else [name]), k = name ∧ afind h.real k = none := by
    intro k hk
    split at hk
    · cases hk
    next hh =>
      rw [List.mem_singleton.mp hk]
      exact ⟨rfl, (ahas_false_iff _ _).mp (by simpa using hh)⟩
  refine ⟨⟨?_, fun n e hf => ?_, fun n hn hm => ?_⟩, rfl, ?_, fun n => ?_, fun n => ?_⟩
  · refine keysNodup_append_blank hi.keys ?_ (fun k hk => (hks k hk).2) _
    split
    · exact List.nodup_nil
    · exact List.pairwise_singleton _ _
  · rcases afind_append_blank h.real _ _ n with e' | ⟨_, e', _⟩
    · exact hi.hops n e (e' ▸ hf)
    · cases e'.symm.trans hf; exact List.nodup_nil
  · simp only [ahas_append_blank] at hn
    have hn' : ahas h.real n = true ∨ n = name := hn.imp_right fun hk => (hks n hk).1
    simp only at hm ⊢
    split
    · exact covered_insert (hn'.imp_left fun h' => hi.virt n h' hm)
    next hlen => exact hi.virt n (hn'.resolve_right fun e => hlen (e ▸ hm)) hm
  · rw [ahas_append_blank]
    by_cases hh : ahas h.real name = true
    · exact .inl hh
    · exact .inr (by rw [if_neg hh]; exact List.mem_singleton.mpr rfl)
  · rw [Hash.nhAt_eq, Hash.nhAt_eq]; exact valAt_append_blank _ _ _ _ rfl n
  · rw [Hash.stAt_eq, Hash.stAt_eq]; exact valAt_append_blank _ _ _ _ rfl n

theorem unrecord_keeps (vnames : List (Name × List Name)) (v name k n : Name) (hne : n ≠ name) {ns : List Name}
    (h3 : afind vnames k = some ns) (h4 : nameIn ns n = true) :
    ∃ ns', afind (unrecord vnames v name) k = some ns' ∧ nameIn ns' n = true := by
  unfold unrecord
  cases hv : afind vnames v with
  | none => exact ⟨ns, h3, h4⟩
  | some ns0 =>
    simp only []
    split
    next hin =>
      by_cases hvk : v = k
      · subst hvk
        cases hv.symm.trans h3
        have hmem : n ∈ ns.filter fun x => !decide (x = name) :=
          List.mem_filter.mpr ⟨(nameIn_iff _ _).mp h4, by simpa using hne⟩
        rw [if_neg (by intro he; rw [List.isEmpty_iff.mp he] at hmem; cases hmem)]
        exact ⟨_, by rw [afind_aset, if_pos rfl], (nameIn_iff _ _).mpr hmem⟩
      · refine ⟨ns, ?_, h4⟩
        split
        · rw [afind_aerase, if_neg hvk]; exact h3
        · rw [afind_aset, if_neg hvk]; exact h3
    next => exact ⟨ns, h3, h4⟩

theorem Hash.prune_of_empty {h : Hash} {name : Name} {e : HEntry} (he : afind h.real name = some e)
    (hemp : e.hops = [] ∧ e.strat = none) :
    ∃ virt' vnames', h.prune name = ⟨h.m, aerase h.real name, virt', vnames'⟩ ∧
      ∀ n, n ≠ name → Covered h.m h.virt h.vnames n → Covered h.m virt' vnames' n := by
  unfold Hash.prune
  simp only [he, hemp.1, hemp.2, List.isEmpty_nil, Option.isNone_none, Bool.and_self, if_true]
  by_cases hlen : name.length ≥ h.m
  · rw [if_pos hlen]
    cases hv : afind h.virt (List.take h.m name) with
    | none => exact ⟨_, _, rfl, fun n _ hc => hc⟩
    | some md =>
      simp only []
      have hkeep : ∀ n, n ≠ name → Covered h.m h.virt h.vnames n →
          ∃ ns, afind (unrecord h.vnames (name.take h.m) name) (n.take h.m) = some ns ∧ nameIn ns n = true :=
        fun n hne hc => by obtain ⟨ns, h3, h4⟩ := hc.2; exact unrecord_keeps _ _ _ _ _ hne h3 h4
      split
      next hmd =>
        cases hv1 : afind (unrecord h.vnames (List.take h.m name) name) (List.take h.m name) with
        | none =>
          -- the virtual entry goes only with its name set: no other real name is recorded under this `m`-prefix
          refine ⟨_, _, rfl, fun n hne hc => ⟨?_, hkeep n hne hc⟩⟩
          obtain ⟨ns, h3, _⟩ := hkeep n hne hc
          rw [afind_aerase, if_neg fun e => by rw [← e, hv1] at h3; cases h3]
          exact hc.1
        | some ns2 =>
          -- `md` recomputed as the longest name still recorded bounds every name that remains
          refine ⟨_, _, rfl, fun n hne hc => ⟨?_, hkeep n hne hc⟩⟩
          obtain ⟨ns, h3, h4⟩ := hkeep n hne hc
          rw [afind_aset]
          split
          next e =>
            rw [← e, hv1] at h3
            cases h3
            exact ⟨_, rfl, le_maxLen ((nameIn_iff _ _).mp h4)⟩
          next => exact hc.1
      next => exact ⟨_, _, rfl, fun n hne hc => ⟨hc.1, hkeep n hne hc⟩⟩
  · rw [if_neg hlen]; exact ⟨_, _, rfl, fun n _ hc => hc⟩

theorem Hash.prune_spec {h : Hash} (hi : HashInv h) (name : Name) :
    HashInv (h.prune name) ∧ (h.prune name).m = h.m ∧
      (∀ n, (h.prune name).nhAt n = h.nhAt n) ∧ (∀ n, (h.prune name).stAt n = h.stAt n) := by
  cases he : afind h.real name with
  | none =>
    have : h.prune name = h := by unfold Hash.prune; rw [he]
    rw [this]; exact ⟨hi, rfl, fun _ => rfl, fun _ => rfl⟩
  | some e =>
    by_cases hemp : (e.hops.isEmpty && e.strat.isNone) = true
    · simp only [Bool.and_eq_true, List.isEmpty_iff, Option.isNone_iff_eq_none] at hemp
      obtain ⟨virt', vnames', hp, hcov⟩ := Hash.prune_of_empty he hemp
      rw [hp]
      refine ⟨⟨keysNodup_aerase hi.keys name, fun n e' hf => ?_, fun n hn hm => ?_⟩, rfl, fun n => ?_, fun n => ?_⟩
      · rw [afind_aerase] at hf
        split at hf
        · cases hf
        · exact hi.hops n e' hf
      · obtain ⟨hn1, hn2⟩ := (ahas_aerase _ _ _).mp hn
        exact hcov n (fun e => hn2 e.symm) (hi.virt n hn1 hm)
      · rw [Hash.nhAt_eq, Hash.nhAt_eq]; exact valAt_aerase_of_default _ _ he hemp.1 n
      · rw [Hash.stAt_eq, Hash.stAt_eq]; exact valAt_aerase_of_default _ _ he hemp.2 n
    · have : h.prune name = h := by unfold Hash.prune; simp only [he, hemp]; rfl
      rw [this]; exact ⟨hi, rfl, fun _ => rfl, fun _ => rfl⟩

def Op.onEntry (op : Op) (e : HEntry) : HEntry := ⟨op.onHops removeHopSwap e.hops, op.onStrat e.strat⟩

theorem hashInv_update {h : Hash} (hi : HashInv h) {op : Op} {e : HEntry} (hf : afind h.real op.name = some e) :
    HashInv { h with real := aset h.real op.name (op.onEntry e) } := by
  refine ⟨keysNodup_aset hi.keys _ _, fun n e' hf' => ?_, fun n hn hm => ?_⟩
  · rw [afind_aset] at hf'
    split at hf'
    · cases hf'; exact op.onHops_nodup (fun _ f h => keysNodup_removeHopSwap h f) (hi.hops _ _ hf)
    · exact hi.hops n e' hf'
  · rw [ahas_aset_of_has hf] at hn
    exact hi.virt n hn hm

/-- `InsertNextHopEnc` / `SetStrategyEnc`: create the entry, then change it -/
theorem Hash.insmod {h : Hash} (hi : HashInv h) (op : Op) :
    let h1 := h.insertEntry op.name
    let h' : Hash := { h1 with real := amodify h1.real op.name op.onEntry }
    HashInv h' ∧ h'.m = h.m ∧ (∀ n, h'.nhAt n = nhStep removeHopSwap h.nhAt op n) ∧ (∀ n, h'.stAt n = stStep h.stAt op n) := by
  intro h1 h'
  obtain ⟨i1, i2, i3, i4, i5⟩ := Hash.insertEntry_spec hi op.name
  obtain ⟨e, he⟩ := (ahas_iff _ _).mp i3
  have hreal : h'.real = aset h1.real op.name (op.onEntry e) := by simp only [h', amodify, h1, he]
  refine ⟨by simp only [h', amodify, h1, he]; exact hashInv_update i1 he, i2, fun n => ?_, fun n => ?_⟩
  · rw [nhStep_eq, ← i4 op.name, ← i4 n, Hash.nhAt_eq, Hash.nhAt_eq, hreal, valAt_aset, valAt_of_afind _ _ he]; rfl
  · rw [stStep_eq, ← i5 op.name, ← i5 n, Hash.stAt_eq, Hash.stAt_eq, hreal, valAt_aset, valAt_of_afind _ _ he]; rfl

/-- `RemoveNextHopEnc` / `ClearNextHopsEnc` / `UnSetStrategyEnc` on an existing entry: change it, prune -/
theorem Hash.setprune {h : Hash} (hi : HashInv h) (op : Op) {e : HEntry} (he : afind h.real op.name = some e) :
    let h' := ({ h with real := aset h.real op.name (op.onEntry e) } : Hash).prune op.name
    HashInv h' ∧ h'.m = h.m ∧ (∀ n, h'.nhAt n = nhStep removeHopSwap h.nhAt op n) ∧ (∀ n, h'.stAt n = stStep h.stAt op n) := by
  intro h'
  obtain ⟨g1, g2, g3, g4⟩ := Hash.prune_spec (hashInv_update hi he) op.name
  refine ⟨g1, g2, fun n => ?_, fun n => ?_⟩
  · rw [g3 n, nhStep_eq, Hash.nhAt_eq, Hash.nhAt_eq, valAt_aset, valAt_of_afind _ _ he]; rfl
  · rw [g4 n, stStep_eq, Hash.stAt_eq, Hash.stAt_eq, valAt_aset, valAt_of_afind _ _ he]; rfl

theorem Hash.apply_spec {h : Hash} (hi : HashInv h) (op : Op) :
    HashInv (h.apply op) ∧ (h.apply op).m = h.m ∧ (∀ n, (h.apply op).nhAt n = nhStep removeHopSwap h.nhAt op n) ∧
      (∀ n, (h.apply op).stAt n = stStep h.stAt op n) := by
  have absent : ∀ {op : Op}, afind h.real op.name = none → op.onHops removeHopSwap [] = [] → op.onStrat none = none →
      HashInv h ∧ h.m = h.m ∧ (∀ n, h.nhAt n = nhStep removeHopSwap h.nhAt op n) ∧ (∀ n, h.stAt n = stStep h.stAt op n) := by
    intro op he h1 h2
    have hh : h.nhAt op.name = [] := by rw [Hash.nhAt_eq]; exact valAt_of_none _ _ he
    have hs : h.stAt op.name = none := by rw [Hash.stAt_eq]; exact valAt_of_none _ _ he
    exact ⟨hi, rfl, step_of_unchanged (by rw [hh, h1]) (by rw [hs, h2])⟩
  cases op with
  | ins name f c => exact Hash.insmod hi (.ins name f c)
  | sets name x => exact Hash.insmod hi (.sets name x)
  | rem name f =>
    simp only [Hash.apply]
    cases he : afind h.real name with
    | none => exact absent (op := .rem name f) he rfl rfl
    | some e =>
      simp only []
      by_cases hf : hasFace e.hops f = true
      · rw [if_pos hf]
        exact Hash.setprune hi (.rem name f) he
      · -- the face is not there: `RemoveNextHopEnc` returns before it prunes
        rw [if_neg hf]
        have hh : h.nhAt name = e.hops := by rw [Hash.nhAt_eq]; exact valAt_of_afind _ _ he
        refine ⟨hi, rfl, step_of_unchanged (op := .rem name f) ?_ rfl⟩
        show removeHopSwap (h.nhAt name) f = h.nhAt name
        rw [hh]; exact removeHopSwap_of_not_hasFace _ _ (Bool.eq_false_iff.mpr hf)
  | clr name =>
    simp only [Hash.apply]
    cases he : afind h.real name with
    | none => exact absent (op := .clr name) he rfl rfl
    | some e => exact Hash.setprune hi (.clr name) he
  | unsets name =>
    simp only [Hash.apply]
    cases he : afind h.real name with
    | none => exact absent (op := .unsets name) he rfl rfl
    | some e => exact Hash.setprune hi (.unsets name) he

end Ndn.C05
