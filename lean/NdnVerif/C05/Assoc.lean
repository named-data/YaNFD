/-
  Association lists as finite maps (`afind` / `aset` / `aerase` of C05/Model, generic in key and value), their lemmas,
  and the characterisations through which the other models' copies of these functions are the same functions.
-/
import NdnVerif.C05.Model
namespace Ndn.C05

section Assoc
variable {κ : Type} [DecidableEq κ] {α : Type}

theorem afind_aset (l : List (κ × α)) (k k' : κ) (v : α) :
    afind (aset l k v) k' = if k = k' then some v else afind l k' := by
  induction l with
  | nil => rfl
  | cons p t ih =>
    obtain ⟨a, b⟩ := p
    show afind (if a = k then (k, v) :: t else (a, b) :: aset t k v) k' =
      if k = k' then some v else if a = k' then some b else afind t k'
    by_cases h : a = k
    · subst h
      rw [if_pos rfl]
      show (if a = k' then some v else afind t k') = _
      split <;> rfl
    · rw [if_neg h]
      show (if a = k' then some b else afind (aset t k v) k') = _
      rw [ih]
      by_cases h2 : k = k'
      · subst h2; simp only [↓reduceIte, h]
      · simp only [↓reduceIte, h2]

theorem afind_aerase (l : List (κ × α)) (k k' : κ) :
    afind (aerase l k) k' = if k = k' then none else afind l k' := by
  induction l with
  | nil => exact (ite_self _).symm
  | cons p t ih =>
    obtain ⟨a, b⟩ := p
    have ih' : afind (t.filter fun p => !(decide (p.1 = k))) k' = if k = k' then none else afind t k' := ih
    by_cases h : a = k
    · subst h
      simp only [aerase, List.filter_cons, decide_true, Bool.not_true, Bool.false_eq_true, if_false, ih', afind]
      split <;> rfl
    · simp only [aerase, List.filter_cons, h, decide_false, Bool.not_false, if_true, afind, ih']
      by_cases h2 : k = k'
      · subst h2; simp only [↓reduceIte, h]
      · simp only [↓reduceIte, h2]

theorem afind_append (l l' : List (κ × α)) (k : κ) :
    afind (l ++ l') k = match afind l k with | some v => some v | none => afind l' k := by
  induction l with
  | nil => rfl
  | cons p t ih =>
    obtain ⟨a, b⟩ := p
    simp only [List.cons_append, afind]
    split
    · rfl
    · exact ih

def KeysNodup (l : List (κ × α)) : Prop := (l.map (·.1)).Nodup

theorem afind_eq_none_iff (l : List (κ × α)) (k : κ) : afind l k = none ↔ k ∉ l.map (·.1) := by
  induction l with
  | nil => exact ⟨fun _ => List.not_mem_nil, fun _ => rfl⟩
  | cons p t ih =>
    obtain ⟨a, b⟩ := p
    simp only [afind, List.map_cons, List.mem_cons, not_or]
    split
    next e => exact ⟨nofun, fun h => absurd e.symm h.1⟩
    next e => exact ⟨fun h => ⟨fun e' => e e'.symm, ih.mp h⟩, fun h => ih.mpr h.2⟩

theorem afind_some_mem {l : List (κ × α)} {k : κ} {v : α} (h : afind l k = some v) : (k, v) ∈ l := by
  induction l with
  | nil => cases h
  | cons p t ih =>
    obtain ⟨a, b⟩ := p
    simp only [afind] at h
    split at h
    next e => cases h; exact e ▸ List.mem_cons_self
    next => exact List.mem_cons_of_mem _ (ih h)

theorem mem_afind {l : List (κ × α)} (hn : KeysNodup l) {k : κ} {v : α} (hm : (k, v) ∈ l) :
    afind l k = some v := by
  induction l with
  | nil => cases hm
  | cons p t ih =>
    obtain ⟨a, b⟩ := p
    obtain ⟨hn1, hn2⟩ := List.nodup_cons.mp hn
    rcases List.mem_cons.mp hm with h | h
    · cases h; exact if_pos rfl
    · have hk : a ≠ k := fun e => hn1 (List.mem_map.mpr ⟨(k, v), h, e.symm⟩)
      exact (if_neg hk).trans (ih hn2 h)

theorem mem_iff_afind {l : List (κ × α)} (hn : KeysNodup l) (k : κ) (v : α) :
    (k, v) ∈ l ↔ afind l k = some v := ⟨mem_afind hn, afind_some_mem⟩

theorem afind_perm {l l' : List (κ × α)} (h : l.Perm l') (hn : KeysNodup l) (k : κ) : afind l k = afind l' k := by
  have hn' : KeysNodup l' := (h.map _).nodup_iff.mp hn
  refine Option.ext fun v => ?_
  rw [← mem_iff_afind hn, ← mem_iff_afind hn', h.mem_iff]

theorem ahas_iff (l : List (κ × α)) (k : κ) : ahas l k = true ↔ ∃ v, afind l k = some v := by
  unfold ahas; cases afind l k <;> simp

theorem ahas_false_iff (l : List (κ × α)) (k : κ) : ahas l k = false ↔ afind l k = none := by
  unfold ahas; cases afind l k <;> simp

theorem eq_of_ahas_single {k n : κ} {v : α} (h : ahas [(k, v)] n = true) : k = n := by
  unfold ahas afind at h
  split at h
  · assumption
  · cases h

theorem ahas_aset_of_has {l : List (κ × α)} {k : κ} {v0 : α} (h : afind l k = some v0)
    (v : α) (p : κ) : ahas (aset l k v) p = ahas l p := by
  simp only [ahas, afind_aset]
  split
  next e => rw [← e, h]; rfl
  next => rfl

theorem ahas_aerase (l : List (κ × α)) (k p : κ) : ahas (aerase l k) p = true ↔ ahas l p = true ∧ k ≠ p := by
  simp only [ahas, afind_aerase]
  split
  next e => exact ⟨nofun, fun h => absurd e h.2⟩
  next e => exact ⟨fun h => ⟨h, e⟩, fun h => h.1⟩

theorem afind_map_const (ks : List κ) (b : α) (k : κ) :
    afind (ks.map fun x => (x, b)) k = if k ∈ ks then some b else none := by
  induction ks with
  | nil => rfl
  | cons a t ih =>
    simp only [List.map_cons, afind, ih, List.mem_cons]
    by_cases h : a = k
    · rw [if_pos h, if_pos (Or.inl h.symm)]
    · have : (k = a ∨ k ∈ t) ↔ k ∈ t := ⟨fun h' => h'.resolve_left fun e => h e.symm, Or.inr⟩
      simp only [if_neg h, this]

theorem afind_append_blank (l : List (κ × α)) (ks : List κ) (b : α) (n : κ) :
    afind (l ++ ks.map fun k => (k, b)) n = afind l n ∨
      (afind l n = none ∧ afind (l ++ ks.map fun k => (k, b)) n = some b ∧ n ∈ ks) := by
  rw [afind_append, afind_map_const]
  cases afind l n with
  | some v => exact .inl rfl
  | none =>
    by_cases hm : n ∈ ks
    · exact .inr ⟨rfl, if_pos hm, hm⟩
    · exact .inl (if_neg hm)

theorem ahas_append_blank (l : List (κ × α)) (ks : List κ) (b : α) (n : κ) :
    ahas (l ++ ks.map fun k => (k, b)) n = true ↔ ahas l n = true ∨ n ∈ ks := by
  unfold ahas
  rw [afind_append, afind_map_const]
  cases afind l n with
  | some v => exact ⟨fun _ => .inl rfl, fun _ => rfl⟩
  | none =>
    by_cases hm : n ∈ ks
    · rw [if_pos hm]; exact ⟨fun _ => .inr hm, fun _ => rfl⟩
    · rw [if_neg hm]; exact ⟨nofun, fun h => h.elim nofun fun h => absurd h hm⟩

theorem keys_aset (l : List (κ × α)) (k : κ) (v : α) :
    (aset l k v).map (·.1) = if k ∈ l.map (·.1) then l.map (·.1) else l.map (·.1) ++ [k] := by
  induction l with
  | nil => rfl
  | cons p t ih =>
    obtain ⟨a, b⟩ := p
    by_cases h : a = k
    · subst h; simp only [aset, ↓reduceIte, List.map_cons, List.mem_cons, true_or]
    · have hk : ¬ k = a := fun e => h e.symm
      simp only [aset, if_neg h, List.map_cons, ih, List.mem_cons, hk, false_or]
      split <;> rfl

theorem mem_keys_aset (l : List (κ × α)) (k x : κ) (v : α) :
    x ∈ (aset l k v).map (·.1) ↔ x ∈ l.map (·.1) ∨ x = k := by
  rw [keys_aset]
  split
  next h => exact ⟨.inl, fun h' => h'.elim id (· ▸ h)⟩
  next => rw [List.mem_append, List.mem_singleton]

theorem keysNodup_append_blank {l : List (κ × α)} (hn : KeysNodup l) {ks : List κ} (hks : ks.Nodup)
    (hnew : ∀ k ∈ ks, afind l k = none) (b : α) : KeysNodup (l ++ ks.map fun k => (k, b)) := by
  have hkeys : (ks.map fun k => (k, b)).map (·.1) = ks := by rw [List.map_map]; exact List.map_id _
  unfold KeysNodup
  rw [List.map_append, hkeys]
  exact List.nodup_append.mpr ⟨hn, hks, fun a ha b hb e => (afind_eq_none_iff l b).mp (hnew b hb) (e ▸ ha)⟩

theorem keysNodup_concat {l : List (κ × α)} (hn : KeysNodup l) {k : κ} (hk : afind l k = none) (v : α) :
    KeysNodup (l ++ [(k, v)]) :=
  keysNodup_append_blank hn (List.pairwise_singleton _ k) (fun _ h => List.mem_singleton.mp h ▸ hk) v

theorem keysNodup_aset {l : List (κ × α)} (hn : KeysNodup l) (k : κ) (v : α) : KeysNodup (aset l k v) := by
  unfold KeysNodup
  rw [keys_aset]
  split
  · exact hn
  next h =>
    have := keysNodup_concat hn ((afind_eq_none_iff l k).mpr h) v
    unfold KeysNodup at this
    rwa [List.map_append] at this

theorem keysNodup_aerase {l : List (κ × α)} (hn : KeysNodup l) (k : κ) : KeysNodup (aerase l k) :=
  (List.filter_sublist.map _).nodup hn

theorem keys_amodify (l : List (κ × α)) (k : κ) (f : α → α) : (amodify l k f).map (·.1) = l.map (·.1) := by
  unfold amodify
  split
  · rfl
  next v h => rw [keys_aset, if_pos (Decidable.not_not.mp fun hk => nomatch ((afind_eq_none_iff l k).mpr hk).symm.trans h)]

theorem ite_eq_comm {β : Type} (x y : κ) (a b : β) : (if x = y then a else b) = if y = x then a else b := by
  by_cases h : x = y
  · rw [if_pos h, if_pos h.symm]
  · rw [if_neg h, if_neg (Ne.symm h)]

/-- `afind_aset` / `afind_aerase` with the key looked up on the left of the test -/
theorem afind_aset' (l : List (κ × α)) (k k' : κ) (v : α) :
    afind (aset l k v) k' = if k' = k then some v else afind l k' :=
  (afind_aset l k k' v).trans (ite_eq_comm ..)

theorem afind_aerase' (l : List (κ × α)) (k k' : κ) :
    afind (aerase l k) k' = if k' = k then none else afind l k' :=
  (afind_aerase l k k').trans (ite_eq_comm ..)

theorem afind_amodify' (l : List (κ × α)) (k k' : κ) (f : α → α) :
    afind (amodify l k f) k' = if k' = k then (afind l k).map f else afind l k' := by
  unfold amodify
  cases h : afind l k with
  | none =>
    show afind l k' = _
    split
    next e => rw [e, h]; rfl
    next => rfl
  | some v => exact afind_aset' l k k' (f v)

theorem mem_aset {l : List (κ × α)} {k a : κ} {v b : α} (h : (a, b) ∈ aset l k v) : (a = k ∧ b = v) ∨ (a, b) ∈ l := by
  induction l with
  | nil => exact .inl (Prod.mk.inj (List.mem_singleton.mp h))
  | cons p t ih =>
    obtain ⟨k', v'⟩ := p
    rw [aset] at h
    split at h
    · exact (List.mem_cons.mp h).imp Prod.mk.inj (List.mem_cons_of_mem _)
    · exact (List.mem_cons.mp h).elim (fun e => .inr (e ▸ List.mem_cons_self)) fun h => (ih h).imp_right (List.mem_cons_of_mem _)

theorem aset_of_not_mem {l : List (κ × α)} {k : κ} (h : k ∉ l.map (·.1)) (v : α) : aset l k v = l ++ [(k, v)] := by
  induction l with
  | nil => rfl
  | cons p t ih =>
    obtain ⟨k', v'⟩ := p
    rw [List.map_cons, List.mem_cons, not_or] at h
    rw [aset, if_neg (Ne.symm h.1), ih h.2, List.cons_append]

theorem aset_of_afind {l : List (κ × α)} {k : κ} {v : α} (h : afind l k = some v) : aset l k v = l := by
  induction l with
  | nil => cases h
  | cons p t ih =>
    obtain ⟨k', v'⟩ := p
    rw [afind] at h
    rw [aset]
    split at h
    next e => rw [if_pos e, ← e, ← Option.some.inj h]
    next e => rw [if_neg e, ih h]

/-! A function with the equations of `afind` (`aset`, the recursive erase) is that function: the bridge from the copies
    the other models define (`C18.aget`, `C19.pget`, `C19.Spec.rget`, `C08.aset`, `CsMap.get?`, `C20.alookup`, …). -/

theorem afind_unique {f : List (κ × α) → κ → Option α} (h0 : ∀ k, f [] k = none)
    (hc : ∀ a b t k, f ((a, b) :: t) k = if a = k then some b else f t k) (l : List (κ × α)) (k : κ) :
    f l k = afind l k := by
  induction l with
  | nil => exact h0 k
  | cons p t ih => rw [hc, ih]; rfl

theorem aset_unique {f : List (κ × α) → κ → α → List (κ × α)} (h0 : ∀ k v, f [] k v = [(k, v)])
    (hc : ∀ a b t k v, f ((a, b) :: t) k v = if a = k then (k, v) :: t else (a, b) :: f t k v)
    (l : List (κ × α)) (k : κ) (v : α) : f l k v = aset l k v := by
  induction l with
  | nil => exact h0 k v
  | cons p t ih => rw [hc, ih]; rfl

theorem aerase_unique {f : List (κ × α) → κ → List (κ × α)} (h0 : ∀ k, f [] k = [])
    (hc : ∀ a b t k, f ((a, b) :: t) k = if a = k then f t k else (a, b) :: f t k) (l : List (κ × α)) (k : κ) :
    f l k = aerase l k := by
  induction l with
  | nil => exact h0 k
  | cons p t ih =>
    rw [hc, ih]
    by_cases e : p.1 = k
    · rw [if_pos e]; exact (List.filter_cons_of_neg (by rw [decide_eq_true e]; exact Bool.false_ne_true)).symm
    · rw [if_neg e]; exact (List.filter_cons_of_pos (by rw [decide_eq_false e]; rfl)).symm

end Assoc

end Ndn.C05
