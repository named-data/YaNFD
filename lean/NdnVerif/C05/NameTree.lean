/-
  Name trees as node sets keyed by the path from the root, for any node type.  The models define descent, fill and pruning
  once per tree (`TNode` in C05/Model, `RNode` in C06/Model) as the Go code does; the invariant `WF` and its lemmas are proved
  here once.  Bridges: `descendLen_eq`, `hasChild_eq`, `pruneUp_eq`, `Tree.fill_nodes`, `treeInv_iff` in
  C05/LemmasTree; the same in C06/LemmasRib, with `Rib.fill_nodes`, `ribInv_iff`.
-/
import NdnVerif.C05.Lemmas
namespace Ndn.C05.NameTree

variable {α : Type}

def descend (nodes : List (Name × α)) : Name → Name → Nat
  | _, [] => 0
  | pre, c :: r => if ahas nodes (pre ++ [c]) then descend nodes (pre ++ [c]) r + 1 else 0

def newKeys (nodes : List (Name × α)) (name : Name) : List Name :=
  (List.range' (descend nodes [] name + 1) (name.length - descend nodes [] name)).map fun k => name.take k

def fill (blank : α) (nodes : List (Name × α)) (name : Name) : List (Name × α) :=
  nodes ++ (newKeys nodes name).map fun k => (k, blank)

def hasKid (nodes : List (Name × α)) (p : Name) : Bool :=
  nodes.any fun q => q.1.length == p.length + 1 && decide (q.1.take p.length = p)

def prune (empty : α → Bool) (nodes : List (Name × α)) (name : Name) : Nat → List (Name × α)
  | 0 => nodes
  | k + 1 =>
    match afind nodes (name.take (k + 1)) with
    | none => nodes
    | some nd =>
      if empty nd && !hasKid nodes (name.take (k + 1)) then prune empty (aerase nodes (name.take (k + 1))) name k
      else nodes

structure WF (Q : Name → α → Prop) (nodes : List (Name × α)) : Prop where
  root : ahas nodes [] = true
  pc : ∀ p k, ahas nodes p = true → ahas nodes (p.take k) = true
  keys : KeysNodup nodes
  pt : ∀ key nd, afind nodes key = some nd → Q key nd

theorem WF.single {Q : Name → α → Prop} {nd : α} (hq : Q [] nd) : WF Q [([], nd)] := by
  refine ⟨rfl, fun p k hp => ?_, List.pairwise_singleton _ _, fun k nd' hf => ?_⟩
  · rw [← eq_of_ahas_single hp, List.take_nil]; rfl
  · have hk := eq_of_ahas_single ((ahas_iff _ _).mpr ⟨nd', hf⟩)
    subst hk
    cases hf; exact hq

theorem descend_le (nodes : List (Name × α)) (pre rest : Name) : descend nodes pre rest ≤ rest.length := by
  induction rest generalizing pre with
  | nil => exact Nat.le_refl _
  | cons c r ih =>
    simp only [descend]
    split
    · exact Nat.succ_le_succ (ih _)
    · exact Nat.zero_le _

theorem descend_has (nodes : List (Name × α)) (pre rest : Name) (hp : ahas nodes pre = true) :
    ∀ i, i ≤ descend nodes pre rest → ahas nodes (pre ++ rest.take i) = true := by
  induction rest generalizing pre with
  | nil => intro i _; rw [List.take_nil, List.append_nil]; exact hp
  | cons c r ih =>
    intro i hi
    cases i with
    | zero => rw [List.take_zero, List.append_nil]; exact hp
    | succ i =>
      simp only [descend] at hi
      split at hi
      next hc =>
        have := ih (pre ++ [c]) hc i (Nat.le_of_succ_le_succ hi)
        rwa [List.append_assoc] at this
      next => cases hi

theorem descend_stop (nodes : List (Name × α)) (pre rest : Name) (h : descend nodes pre rest < rest.length) :
    ahas nodes (pre ++ rest.take (descend nodes pre rest + 1)) = false := by
  induction rest generalizing pre with
  | nil => cases h
  | cons c r ih =>
    simp only [descend] at h ⊢
    split
    next hc =>
      rw [if_pos hc] at h
      have := ih (pre ++ [c]) (Nat.lt_of_succ_lt_succ h)
      rwa [List.append_assoc] at this
    next hc => simpa using hc

theorem take_inj_of_le {name : Name} {a b : Nat} (ha : a ≤ name.length) (hb : b ≤ name.length)
    (h : name.take a = name.take b) : a = b := by
  rwa [List.take_eq_take_iff, Nat.min_eq_left ha, Nat.min_eq_left hb] at h

theorem nodup_map_take (name : Name) (a b : Nat) (h : a + b ≤ name.length + 1) :
    ((List.range' a b).map fun k => List.take k name).Nodup := by
  induction b generalizing a with
  | zero => exact List.nodup_nil
  | succ b ih =>
    rw [List.range'_succ, List.map_cons, List.nodup_cons]
    have hab : a + 1 + b ≤ name.length + 1 := by rw [Nat.add_right_comm]; exact h
    refine ⟨fun hm => ?_, ih (a + 1) hab⟩
    obtain ⟨k, hk, h3⟩ := List.mem_map.mp hm
    rw [List.mem_range'_1] at hk
    have hkl : k ≤ name.length := Nat.le_of_lt_succ (Nat.lt_of_lt_of_le hk.2 hab)
    have := take_inj_of_le hkl (Nat.le_trans (Nat.le_of_succ_le hk.1) hkl) h3
    exact absurd hk.1 (this ▸ Nat.not_succ_le_self a)

/-- what pruning is: a run of erasures of empty childless nodes other than the root -/
theorem prune_ind {P : List (Name × α) → Prop} (empty : α → Bool) (name : Name)
    (hs : ∀ l q nd, P l → afind l q = some nd → empty nd = true → hasKid l q = false → q ≠ [] → P (aerase l q))
    (k : Nat) (hk : k ≤ name.length) {nodes : List (Name × α)} (h0 : P nodes) : P (prune empty nodes name k) := by
  induction k generalizing nodes with
  | zero => exact h0
  | succ k ih =>
    simp only [prune]
    cases hf : afind nodes (name.take (k + 1)) with
    | none => exact h0
    | some nd =>
      simp only []
      by_cases hc : (empty nd && !hasKid nodes (name.take (k + 1))) = true
      · rw [if_pos hc]
        rw [Bool.and_eq_true, Bool.not_eq_true'] at hc
        refine ih (Nat.le_of_succ_le hk) (hs _ _ nd h0 hf hc.1 hc.2 fun e => ?_)
        have := congrArg List.length e
        rw [List.length_take, List.length_nil, Nat.min_eq_left hk] at this
        exact Nat.succ_ne_zero k this
      · rw [if_neg hc]; exact h0

section WF
variable {Q : Name → α → Prop} {nodes : List (Name × α)} (hi : WF Q nodes)
include hi

-- Trap: in the statement and proof of a theorem named `WF.x` the namespace `WF` is open, so once `WF.fill`, `WF.prune`,
-- `WF.aset` exist the bare names mean these theorems; the functions are then `NameTree.fill`, `NameTree.prune`, `C05.aset`.

theorem WF.has_upto (name : Name) (i : Nat) (h : i ≤ descend nodes [] name) : ahas nodes (name.take i) = true :=
  descend_has nodes [] name hi.root i h

theorem WF.not_has_beyond (name : Name) (j : Nat) (h1 : descend nodes [] name < j) (h2 : j ≤ name.length) :
    ahas nodes (name.take j) = false := by
  have hs := descend_stop nodes [] name (Nat.lt_of_lt_of_le h1 h2)
  rw [List.nil_append] at hs
  cases hj : ahas nodes (name.take j) with
  | false => rfl
  | true =>
    -- the child where the descent stopped would be a prefix of an existing node
    have := hi.pc _ (descend nodes [] name + 1) hj
    rw [List.take_take, Nat.min_eq_left h1, hs] at this
    cases this

theorem WF.findExact_eq (name : Name) :
    (if descend nodes [] name = name.length then afind nodes name else none) = afind nodes name := by
  split
  · rfl
  next h =>
    have := hi.not_has_beyond name name.length (Nat.lt_of_le_of_ne (descend_le _ _ _) h) (Nat.le_refl _)
    rw [List.take_length] at this
    exact ((ahas_false_iff _ _).mp this).symm

omit hi in
theorem mem_newKeys (nodes : List (Name × α)) (name n : Name) :
    n ∈ newKeys nodes name ↔ ∃ k, descend nodes [] name < k ∧ k ≤ name.length ∧ name.take k = n := by
  have hb : ∀ {d len : Nat}, d ≤ len → ∀ k, (d + 1 ≤ k ∧ k < d + 1 + (len - d)) ↔ (d < k ∧ k ≤ len) := by
    intro d len _ k; omega
  simp only [newKeys, List.mem_map, List.mem_range'_1, hb (descend_le nodes [] name), and_assoc]

theorem WF.has_fill_self (blank : α) (name : Name) : ahas (fill blank nodes name) name = true := by
  rw [NameTree.fill, ahas_append_blank, mem_newKeys]
  rcases Nat.lt_or_eq_of_le (descend_le nodes [] name) with h | h
  · exact .inr ⟨name.length, h, Nat.le_refl _, List.take_length⟩
  · have := hi.has_upto name name.length (Nat.le_of_eq h.symm)
    rw [List.take_length] at this
    exact .inl this

theorem WF.fill (blank : α) (hb : ∀ key, Q key blank) (name : Name) : WF Q (fill blank nodes name) := by
  have hd := descend_le nodes [] name
  unfold NameTree.fill
  refine ⟨(ahas_append_blank ..).mpr (.inl hi.root), fun p k hp => ?_, ?_, fun key nd hf => ?_⟩
  · rw [ahas_append_blank, mem_newKeys] at hp ⊢
    rcases hp with hp | ⟨j, h1, h2, rfl⟩
    · exact .inl (hi.pc p k hp)
    · rw [List.take_take]
      by_cases hm : min k j ≤ descend nodes [] name
      · exact .inl (hi.has_upto name _ hm)
      · exact .inr ⟨min k j, Nat.lt_of_not_le hm, Nat.le_trans (Nat.min_le_right _ _) h2, rfl⟩
  · refine keysNodup_append_blank hi.keys (nodup_map_take name _ _ (by rw [Nat.add_right_comm, Nat.add_sub_cancel' hd]; exact Nat.le_refl _)) (fun b hb => ?_) blank
    obtain ⟨k, h1, h2, rfl⟩ := (mem_newKeys nodes name b).mp hb
    exact (ahas_false_iff _ _).mp (hi.not_has_beyond name k h1 h2)
  · rcases afind_append_blank nodes (newKeys nodes name) blank key with h | ⟨_, h, _⟩
    · exact hi.pt key nd (h ▸ hf)
    · cases h.symm.trans hf; exact hb key

theorem WF.aset {key : Name} {nd nd' : α} (h : afind nodes key = some nd) (hq : Q key nd') :
    WF Q (aset nodes key nd') := by
  refine ⟨?_, fun p k hp => ?_, keysNodup_aset hi.keys _ _, fun key' nd'' hf => ?_⟩
  · rw [ahas_aset_of_has h]; exact hi.root
  · rw [ahas_aset_of_has h] at hp ⊢; exact hi.pc p k hp
  · rw [afind_aset] at hf
    split at hf
    next e => cases hf; exact e ▸ hq
    next => exact hi.pt key' nd'' hf

omit hi in
theorem hasKid_false {nodes : List (Name × α)} {q : Name} (h : hasKid nodes q = false) (p : Name)
    (hp : ahas nodes p = true) : ¬ (p.length = q.length + 1 ∧ p.take q.length = q) := by
  obtain ⟨v, hv⟩ := (ahas_iff _ _).mp hp
  have := List.any_eq_false.mp h _ (afind_some_mem hv)
  simpa using this

theorem WF.erase {q : Name} (hq : q ≠ []) (hc : hasKid nodes q = false) : WF Q (aerase nodes q) := by
  refine ⟨(ahas_aerase ..).mpr ⟨hi.root, hq⟩, fun p k hp => ?_, keysNodup_aerase hi.keys _, fun key nd hf => ?_⟩
  · rw [ahas_aerase] at hp ⊢
    refine ⟨hi.pc p k hp.1, fun hqk => ?_⟩
    -- `q = p.take k` is a proper prefix of the node `p`, whose next level is a child of `q`
    have hklt : k < p.length := by
      refine Nat.lt_of_not_le fun hk => hp.2 ?_
      rw [hqk]; exact List.take_of_length_le hk
    have hql : q.length = k := by rw [hqk, List.length_take]; exact Nat.min_eq_left (Nat.le_of_lt hklt)
    refine hasKid_false hc _ (hi.pc p (k + 1) hp.1) ⟨by rw [List.length_take, hql]; exact Nat.min_eq_left hklt, ?_⟩
    rw [List.take_take, hql, Nat.min_eq_left (Nat.le_succ k)]; exact hqk.symm
  · rw [afind_aerase] at hf
    split at hf
    · cases hf
    · exact hi.pt key nd hf

theorem WF.prune (empty : α → Bool) (name : Name) (k : Nat) (hk : k ≤ name.length) : WF Q (prune empty nodes name k) :=
  prune_ind empty name (fun _ _ _ h _ _ hc hq => h.erase hq hc) k hk hi

end WF

variable {β : Type} (π : α → β) (d : β)

theorem valAt_fill (blank : α) (hb : π blank = d) (nodes : List (Name × α)) (name n : Name) :
    valAt π d (fill blank nodes name) n = valAt π d nodes n :=
  valAt_append_blank π d nodes _ hb n

theorem valAt_prune (empty : α → Bool) (he : ∀ nd, empty nd = true → π nd = d) (nodes : List (Name × α)) (name n : Name) :
    valAt π d (prune empty nodes name name.length) n = valAt π d nodes n :=
  prune_ind (P := fun l => valAt π d l n = valAt π d nodes n) empty name
    (fun _ _ nd h hf hen _ _ => (valAt_aerase_of_default π d hf (he nd hen) n).trans h) _ (Nat.le_refl _) rfl

end Ndn.C05.NameTree
