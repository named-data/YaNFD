/-
  The name-tree FIB: abstraction `Tree.nhAt` / `Tree.stAt`, invariant `TreeInv` (the `WF` of `NameTree.lean` at `TreeQ`),
  lookups are `lpm` of the abstraction, every operation acts on it as `nhStep` / `stStep` (`Tree.apply_spec`).
-/
import NdnVerif.C05.NameTree
namespace Ndn.C05
open NameTree

def Tree.nhAt (t : Tree) (n : Name) : Hops :=
  match afind t.nodes n with
  | some nd => nd.hops
  | none => []

def Tree.stAt (t : Tree) (n : Name) : Option Name :=
  match afind t.nodes n with
  | some nd => nd.strat
  | none => none

/-- `WF TreeQ` spelled out (`treeInv_iff`).  `nm2`: a name-less node (a path filler) holds nothing, so the listings, which
    print `entry.name`, print the path (`TreeInv.name_getD`). -/
structure TreeInv (t : Tree) : Prop where
  root : ahas t.nodes [] = true
  pc : ∀ p k, ahas t.nodes p = true → ahas t.nodes (p.take k) = true
  keys : KeysNodup t.nodes
  nm1 : ∀ key nd x, afind t.nodes key = some nd → nd.name = some x → x = key
  nm2 : ∀ key nd, afind t.nodes key = some nd → nd.isEmpty = false → nd.name.isSome = true
  hops : ∀ key nd, afind t.nodes key = some nd → KeysNodup nd.hops

theorem Tree.nhAt_eq (t : Tree) : t.nhAt = valAt TNode.hops [] t.nodes := by
  funext n; unfold Tree.nhAt valAt; cases afind t.nodes n <;> rfl

theorem Tree.stAt_eq (t : Tree) : t.stAt = valAt TNode.strat none t.nodes := by
  funext n; unfold Tree.stAt valAt; cases afind t.nodes n <;> rfl

theorem descendLen_eq (nodes : List (Name × TNode)) (pre rest : Name) :
    descendLen nodes pre rest = descend nodes pre rest := by
  induction rest generalizing pre with
  | nil => rfl
  | cons c r ih => simp only [descendLen, descend, ih]

theorem hasChild_eq : @hasChild = @hasKid TNode := rfl

theorem pruneUp_eq (nodes : List (Name × TNode)) (name : Name) (k : Nat) :
    pruneUp nodes name k = prune TNode.isEmpty nodes name k := by
  induction k generalizing nodes with
  | zero => rfl
  | succ k ih =>
    simp only [pruneUp, NameTree.prune]
    cases afind nodes (List.take (k + 1) name) with
    | none => rfl
    | some nd => simp only [hasChild_eq, ih]

theorem Tree.fill_nodes (t : Tree) (name : Name) : (t.fill name).nodes = NameTree.fill TNode.blank t.nodes name := by
  simp only [Tree.fill, Tree.depthOf, NameTree.fill, newKeys, descendLen_eq, List.map_map]; rfl

def TreeQ (key : Name) (nd : TNode) : Prop :=
  (∀ x, nd.name = some x → x = key) ∧ (nd.isEmpty = false → nd.name.isSome = true) ∧ KeysNodup nd.hops

theorem treeInv_iff (t : Tree) : TreeInv t ↔ WF TreeQ t.nodes :=
  ⟨fun h => ⟨h.root, h.pc, h.keys, fun k nd hf => ⟨fun x => h.nm1 k nd x hf, h.nm2 k nd hf, h.hops k nd hf⟩⟩,
   fun h => ⟨h.root, h.pc, h.keys, fun k nd x hf => (h.pt k nd hf).1 x, fun k nd hf => (h.pt k nd hf).2.1,
     fun k nd hf => (h.pt k nd hf).2.2⟩⟩

theorem Tree.findNextHops_eq {t : Tree} (hi : TreeInv t) (name : Name) :
    t.findNextHops name = lpm t.nhAt (fun h => !h.isEmpty) [] name name.length := by
  have hw := (treeInv_iff t).mp hi
  unfold Tree.findNextHops Tree.depthOf
  rw [descendLen_eq, Tree.nhAt_eq]
  exact scan_from_eq_lpm TNode.hops [] (fun h => !h.isEmpty) rfl
    (fun x h => List.isEmpty_iff.mp (by simpa using h)) t.nodes name (walkUpHops t.nodes name)
    (fun o h => by simp only [walkUpHops, h]; cases o <;> rfl)
    (fun k o h => by simp only [walkUpHops, h]; cases o <;> rfl) _ (descend_le _ _ _) (hw.not_has_beyond name)

theorem Tree.findStrategy_eq {t : Tree} (hi : TreeInv t) (name : Name) :
    t.findStrategy name = lpm t.stAt (fun x => x.isSome) none name name.length := by
  have hw := (treeInv_iff t).mp hi
  unfold Tree.findStrategy Tree.depthOf
  rw [descendLen_eq, Tree.stAt_eq]
  exact scan_from_eq_lpm TNode.strat none (fun x => x.isSome) rfl
    (fun x h => Option.not_isSome_iff_eq_none.mp (by simpa using h)) t.nodes name (walkUpStrat t.nodes name)
    (fun o h => by simp only [walkUpStrat, h]; cases o <;> rfl)
    (fun k o h => by simp only [walkUpStrat, h]; cases o <;> rfl) _ (descend_le _ _ _) (hw.not_has_beyond name)

theorem Tree.findExact_eq {t : Tree} (hi : TreeInv t) (name : Name) : t.findExact name = afind t.nodes name := by
  unfold Tree.findExact Tree.depthOf
  rw [descendLen_eq]
  exact ((treeInv_iff t).mp hi).findExact_eq name

def Op.onNode (op : Op) (nd : TNode) : TNode := ⟨nd.name, op.onHops removeHopShift nd.hops, op.onStrat nd.strat⟩

/-- `InsertNextHopEnc` / `SetStrategyEnc`: create the path, then change the entry -/
theorem Tree.fillmod {t : Tree} (hi : TreeInv t) (op : Op) :
    let t' : Tree := ⟨amodify (t.fill op.name).nodes op.name fun nd => op.onNode (nd.named op.name)⟩
    TreeInv t' ∧ (∀ n, t'.nhAt n = nhStep removeHopShift t.nhAt op n) ∧ (∀ n, t'.stAt n = stStep t.stAt op n) := by
  intro t'
  have hw := (treeInv_iff t).mp hi
  have hw1 := hw.fill TNode.blank (fun _ => ⟨nofun, nofun, List.nodup_nil⟩) op.name
  obtain ⟨nd, hnd⟩ := (ahas_iff _ _).mp (hw.has_fill_self TNode.blank op.name)
  rw [← Tree.fill_nodes] at hw1 hnd
  have hq := hw1.pt _ _ hnd
  have ht' : t'.nodes = aset (t.fill op.name).nodes op.name (op.onNode (nd.named op.name)) := by simp only [t', amodify, hnd]
  -- the entry found after the fill shows what the tree showed before
  have hh : nd.hops = t.nhAt op.name := by
    rw [Tree.nhAt_eq, ← valAt_fill TNode.hops [] TNode.blank rfl, ← Tree.fill_nodes]
    exact (valAt_of_afind TNode.hops [] hnd).symm
  have hs : nd.strat = t.stAt op.name := by
    rw [Tree.stAt_eq, ← valAt_fill TNode.strat none TNode.blank rfl, ← Tree.fill_nodes]
    exact (valAt_of_afind TNode.strat none hnd).symm
  refine ⟨(treeInv_iff t').mpr (ht' ▸ hw1.aset hnd ⟨fun x hx => ?_, fun _ => ?_, ?_⟩), fun n => ?_, fun n => ?_⟩
  · change (nd.named op.name).name = some x at hx
    rw [TNode.named] at hx
    cases hn : nd.name with
    | none => rw [hn] at hx; exact (Option.some.inj hx).symm
    | some y => rw [hn] at hx; exact Option.some.inj hx ▸ hq.1 y hn
  · show (nd.named op.name).name.isSome = true
    rw [TNode.named]; cases nd.name <;> rfl
  · exact op.onHops_nodup (fun _ f h => keysNodup_removeHopShift h f) hq.2.2
  · rw [nhStep_eq, Tree.nhAt_eq, ht', valAt_aset, ← hh, Tree.fill_nodes, valAt_fill TNode.hops [] _ rfl, Tree.nhAt_eq]; rfl
  · rw [stStep_eq, Tree.stAt_eq, ht', valAt_aset, ← hs, Tree.fill_nodes, valAt_fill TNode.strat none _ rfl, Tree.stAt_eq]; rfl

/-- `RemoveNextHopEnc` / `ClearNextHopsEnc` / `UnSetStrategyEnc`: change an existing entry, prune -/
theorem Tree.setprune {t : Tree} (hi : TreeInv t) (op : Op)
    (hnil : op.onHops removeHopShift [] = []) (hnone : op.onStrat none = none) :
    let t' : Tree := match t.findExact op.name with
      | none => t
      | some nd => ⟨pruneUp (aset t.nodes op.name (op.onNode nd)) op.name op.name.length⟩
    TreeInv t' ∧ (∀ n, t'.nhAt n = nhStep removeHopShift t.nhAt op n) ∧ (∀ n, t'.stAt n = stStep t.stAt op n) := by
  intro t'
  have hw := (treeInv_iff t).mp hi
  simp only [t', Tree.findExact_eq hi]
  cases hnd : afind t.nodes op.name with
  | none =>
    exact ⟨hi, step_of_unchanged (by rw [Tree.nhAt_eq, valAt_of_none _ _ hnd, hnil])
      (by rw [Tree.stAt_eq, valAt_of_none _ _ hnd, hnone])⟩
  | some nd =>
    have hq := hw.pt _ _ hnd
    -- an entry that `op` leaves non-empty was non-empty: `op` keeps "no hops" and "no strategy"
    have hemp : (op.onNode nd).isEmpty = false → nd.isEmpty = false := by
      simp only [TNode.isEmpty, Op.onNode, Bool.and_eq_false_iff]
      refine Or.imp (fun h => ?_) (fun h => ?_)
      · cases hh : nd.hops with
        | nil => rw [hh, hnil] at h; cases h
        | cons _ _ => rfl
      · cases hs : nd.strat with
        | none => rw [hs, hnone] at h; cases h
        | some _ => rfl
    have hw1 : WF TreeQ (aset t.nodes op.name (op.onNode nd)) := hw.aset hnd
      ⟨hq.1, fun h => hq.2.1 (hemp h), op.onHops_nodup (fun _ f h => keysNodup_removeHopShift h f) hq.2.2⟩
    have hE : ∀ nd : TNode, nd.isEmpty = true → nd.hops = [] ∧ nd.strat = none := fun nd h => by
      simpa only [TNode.isEmpty, Bool.and_eq_true, List.isEmpty_iff, Option.isNone_iff_eq_none] using h
    simp only [pruneUp_eq]
    refine ⟨(treeInv_iff _).mpr (hw1.prune _ _ _ (Nat.le_refl _)), fun n => ?_, fun n => ?_⟩
    · rw [nhStep_eq, Tree.nhAt_eq, Tree.nhAt_eq, valAt_prune _ _ _ (fun nd h => (hE nd h).1), valAt_aset, valAt_of_afind _ _ hnd]
      rfl
    · rw [stStep_eq, Tree.stAt_eq, Tree.stAt_eq, valAt_prune _ _ _ (fun nd h => (hE nd h).2), valAt_aset, valAt_of_afind _ _ hnd]
      rfl

theorem Tree.apply_spec {t : Tree} (hi : TreeInv t) (op : Op) :
    TreeInv (t.apply op) ∧ (∀ n, (t.apply op).nhAt n = nhStep removeHopShift t.nhAt op n) ∧
      (∀ n, (t.apply op).stAt n = stStep t.stAt op n) := by
  cases op with
  | ins name f c => exact Tree.fillmod hi (.ins name f c)
  | sets name x => exact Tree.fillmod hi (.sets name x)
  | rem name f => exact Tree.setprune hi (.rem name f) rfl rfl
  | clr name => exact Tree.setprune hi (.clr name) rfl rfl
  | unsets name => exact Tree.setprune hi (.unsets name) rfl rfl

end Ndn.C05
