/-
  `ReplaceNextHopsEnc` and call-level histories.  A replace call is, in the code and in the models, the sequence
  clear / insert … per listed prefix; a history of calls therefore reduces to a history of primitive operations.
-/
import NdnVerif.C05.LemmasRun
namespace Ndn.C05

/-- the primitive operations one update of `ReplaceNextHopsEnc` performs -/
def expandUpdate (u : Update) : List Op := .clr u.1 :: u.2.map fun h => .ins u.1 h.1 h.2

def Call.expand : Call → List Op
  | .op o => [o]
  | .replace us => us.flatMap expandUpdate

theorem replaceWith_eq {σ : Type} (ap : σ → Op → σ) (us : List Update) : ∀ t : σ,
    replaceWith ap t us = (us.flatMap expandUpdate).foldl ap t := by
  induction us with
  | nil => intro t; rfl
  | cons u r ih =>
    intro t
    simp only [replaceWith, List.foldl_cons, List.flatMap_cons, List.foldl_append, expandUpdate, List.foldl_map]
    exact ih _

theorem Tree.call_eq (t : Tree) (c : Call) : t.call c = c.expand.foldl Tree.apply t := by
  cases c with
  | op o => rfl
  | replace us => exact replaceWith_eq _ us t

theorem Hash.call_eq (h : Hash) (c : Call) : h.call c = c.expand.foldl Hash.apply h := by
  cases c with
  | op o => rfl
  | replace us => exact replaceWith_eq _ us h

theorem Spec.call_eq (s : Spec) (c : Call) : s.call c = c.expand.foldl Spec.apply s := by
  cases c with
  | op o => rfl
  | replace us => exact replaceWith_eq _ us s

def runTreeC (d : Name) (calls : List Call) : Tree := calls.foldl Tree.call (Tree.init d)
def runHashC (m : Nat) (d : Name) (calls : List Call) : Hash := calls.foldl Hash.call (Hash.init m d)
def runSpecC (d : Name) (calls : List Call) : Spec := calls.foldl Spec.call (Spec.init d)

theorem foldl_call_eq {σ : Type} (call : σ → Call → σ) (ap : σ → Op → σ)
    (h : ∀ t c, call t c = (Call.expand c).foldl ap t) (calls : List Call) : ∀ t : σ,
    calls.foldl call t = (calls.flatMap Call.expand).foldl ap t := by
  induction calls with
  | nil => intro t; rfl
  | cons c r ih => intro t; simp only [List.foldl_cons, List.flatMap_cons, List.foldl_append, h, ih]

theorem runTreeC_eq (d : Name) (calls : List Call) : runTreeC d calls = runTree d (calls.flatMap Call.expand) :=
  foldl_call_eq _ _ Tree.call_eq calls _
theorem runHashC_eq (m : Nat) (d : Name) (calls : List Call) : runHashC m d calls = runHash m d (calls.flatMap Call.expand) :=
  foldl_call_eq _ _ Hash.call_eq calls _
theorem runSpecC_eq (d : Name) (calls : List Call) : runSpecC d calls = runSpec d (calls.flatMap Call.expand) :=
  foldl_call_eq _ _ Spec.call_eq calls _

theorem expand_admissible (calls : List Call) (h : ∀ c ∈ calls, c.admissible = true) :
    ∀ o ∈ calls.flatMap Call.expand, o.admissible = true := by
  intro o ho
  obtain ⟨c, hc, hoc⟩ := List.mem_flatMap.mp ho
  cases c with
  | op o' =>
    simp only [Call.expand, List.mem_singleton] at hoc
    subst hoc; exact h _ hc
  | replace us =>
    simp only [Call.expand, List.mem_flatMap, expandUpdate, List.mem_cons, List.mem_map] at hoc
    obtain ⟨u, _, hu⟩ := hoc
    rcases hu with hu | ⟨x, _, hu⟩ <;> subst hu <;> rfl

theorem foldl_aset_append (l : Hops) : ∀ (acc : Hops), KeysNodup (acc ++ l) →
    l.foldl (fun a h => aset a h.1 h.2) acc = acc ++ l := by
  induction l with
  | nil => intro acc _; exact (List.append_nil _).symm
  | cons p t ih =>
    intro acc hn
    have hn' : KeysNodup ((acc ++ [p]) ++ t) := by rwa [List.append_assoc]
    have hk : p.1 ∉ acc.map (·.1) := by
      unfold KeysNodup at hn
      rw [List.map_append, List.map_cons] at hn
      exact fun hm => (List.nodup_append.mp hn).2.2 _ hm _ List.mem_cons_self rfl
    rw [List.foldl_cons, aset_of_not_mem hk, ih _ hn', List.append_assoc]; rfl

theorem Spec.nhAt_foldl_ins (nm : Name) (l : Hops) : ∀ (fib : Spec) (q : Name),
    ((l.map fun h => Op.ins nm h.1 h.2).foldl Spec.apply fib).nhAt q =
      if nm = q then l.foldl (fun a h => aset a h.1 h.2) (fib.nhAt nm) else fib.nhAt q := by
  induction l with
  | nil => intro fib q; exact (ite_apply_eq fib.nhAt nm q).symm
  | cons p t ih =>
    intro fib q
    rw [List.map_cons, List.foldl_cons, ih]
    simp only [Spec.nhAt_apply, nhStep, if_true]
    split <;> rfl

/-- one entry of a replace on the abstract table: afterwards the prefix holds the listed hops (a face listed twice keeps
    the later cost), every other prefix what it held -/
theorem Spec.nhAt_expandUpdate (fib : Spec) (u : Update) (q : Name) :
    ((expandUpdate u).foldl Spec.apply fib).nhAt q =
      if u.1 = q then u.2.foldl (fun a h => aset a h.1 h.2) [] else fib.nhAt q := by
  rw [expandUpdate, List.foldl_cons, Spec.nhAt_foldl_ins, Spec.nhAt_apply, Spec.nhAt_apply]
  by_cases hk : u.1 = q
  · rw [if_pos hk, if_pos hk, show nhStep _ fib.nhAt (.clr u.1) u.1 = [] from if_pos rfl]
  · rw [if_neg hk, if_neg hk]; exact if_neg hk

theorem Spec.nhAt_expandUpdate_nodup (fib : Spec) {u : Update} (hn : KeysNodup u.2) (q : Name) :
    ((expandUpdate u).foldl Spec.apply fib).nhAt q = if u.1 = q then u.2 else fib.nhAt q := by
  rw [Spec.nhAt_expandUpdate, foldl_aset_append u.2 [] (by rwa [List.nil_append]), List.nil_append]

theorem Spec.stAt_foldl_ins (nm : Name) (l : Hops) : ∀ (s : Spec) (q : Name),
    ((l.map fun h => Op.ins nm h.1 h.2).foldl Spec.apply s).stAt q = s.stAt q := by
  induction l with
  | nil => intro s q; rfl
  | cons p t ih => intro s q; simp only [List.map_cons, List.foldl_cons]; rw [ih]; rfl

end Ndn.C05
