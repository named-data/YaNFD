/-
  C05 — property theorems.  Histories are arbitrary lists of operations (no length or depth bound);
  names, faces, costs and strategies are arbitrary.  Only `strategy_lookup_total` needs the history
  to be one that management can produce (no unset of the root strategy, F-05b).
-/
import NdnVerif.C05.LemmasCall
namespace Ndn.C05

/-- Clause "a next-hop lookup returns exactly the (face, cost) set of the longest registered
    prefix of that name which has next hops": the spec lookup returns the next hops stored on
    the prefix `name.take k` where `k` is the largest length with next hops, and nothing if no
    prefix has next hops. -/
theorem spec_lookup_is_longest_prefix_match (s : Spec) (name : Name) :
    (∃ k, k ≤ name.length ∧ s.nhAt (name.take k) ≠ [] ∧
        (∀ j, k < j → j ≤ name.length → s.nhAt (name.take j) = []) ∧
        s.lpmNextHops name = s.nhAt (name.take k)) ∨
    ((∀ j, j ≤ name.length → s.nhAt (name.take j) = []) ∧ s.lpmNextHops name = []) := by
  rcases lpm_spec s.nhAt (fun h => !h.isEmpty) [] name name.length with ⟨k, h1, h2, h3, h4⟩ | ⟨h1, h2⟩
  · left
    refine ⟨k, h1, ?_, ?_, h4⟩
    · intro e; simp [e] at h2
    · intro j a b; have := h3 j a b; simpa using this
  · right
    exact ⟨fun j hj => by have := h1 j hj; simpa using this, h2⟩

example : (runSpec [] [.ins [⟨8, [97]⟩] 7 10]).lpmNextHops [⟨8, [97]⟩, ⟨8, [98]⟩] = [(7, 10)] := by decide

/-- the same for strategies: the strategy set on the longest prefix that has one -/
theorem spec_strategy_is_longest_prefix_match (s : Spec) (name : Name) :
    (∃ k, k ≤ name.length ∧ (s.stAt (name.take k)).isSome ∧
        (∀ j, k < j → j ≤ name.length → s.stAt (name.take j) = none) ∧
        s.lpmStrategy name = s.stAt (name.take k)) ∨
    ((∀ j, j ≤ name.length → s.stAt (name.take j) = none) ∧ s.lpmStrategy name = none) := by
  rcases lpm_spec s.stAt (fun x => x.isSome) none name name.length with ⟨k, h1, h2, h3, h4⟩ | ⟨h1, h2⟩
  · left
    exact ⟨k, h1, h2, fun j a b => by have := h3 j a b; simpa using this, h4⟩
  · right
    exact ⟨fun j hj => by have := h1 j hj; simpa using this, h2⟩

example : (runSpec [⟨8, [100]⟩] []).lpmStrategy [⟨8, [97]⟩] = some [⟨8, [100]⟩] := by decide

/-- in every entry each face occurs once (the next hops are a face ↦ cost map) and the abstract
    listing is exactly the set of prefixes that hold next hops, with exactly those values -/
theorem spec_listing_exact (d : Name) (ops : List Op) (n : Name) (hops : Hops) :
    ((n, hops) ∈ (runSpec d ops).listFib ↔ hops ≠ [] ∧ (runSpec d ops).nhAt n = hops) ∧
    KeysNodup ((runSpec d ops).nhAt n) :=
  ⟨Spec.mem_listFib (runSpec_inv d ops) n hops, (runSpec_inv d ops).hops n⟩

example : (runSpec [] [.ins [] 7 10, .ins [] 7 3, .ins [] 8 1, .rem [] 8]).listFib = [([], [(7, 3)])] := by decide

/-- After any history the name tree's `FindNextHopsEnc` / `FindStrategyEnc` return exactly what
    longest-prefix match on the abstract table returns, for every lookup name. -/
theorem tree_refines_spec (d : Name) (ops : List Op) (name : Name) :
    (runTree d ops).findNextHops name = (runSpec d ops).lpmNextHops name ∧
    (runTree d ops).findStrategy name = (runSpec d ops).lpmStrategy name := by
  obtain ⟨hi, _, hr1, hr2⟩ := runTree_rel d ops
  constructor
  · rw [Tree.findNextHops_eq hi]
    exact lpm_congr Eq name (fun n => by rw [hr1]) hr1 rfl _
  · rw [Tree.findStrategy_eq hi]
    exact lpm_congr Eq name (fun n => by rw [hr2]) hr2 rfl _

example : (runTree [] [.ins [⟨8, [97]⟩] 7 10, .sets [⟨8, [97]⟩, ⟨8, [98]⟩] [⟨8, [115]⟩], .rem [⟨8, [97]⟩] 7]).findNextHops
    [⟨8, [97]⟩, ⟨8, [98]⟩, ⟨8, [99]⟩] = [] := by decide

/-- The tree's `GetAllFIBEntries` / `GetAllForwardingStrategies` list exactly the entries of the
    abstract table (as sets; each prefix once). -/
theorem tree_listing_refines_spec (d : Name) (ops : List Op) :
    (∀ e, e ∈ (runTree d ops).listFib ↔ e ∈ (runSpec d ops).listFib) ∧
    (∀ e, e ∈ (runTree d ops).listStrat ↔ e ∈ (runSpec d ops).listStrat) := by
  obtain ⟨hi, si, hr1, hr2⟩ := runTree_rel d ops
  constructor
  · rintro ⟨n, hops⟩
    rw [Tree.mem_listFib hi, Spec.mem_listFib si, hr1]
  · rintro ⟨n, x⟩
    rw [Tree.mem_listStrat hi, Spec.mem_listStrat si, hr2]

example : (runTree [] [.ins [⟨8, [97]⟩, ⟨8, [98]⟩] 7 10, .ins [] 1 1, .clr [⟨8, [97]⟩, ⟨8, [98]⟩]]).listFib
    = [([], [(1, 1)])] := by decide

/-- After any history, for every virtual depth `m ≥ 1`, the hash table's `FindNextHopsEnc` returns
    the same (face, cost) set as longest-prefix match on the abstract table (each face once on
    both sides; the slice order may differ because removal swaps with the last element), and
    `FindStrategyEnc` returns the same strategy. -/
theorem hash_refines_spec (m : Nat) (hm : 1 ≤ m) (d : Name) (ops : List Op) (name : Name) :
    (∀ x, x ∈ (runHash m d ops).findNextHops name ↔ x ∈ (runSpec d ops).lpmNextHops name) ∧
    KeysNodup ((runHash m d ops).findNextHops name) ∧ KeysNodup ((runSpec d ops).lpmNextHops name) ∧
    (runHash m d ops).findStrategy name = (runSpec d ops).lpmStrategy name := by
  obtain ⟨hi, _, si, hr1, hr2⟩ := runHash_rel m hm d ops
  rw [Hash.findNextHops_eq hi, Hash.findStrategy_eq hi]
  have key := lpm_congr (g := (runHash m d ops).nhAt) (g' := (runSpec d ops).nhAt) (ok := fun h => !h.isEmpty)
    (ok' := fun h => !h.isEmpty) (d := []) (d' := []) (fun a b => HopsEq a b ∧ KeysNodup a ∧ KeysNodup b) name
    (fun n => by rw [(hr1 n).isEmpty]) (fun n => ⟨hr1 n, Hash.nhAt_nodup hi n, si.hops n⟩)
    ⟨HopsEq.refl _, List.nodup_nil, List.nodup_nil⟩ name.length
  refine ⟨fun x => key.1.mem_iff key.2.1 key.2.2 x, key.2.1, key.2.2, ?_⟩
  exact lpm_congr Eq name (fun n => by rw [hr2]) hr2 rfl _

example : (runHash 2 [] [.ins [⟨8, [97]⟩, ⟨8, [98]⟩, ⟨8, [99]⟩] 7 10, .ins [⟨8, [97]⟩] 8 1,
    .rem [⟨8, [97]⟩, ⟨8, [98]⟩, ⟨8, [99]⟩] 7]).findNextHops [⟨8, [97]⟩, ⟨8, [98]⟩, ⟨8, [99]⟩, ⟨8, [100]⟩] = [(8, 1)] := by decide

/-- The hash table's listings contain exactly the prefixes of the abstract table, each with the
    same face ↦ cost map / the same strategy. -/
theorem hash_listing_refines_spec (m : Nat) (hm : 1 ≤ m) (d : Name) (ops : List Op) :
    (∀ n hops, (n, hops) ∈ (runHash m d ops).listFib →
        ∃ hops', (n, hops') ∈ (runSpec d ops).listFib ∧ ∀ x, x ∈ hops ↔ x ∈ hops') ∧
    (∀ n hops', (n, hops') ∈ (runSpec d ops).listFib →
        ∃ hops, (n, hops) ∈ (runHash m d ops).listFib ∧ ∀ x, x ∈ hops ↔ x ∈ hops') ∧
    (∀ e, e ∈ (runHash m d ops).listStrat ↔ e ∈ (runSpec d ops).listStrat) := by
  obtain ⟨hi, _, si, hr1, hr2⟩ := runHash_rel m hm d ops
  refine ⟨?_, ?_, ?_⟩
  · intro n hops hmem
    obtain ⟨hne, hh⟩ := (Hash.mem_listFib hi n hops).mp hmem
    refine ⟨(runSpec d ops).nhAt n, (Spec.mem_listFib si n _).mpr ⟨?_, rfl⟩, ?_⟩
    · exact fun e => hne (hh ▸ (hr1 n).symm.eq_nil e)
    · intro x
      have := (hr1 n).mem_iff (Hash.nhAt_nodup hi n) (si.hops n) x
      rw [hh] at this; exact this
  · intro n hops' hmem
    obtain ⟨hne, hh⟩ := (Spec.mem_listFib si n hops').mp hmem
    refine ⟨(runHash m d ops).nhAt n, (Hash.mem_listFib hi n _).mpr ⟨?_, rfl⟩, ?_⟩
    · exact fun e => hne (hh ▸ (hr1 n).eq_nil e)
    · intro x
      have := (hr1 n).mem_iff (Hash.nhAt_nodup hi n) (si.hops n) x
      rw [hh] at this; exact this
  · rintro ⟨n, x⟩
    rw [Hash.mem_listStrat hi, Spec.mem_listStrat si, hr2]

example : (runHash 1 [] [.ins [⟨8, [97]⟩] 7 10, .ins [⟨8, [97]⟩] 8 1, .ins [⟨8, [97]⟩] 9 1, .rem [⟨8, [97]⟩] 7]).listFib
    = [([⟨8, [97]⟩], [(9, 1), (8, 1)])] := by decide

/-- For every history, every `m ≥ 1` and every lookup name the name tree and the hash table
    return the same (face, cost) set and the same strategy, and list the same prefixes. -/
theorem tree_hash_observationally_equal (m : Nat) (hm : 1 ≤ m) (d : Name) (ops : List Op) (name : Name) :
    (∀ x, x ∈ (runTree d ops).findNextHops name ↔ x ∈ (runHash m d ops).findNextHops name) ∧
    (runTree d ops).findStrategy name = (runHash m d ops).findStrategy name ∧
    (∀ n, (∃ hops, (n, hops) ∈ (runTree d ops).listFib) ↔ (∃ hops, (n, hops) ∈ (runHash m d ops).listFib)) ∧
    (∀ e, e ∈ (runTree d ops).listStrat ↔ e ∈ (runHash m d ops).listStrat) := by
  obtain ⟨t1, t2⟩ := tree_refines_spec d ops name
  obtain ⟨h1, _, _, h4⟩ := hash_refines_spec m hm d ops name
  obtain ⟨l1, l2⟩ := tree_listing_refines_spec d ops
  obtain ⟨g1, g2, g3⟩ := hash_listing_refines_spec m hm d ops
  refine ⟨fun x => by rw [t1]; exact (h1 x).symm, by rw [t2, h4], ?_, fun e => (l2 e).trans (g3 e).symm⟩
  intro n
  constructor
  · rintro ⟨hops, hmem⟩
    obtain ⟨hops2, hm2, _⟩ := g2 n hops ((l1 _).mp hmem)
    exact ⟨hops2, hm2⟩
  · rintro ⟨hops, hmem⟩
    obtain ⟨hops2, hm2, _⟩ := g1 n hops hmem
    exact ⟨hops2, (l1 _).mpr hm2⟩

/-- Clause "the root always has one: it can be replaced but not unset": on every history that
    management can produce (no unset of the root), every strategy lookup returns a strategy —
    in the abstract table, hence (previous theorems) in both implementations. -/
theorem strategy_lookup_total (d : Name) (ops : List Op) (hadm : ∀ op ∈ ops, op.admissible = true) (name : Name) :
    ((runSpec d ops).lpmStrategy name).isSome ∧ ((runTree d ops).findStrategy name).isSome ∧
    ∀ m, 1 ≤ m → ((runHash m d ops).findStrategy name).isSome := by
  -- the root keeps a strategy: it is set initially, `sets` sets one, `unsets /` is not admissible
  have root : ((runSpec d ops).stAt []).isSome :=
    List.foldlRecOn (motive := fun s : Spec => (s.stAt []).isSome) ops _ rfl fun s h op hop => by
      rw [Spec.stAt_apply, stStep_eq]
      split
      next e =>
        cases op with
        | sets m x => rfl
        | unsets m => exact absurd (hadm _ hop) (by rw [show m = [] from e]; decide)
        | _ => exact e ▸ h
      next => exact h
  have hs : ((runSpec d ops).lpmStrategy name).isSome := by
    rcases spec_strategy_is_longest_prefix_match (runSpec d ops) name with ⟨k, _, h2, _, h4⟩ | ⟨h1, _⟩
    · rw [h4]; exact h2
    · have := h1 0 (by omega)
      simp only [List.take_zero] at this
      rw [this] at root; cases root
  refine ⟨hs, by rw [(tree_refines_spec d ops name).2]; exact hs, ?_⟩
  intro m hm
  rw [(hash_refines_spec m hm d ops name).2.2.2]; exact hs

example : ((runSpec [⟨8, [100]⟩] [.sets [] [⟨8, [101]⟩], .unsets [⟨8, [97]⟩]]).lpmStrategy [⟨8, [97]⟩]) = some [⟨8, [101]⟩] := by decide


/-! `ReplaceNextHopsEnc`: both implementations execute a replace as clear + inserts per listed prefix
  (`replaceWith`), so a history of calls reduces to a history of primitive operations. -/

/-- What a replace means on the abstract table: afterwards the prefix holds exactly the listed
    next hops (a face listed twice keeps the later cost; literally the list when faces are
    distinct, nothing when the list is empty), every other prefix and every strategy is untouched. -/
theorem spec_replace_exact (s : Spec) (n : Name) (hs : Hops) (x : Name) :
    (s.call (.replace [(n, hs)])).nhAt x = (if n = x then hs.foldl (fun a h => aset a h.1 h.2) [] else s.nhAt x) ∧
    (s.call (.replace [(n, hs)])).stAt x = s.stAt x ∧
    (KeysNodup hs → (s.call (.replace [(n, hs)])).nhAt n = hs) := by
  have e : s.call (.replace [(n, hs)]) = (expandUpdate (n, hs)).foldl Spec.apply s := by
    rw [Spec.call_eq]; exact congrArg (List.foldl Spec.apply s) (List.append_nil _)
  rw [e]
  refine ⟨Spec.nhAt_expandUpdate s (n, hs) x, ?_, fun hn => (Spec.nhAt_expandUpdate_nodup s hn n).trans (if_pos rfl)⟩
  rw [expandUpdate, List.foldl_cons, Spec.stAt_foldl_ins]; rfl

example : (runSpecC [] [.op (.ins [⟨8, [97]⟩] 1 0), .replace [([⟨8, [97]⟩], [(2, 7)])]]).lpmNextHops [⟨8, [97]⟩, ⟨8, [98]⟩] = [(2, 7)] := by decide
example : (runSpecC [] [.op (.ins [] 1 0), .op (.ins [] 2 5), .replace [([], [(2, 5), (3, 9)])]]).listFib = [([], [(2, 5), (3, 9)])] := by decide

/-- a history of calls is the history of the primitive operations it performs — in the tree, in
    the hash table and in the abstract table -/
theorem calls_reduce_to_ops (m : Nat) (d : Name) (calls : List Call) :
    runTreeC d calls = runTree d (calls.flatMap Call.expand) ∧
    runHashC m d calls = runHash m d (calls.flatMap Call.expand) ∧
    runSpecC d calls = runSpec d (calls.flatMap Call.expand) :=
  ⟨runTreeC_eq d calls, runHashC_eq m d calls, runSpecC_eq d calls⟩

/-- `tree_refines_spec` and `tree_listing_refines_spec` for histories that include replace calls -/
theorem tree_refines_spec_calls (d : Name) (calls : List Call) (name : Name) :
    (runTreeC d calls).findNextHops name = (runSpecC d calls).lpmNextHops name ∧
    (runTreeC d calls).findStrategy name = (runSpecC d calls).lpmStrategy name ∧
    (∀ e, e ∈ (runTreeC d calls).listFib ↔ e ∈ (runSpecC d calls).listFib) ∧
    (∀ e, e ∈ (runTreeC d calls).listStrat ↔ e ∈ (runSpecC d calls).listStrat) := by
  rw [runTreeC_eq, runSpecC_eq]
  exact ⟨(tree_refines_spec d _ name).1, (tree_refines_spec d _ name).2,
    (tree_listing_refines_spec d _).1, (tree_listing_refines_spec d _).2⟩

example : (runTreeC [] [.op (.ins [⟨8, [97]⟩] 1 0), .replace [([⟨8, [97]⟩], [(2, 7)])]]).findNextHops [⟨8, [97]⟩] = [(2, 7)] := by decide

/-- `hash_refines_spec` and `hash_listing_refines_spec` for histories that include replace calls -/
theorem hash_refines_spec_calls (m : Nat) (hm : 1 ≤ m) (d : Name) (calls : List Call) (name : Name) :
    (∀ x, x ∈ (runHashC m d calls).findNextHops name ↔ x ∈ (runSpecC d calls).lpmNextHops name) ∧
    KeysNodup ((runHashC m d calls).findNextHops name) ∧ KeysNodup ((runSpecC d calls).lpmNextHops name) ∧
    (runHashC m d calls).findStrategy name = (runSpecC d calls).lpmStrategy name ∧
    (∀ n hops, (n, hops) ∈ (runHashC m d calls).listFib →
        ∃ hops', (n, hops') ∈ (runSpecC d calls).listFib ∧ ∀ x, x ∈ hops ↔ x ∈ hops') ∧
    (∀ n hops', (n, hops') ∈ (runSpecC d calls).listFib →
        ∃ hops, (n, hops) ∈ (runHashC m d calls).listFib ∧ ∀ x, x ∈ hops ↔ x ∈ hops') ∧
    (∀ e, e ∈ (runHashC m d calls).listStrat ↔ e ∈ (runSpecC d calls).listStrat) := by
  rw [runHashC_eq, runSpecC_eq]
  obtain ⟨a, b, c, e⟩ := hash_refines_spec m hm d (calls.flatMap Call.expand) name
  obtain ⟨f, g, h⟩ := hash_listing_refines_spec m hm d (calls.flatMap Call.expand)
  exact ⟨a, b, c, e, f, g, h⟩

example : (runHashC 1 [] [.op (.ins [⟨8, [97]⟩, ⟨8, [98]⟩] 1 0), .op (.ins [⟨8, [97]⟩, ⟨8, [98]⟩] 2 5),
    .replace [([⟨8, [97]⟩, ⟨8, [98]⟩], [(2, 5), (3, 9)])]]).findNextHops [⟨8, [97]⟩, ⟨8, [98]⟩, ⟨8, [99]⟩] = [(2, 5), (3, 9)] := by decide

/-- the two implementations stay observationally identical on histories with replace calls -/
theorem tree_hash_observationally_equal_calls (m : Nat) (hm : 1 ≤ m) (d : Name) (calls : List Call) (name : Name) :
    (∀ x, x ∈ (runTreeC d calls).findNextHops name ↔ x ∈ (runHashC m d calls).findNextHops name) ∧
    (runTreeC d calls).findStrategy name = (runHashC m d calls).findStrategy name ∧
    (∀ n, (∃ hops, (n, hops) ∈ (runTreeC d calls).listFib) ↔ (∃ hops, (n, hops) ∈ (runHashC m d calls).listFib)) ∧
    (∀ e, e ∈ (runTreeC d calls).listStrat ↔ e ∈ (runHashC m d calls).listStrat) := by
  rw [runTreeC_eq, runHashC_eq]
  exact tree_hash_observationally_equal m hm d _ name

/-- the root keeps a strategy on every management-producible history of calls -/
theorem strategy_lookup_total_calls (d : Name) (calls : List Call) (hadm : ∀ c ∈ calls, c.admissible = true) (name : Name) :
    ((runSpecC d calls).lpmStrategy name).isSome ∧ ((runTreeC d calls).findStrategy name).isSome ∧
    ∀ m, 1 ≤ m → ((runHashC m d calls).findStrategy name).isSome := by
  rw [runSpecC_eq, runTreeC_eq]
  obtain ⟨a, b, c⟩ := strategy_lookup_total d _ (expand_admissible calls hadm) name
  exact ⟨a, b, fun m hm => by rw [runHashC_eq]; exact c m hm⟩

end Ndn.C05
