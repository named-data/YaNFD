/-
  What both implementations are compared through: `valAt` (a field of the entry stored under a key, over the association
  lists of `Assoc.lean`), next-hop lists as face ↦ cost maps (`HopsEq`), `lpm` and the scans that compute it, and what
  one operation does to the two maps prefix ↦ next hops / strategy (`nhStep`, `stStep`; the specification follows them:
  `Spec.nhAt_apply`, `Spec.stAt_apply`).
-/
import NdnVerif.C05.Spec
import NdnVerif.C05.Assoc
namespace Ndn.C05

theorem dropLast_append_of_getLast? {α : Type} {t : List α} {l : α} (h : t.getLast? = some l) : t.dropLast ++ [l] = t := by
  obtain ⟨ys, rfl⟩ := List.getLast?_eq_some_iff.mp h
  exact congrArg (· ++ [l]) List.dropLast_concat

section Assoc
variable {κ : Type} [DecidableEq κ] {α : Type}

theorem afind_amodify (l : List (κ × α)) (k k' : κ) (f : α → α) :
    afind (amodify l k f) k' = if k = k' then (afind l k).map f else afind l k' :=
  (afind_amodify' l k k' f).trans (ite_eq_comm ..)

theorem keysNodup_amodify {l : List (κ × α)} (hn : KeysNodup l) (k : κ) (f : α → α) : KeysNodup (amodify l k f) := by
  unfold KeysNodup; rw [keys_amodify]; exact hn

end Assoc

section ValAt
variable {κ : Type} [DecidableEq κ] {α β : Type}

/-- `π` of the entry stored under `k`, `d` when there is none (`Tree.nhAt`, `Hash.stAt`, …) -/
def valAt (π : α → β) (d : β) (l : List (κ × α)) (k : κ) : β :=
  match afind l k with
  | some e => π e
  | none => d

variable (π : α → β) (d : β)

theorem valAt_of_afind {l : List (κ × α)} {k : κ} {e : α} (h : afind l k = some e) : valAt π d l k = π e := by
  unfold valAt; rw [h]

theorem valAt_of_none {l : List (κ × α)} {k : κ} (h : afind l k = none) : valAt π d l k = d := by
  unfold valAt; rw [h]

theorem valAt_of_not_has {l : List (κ × α)} {k : κ} (h : ahas l k = false) : valAt π d l k = d :=
  valAt_of_none π d ((ahas_false_iff l k).mp h)

theorem valAt_single (k : κ) (v : α) (n : κ) : valAt π d [(k, v)] n = if k = n then π v else d := by
  unfold valAt
  simp only [afind]
  by_cases h : k = n
  · rw [if_pos h, if_pos h]
  · rw [if_neg h, if_neg h]

theorem valAt_aset (l : List (κ × α)) (k : κ) (v : α) (n : κ) :
    valAt π d (aset l k v) n = if k = n then π v else valAt π d l n := by
  unfold valAt; rw [afind_aset]
  by_cases h : k = n
  · rw [if_pos h, if_pos h]
  · rw [if_neg h, if_neg h]

theorem valAt_aerase (l : List (κ × α)) (k n : κ) :
    valAt π d (aerase l k) n = if k = n then d else valAt π d l n := by
  unfold valAt; rw [afind_aerase]
  by_cases h : k = n
  · rw [if_pos h, if_pos h]
  · rw [if_neg h, if_neg h]

/-- a table of lists that keeps no empty list: storing `[]` erases the key -/
theorem valAt_set_or_erase {γ : Type} (l : List (κ × List γ)) (k : κ) (v : List γ) (n : κ) :
    valAt id [] (if v.isEmpty then aerase l k else aset l k v) n = if k = n then v else valAt id [] l n := by
  cases v with
  | nil => exact valAt_aerase id [] l k n
  | cons a t => exact valAt_aset id [] l k (a :: t) n

theorem valAt_aerase_of_default {l : List (κ × α)} {k : κ} {e : α} (he : afind l k = some e) (hd : π e = d) (n : κ) :
    valAt π d (aerase l k) n = valAt π d l n := by
  rw [valAt_aerase]
  split
  next h => rw [← h, valAt_of_afind π d he, hd]
  next => rfl

theorem valAt_append_blank (l : List (κ × α)) (ks : List κ) {b : α} (hb : π b = d) (n : κ) :
    valAt π d (l ++ ks.map fun k => (k, b)) n = valAt π d l n := by
  rcases afind_append_blank l ks b n with h | ⟨h0, h1, _⟩
  · unfold valAt; rw [h]
  · rw [valAt_of_afind π d h1, valAt_of_none π d h0, hb]

/-- `κ'` is the key a listing prints (`entry.name` in the trees, the map key elsewhere); `hκ`: it is the stored key wherever
    something is listed -/
theorem mem_listing_filter {γ : Type} {l : List (κ × α)} (hn : KeysNodup l) (π : α → List γ) (κ' : κ × α → κ)
    (hκ : ∀ k e, afind l k = some e → π e ≠ [] → κ' (k, e) = k) (n : κ) (x : List γ) :
    (n, x) ∈ (l.filter fun q => !(π q.2).isEmpty).map (fun q => (κ' q, π q.2)) ↔ x ≠ [] ∧ valAt π [] l n = x := by
  simp only [List.mem_map, List.mem_filter, Prod.mk.injEq]
  constructor
  · rintro ⟨⟨k, e⟩, ⟨hm, hne⟩, hk, rfl⟩
    have hf := mem_afind hn hm
    have hne' : π e ≠ [] := fun h => by rw [h] at hne; cases hne
    rw [hκ k e hf hne'] at hk
    exact ⟨hne', hk ▸ valAt_of_afind π [] hf⟩
  · rintro ⟨hne, hv⟩
    cases hf : afind l n with
    | none => exact absurd ((valAt_of_none π [] hf).symm.trans hv).symm hne
    | some e =>
      have hx : π e = x := (valAt_of_afind π [] hf).symm.trans hv
      refine ⟨(n, e), ⟨afind_some_mem hf, ?_⟩, hκ n e hf (hx ▸ hne), hx⟩
      rw [hx]; cases x with
      | nil => exact absurd rfl hne
      | cons _ _ => rfl

theorem mem_listing_filterMap {γ : Type} {l : List (κ × α)} (hn : KeysNodup l) (σ : α → Option γ) (κ' : κ × α → κ)
    (hκ : ∀ k e, afind l k = some e → (σ e).isSome = true → κ' (k, e) = k) (n : κ) (x : γ) :
    (n, x) ∈ l.filterMap (fun q => (σ q.2).map fun s => (κ' q, s)) ↔ valAt σ none l n = some x := by
  simp only [List.mem_filterMap, Option.map_eq_some_iff, Prod.mk.injEq]
  constructor
  · rintro ⟨⟨k, e⟩, hm, s, hs, hk, rfl⟩
    have hf := mem_afind hn hm
    rw [hκ k e hf (by rw [hs]; rfl)] at hk
    exact hk ▸ (valAt_of_afind σ none hf).trans hs
  · intro hv
    cases hf : afind l n with
    | none => rw [valAt_of_none σ none hf] at hv; cases hv
    | some e =>
      rw [valAt_of_afind σ none hf] at hv
      exact ⟨(n, e), afind_some_mem hf, x, hv, hκ n e hf (by rw [hv]; rfl), rfl⟩

end ValAt

theorem ite_apply_eq {κ β : Type} [DecidableEq κ] (f : κ → β) (a b : κ) : (if a = b then f a else f b) = f b :=
  ite_eq_right_iff.mpr (congrArg f)

def HopsEq (a b : Hops) : Prop := ∀ f, afind a f = afind b f

theorem HopsEq.refl (a : Hops) : HopsEq a a := fun _ => rfl
theorem HopsEq.symm {a b : Hops} (h : HopsEq a b) : HopsEq b a := fun f => (h f).symm
theorem HopsEq.trans {a b c : Hops} (h : HopsEq a b) (h' : HopsEq b c) : HopsEq a c := fun f => (h f).trans (h' f)

/-- the first face of a non-empty list is bound in it, hence in the other -/
theorem HopsEq.eq_nil {a b : Hops} (h : HopsEq a b) (ha : a = []) : b = [] := by
  cases b with
  | nil => rfl
  | cons q _ => have := h q.1; rw [ha] at this; simp [afind] at this

theorem HopsEq.isEmpty {a b : Hops} (h : HopsEq a b) : a.isEmpty = b.isEmpty := by
  cases a with
  | nil => rw [h.eq_nil rfl]
  | cons p t =>
    cases b with
    | nil => cases h.symm.eq_nil rfl
    | cons _ _ => rfl

theorem HopsEq.mem_iff {a b : Hops} (h : HopsEq a b) (ha : KeysNodup a) (hb : KeysNodup b) (x : Hop) :
    x ∈ a ↔ x ∈ b := by
  rw [mem_iff_afind ha, mem_iff_afind hb, h x.1]

theorem hopsEq_aset {a b : Hops} (h : HopsEq a b) (f c : Nat) : HopsEq (aset a f c) (aset b f c) := by
  intro k; rw [afind_aset, afind_aset, h k]

theorem keysNodup_filter {a : Hops} (hn : KeysNodup a) (p : Hop → Bool) : KeysNodup (a.filter p) :=
  (List.filter_sublist.map _).nodup hn

/-- with distinct faces, deleting the first match deletes every match -/
theorem removeHopShift_eq_filter {a : Hops} (hn : KeysNodup a) (f : Nat) :
    removeHopShift a f = a.filter fun p => !(decide (p.1 = f)) := by
  induction a with
  | nil => rfl
  | cons p t ih =>
    obtain ⟨f', c⟩ := p
    obtain ⟨hn1, hn2⟩ := List.nodup_cons.mp hn
    by_cases h : f' = f
    · subst h
      simp only [removeHopShift, if_true, List.filter_cons, decide_true, Bool.not_true, Bool.false_eq_true, if_false]
      refine (List.filter_eq_self.mpr fun q hq => ?_).symm
      have : q.1 ≠ f' := fun e => hn1 (List.mem_map.mpr ⟨q, hq, e⟩)
      simp only [this, decide_false, Bool.not_false]
    · simp only [removeHopShift, h, if_false, List.filter_cons, decide_false, Bool.not_false, if_true, ih hn2]

theorem afind_removeHopShift {a : Hops} (hn : KeysNodup a) (f k : Nat) :
    afind (removeHopShift a f) k = if f = k then none else afind a k := by
  rw [removeHopShift_eq_filter hn]; exact afind_aerase a f k

theorem keysNodup_removeHopShift {a : Hops} (hn : KeysNodup a) (f : Nat) : KeysNodup (removeHopShift a f) := by
  rw [removeHopShift_eq_filter hn]; exact keysNodup_filter hn _

theorem removeHopSwap_perm (a : Hops) (f : Nat) : (removeHopSwap a f).Perm (removeHopShift a f) := by
  induction a with
  | nil => exact .refl _
  | cons p t ih =>
    obtain ⟨f', c⟩ := p
    by_cases h : f' = f
    · subst h
      simp only [removeHopSwap, removeHopShift, if_true]
      cases hl : t.getLast? with
      | none => rw [List.getLast?_eq_none_iff.mp hl]
      | some l =>
        conv => rhs; rw [← dropLast_append_of_getLast? hl]
        exact (List.perm_append_singleton l t.dropLast).symm
    · simp only [removeHopSwap, removeHopShift, h, if_false]
      exact ih.cons _

theorem keysNodup_removeHopSwap {a : Hops} (hn : KeysNodup a) (f : Nat) : KeysNodup (removeHopSwap a f) :=
  ((removeHopSwap_perm a f).map _).nodup_iff.mpr (keysNodup_removeHopShift hn f)

theorem afind_removeHopSwap {a : Hops} (hn : KeysNodup a) (f k : Nat) :
    afind (removeHopSwap a f) k = if f = k then none else afind a k :=
  (afind_perm (removeHopSwap_perm a f) (keysNodup_removeHopSwap hn f) k).trans (afind_removeHopShift hn f k)

theorem hasFace_iff (a : Hops) (f : Nat) : hasFace a f = (afind a f).isSome := by
  induction a with
  | nil => rfl
  | cons p t ih =>
    obtain ⟨f', c⟩ := p
    simp only [hasFace, List.any_cons, afind] at ih ⊢
    by_cases h : f' = f
    · simp only [h, beq_self_eq_true, Bool.true_or, if_true, Option.isSome_some]
    · simp only [beq_false_of_ne h, Bool.false_or, if_neg h, ih]

theorem removeHopSwap_of_not_hasFace (a : Hops) (f : Nat) (h : hasFace a f = false) : removeHopSwap a f = a := by
  induction a with
  | nil => rfl
  | cons p t ih =>
    obtain ⟨f', c⟩ := p
    simp only [hasFace, List.any_cons, Bool.or_eq_false_iff, beq_eq_false_iff_ne] at h
    simp only [removeHopSwap, h.1, if_false]
    rw [ih h.2]

theorem lpm_congr {β γ : Type} {g : Name → β} {g' : Name → γ} {ok : β → Bool} {ok' : γ → Bool}
    {d : β} {d' : γ} (R : β → γ → Prop) (name : Name)
    (hok : ∀ n, ok (g n) = ok' (g' n)) (hR : ∀ n, R (g n) (g' n)) (hd : R d d') (k : Nat) :
    R (lpm g ok d name k) (lpm g' ok' d' name k) := by
  induction k with
  | zero => simp only [lpm, hok]; split; exact hR _; exact hd
  | succ k ih => simp only [lpm, hok]; split; exact hR _; exact ih

theorem lpm_skip {β : Type} (g : Name → β) (ok : β → Bool) (dflt : β) (name : Name) (d : Nat) :
    ∀ n, d ≤ n → (∀ j, d < j → j ≤ n → ok (g (name.take j)) = false) →
      lpm g ok dflt name n = lpm g ok dflt name d := by
  intro n
  induction n with
  | zero => intro h _; rw [Nat.le_zero.mp h]
  | succ n ih =>
    intro h hj
    rcases Nat.lt_or_eq_of_le h with hd | hd
    · have h1 := hj (n + 1) hd (Nat.le_refl _)
      simp only [lpm, h1, Bool.false_eq_true, if_false]
      exact ih (Nat.le_of_lt_succ hd) fun j hj1 hj2 => hj j hj1 (Nat.le_succ_of_le hj2)
    · rw [hd]

theorem lpm_none {β : Type} (g : Name → β) (ok : β → Bool) (dflt : β) (name : Name) (n : Nat)
    (h : ∀ j, j ≤ n → ok (g (name.take j)) = false) : lpm g ok dflt name n = dflt := by
  induction n with
  | zero => have := h 0 (Nat.le_refl _); simp only [lpm, List.take_zero] at this ⊢; rw [this]; rfl
  | succ n ih =>
    simp only [lpm, h (n + 1) (Nat.le_refl _), Bool.false_eq_true, if_false]
    exact ih fun j hj => h j (Nat.le_succ_of_le hj)

theorem lpm_spec {β : Type} (g : Name → β) (ok : β → Bool) (dflt : β) (name : Name) (n : Nat) :
    (∃ k, k ≤ n ∧ ok (g (name.take k)) = true ∧ (∀ j, k < j → j ≤ n → ok (g (name.take j)) = false) ∧
        lpm g ok dflt name n = g (name.take k)) ∨
    ((∀ j, j ≤ n → ok (g (name.take j)) = false) ∧ lpm g ok dflt name n = dflt) := by
  induction n with
  | zero =>
    cases h : ok (g (name.take 0)) with
    | true => exact .inl ⟨0, Nat.le_refl _, h, fun j h1 h2 => absurd h2 (Nat.not_le.mpr h1), if_pos h⟩
    | false => exact .inr ⟨fun j hj => Nat.le_zero.mp hj ▸ h, lpm_none g ok dflt name 0 fun j hj => Nat.le_zero.mp hj ▸ h⟩
  | succ n ih =>
    cases h : ok (g (name.take (n + 1))) with
    | true => exact .inl ⟨n + 1, Nat.le_refl _, h, fun j h1 h2 => absurd h2 (Nat.not_le.mpr h1), if_pos h⟩
    | false =>
      have hstep : lpm g ok dflt name (n + 1) = lpm g ok dflt name n := by
        simp only [lpm, h, Bool.false_eq_true, if_false]
      have hext : ∀ k, (∀ j, k < j → j ≤ n → ok (g (name.take j)) = false) →
          ∀ j, k < j → j ≤ n + 1 → ok (g (name.take j)) = false := fun k hk j h1 h2 =>
        (Nat.lt_or_eq_of_le h2).elim (fun h3 => hk j h1 (Nat.le_of_lt_succ h3)) fun e => e ▸ h
      rcases ih with ⟨k, hk, hok, hj, he⟩ | ⟨hall, he⟩
      · exact .inl ⟨k, Nat.le_succ_of_le hk, hok, hext k hj, hstep.trans he⟩
      · refine .inr ⟨fun j hj => ?_, hstep.trans he⟩
        rcases Nat.lt_or_eq_of_le hj with h3 | e
        · exact hall j (Nat.le_of_lt_succ h3)
        · exact e ▸ h

/-- a scan towards the root for the first value that is `ok` (`walkUpHops`, `scanStrat`, …) is `lpm` -/
theorem scan_eq_lpm {β : Type} (g : Name → β) (d : β) (ok : β → Bool) (hok : ∀ x, ok x = false → x = d)
    (name : Name) (w : Nat → β) (h0 : w 0 = g [])
    (hs : ∀ k, w (k + 1) = if ok (g (name.take (k + 1))) then g (name.take (k + 1)) else w k) (k : Nat) :
    w k = lpm g ok d name k := by
  induction k with
  | zero =>
    rw [h0]
    simp only [lpm]
    split
    · rfl
    next h => exact hok _ (Bool.eq_false_iff.mpr h)
  | succ k ih => rw [hs, ih]; rfl

/-- `scan_eq_lpm` for a scan over a table, started at the longest prefix `name.take k` the table has: `w` looks the
    prefix up and keeps its value if it is `ok` -/
theorem scan_from_eq_lpm {α β : Type} (π : α → β) (d : β) (ok : β → Bool) (hd : ok d = false) (hok : ∀ x, ok x = false → x = d)
    (l : List (Name × α)) (name : Name) (w : Nat → β)
    (h0 : ∀ o, afind l [] = o → w 0 = o.elim d π)
    (hs : ∀ k o, afind l (name.take (k + 1)) = o → w (k + 1) = o.elim (w k) fun e => if ok (π e) then π e else w k)
    (k : Nat) (hk : k ≤ name.length) (hno : ∀ j, k < j → j ≤ name.length → ahas l (name.take j) = false) :
    w k = lpm (valAt π d l) ok d name name.length := by
  refine (scan_eq_lpm (valAt π d l) d ok hok name w ?_ (fun k => ?_) k).trans
    (lpm_skip _ _ _ _ _ _ hk fun j h1 h2 => by rw [valAt_of_not_has π d (hno j h1 h2)]; exact hd).symm
  · rw [h0 _ rfl]; unfold valAt; cases afind l [] <;> rfl
  · rw [hs k _ rfl]
    cases he : afind l (name.take (k + 1)) with
    | none => rw [valAt_of_none π d he, hd]; rfl
    | some e => rw [valAt_of_afind π d he]; rfl

/-- next hops at each prefix after `op`, given the removal function of the implementation -/
def nhStep (rm : Hops → Nat → Hops) (g : Name → Hops) : Op → Name → Hops
  | .ins m f c, n => if m = n then aset (g m) f c else g n
  | .rem m f, n => if m = n then rm (g m) f else g n
  | .clr m, n => if m = n then [] else g n
  | .sets _ _, n => g n
  | .unsets _, n => g n

/-- strategy at each prefix after `op` -/
def stStep (g : Name → Option Name) : Op → Name → Option Name
  | .sets m s, n => if m = n then some s else g n
  | .unsets m, n => if m = n then none else g n
  | .ins _ _ _, n => g n
  | .rem _ _, n => g n
  | .clr _, n => g n

def Op.name : Op → Name
  | .ins n _ _ | .rem n _ | .clr n | .sets n _ | .unsets n => n

/-- statements use `nhStep`/`stStep`; proofs use that `op` rewrites only the entry of `op.name`, by `onHops`/`onStrat` -/
def Op.onHops (rm : Hops → Nat → Hops) : Op → Hops → Hops
  | .ins _ f c, h => aset h f c
  | .rem _ f, h => rm h f
  | .clr _, _ => []
  | .sets _ _, h => h
  | .unsets _, h => h

def Op.onStrat : Op → Option Name → Option Name
  | .sets _ s, _ => some s
  | .unsets _, _ => none
  | .ins _ _ _, x => x
  | .rem _ _, x => x
  | .clr _, x => x

theorem nhStep_eq (rm : Hops → Nat → Hops) (g : Name → Hops) (op : Op) (n : Name) :
    nhStep rm g op n = if op.name = n then op.onHops rm (g op.name) else g n := by
  cases op with
  | sets m s => exact (ite_apply_eq g m n).symm
  | unsets m => exact (ite_apply_eq g m n).symm
  | _ => rfl

theorem stStep_eq (g : Name → Option Name) (op : Op) (n : Name) :
    stStep g op n = if op.name = n then op.onStrat (g op.name) else g n := by
  cases op with
  | sets m s => rfl
  | unsets m => rfl
  | _ => exact (ite_apply_eq g _ n).symm

theorem step_of_unchanged {rm : Hops → Nat → Hops} {nh : Name → Hops} {st : Name → Option Name} {op : Op}
    (hh : op.onHops rm (nh op.name) = nh op.name) (hs : op.onStrat (st op.name) = st op.name) :
    (∀ n, nh n = nhStep rm nh op n) ∧ (∀ n, st n = stStep st op n) :=
  ⟨fun n => by rw [nhStep_eq, hh, ite_apply_eq], fun n => by rw [stStep_eq, hs, ite_apply_eq]⟩

theorem Op.onHops_nodup {rm : Hops → Nat → Hops} (hrm : ∀ h f, KeysNodup h → KeysNodup (rm h f)) (op : Op) {h : Hops}
    (hn : KeysNodup h) : KeysNodup (op.onHops rm h) := by
  cases op with
  | ins m f c => exact keysNodup_aset hn f c
  | rem m f => exact hrm h f hn
  | clr m => exact List.nodup_nil
  | _ => exact hn

theorem nhStep_rel {rm rm' : Hops → Nat → Hops} {R : Hops → Hops → Prop} {g g' : Name → Hops}
    (hg : ∀ n, R (g n) (g' n)) (haset : ∀ h h' f c, R h h' → R (aset h f c) (aset h' f c))
    (hrm : ∀ h h' f, R h h' → R (rm h f) (rm' h' f)) (hnil : R [] []) (op : Op) (n : Name) :
    R (nhStep rm g op n) (nhStep rm' g' op n) := by
  rw [nhStep_eq, nhStep_eq]
  split
  · cases op with
    | ins m f c => exact haset _ _ f c (hg m)
    | rem m f => exact hrm _ _ f (hg m)
    | clr m => exact hnil
    | _ => exact hg _
  · exact hg n

theorem Spec.nhAt_eq (s : Spec) : s.nhAt = valAt id [] s.nh := by
  funext n; unfold Spec.nhAt valAt; cases afind s.nh n <;> rfl

theorem Spec.nhAt_apply (s : Spec) (op : Op) (n : Name) :
    (s.apply op).nhAt n = nhStep (fun h f => h.filter fun p => !(decide (p.1 = f))) s.nhAt op n := by
  rw [Spec.nhAt_eq, Spec.nhAt_eq]
  cases op with
  | ins m f c => exact valAt_aset id [] s.nh m _ n
  | rem m f => exact valAt_set_or_erase s.nh m _ n
  | clr m => exact valAt_aerase id [] s.nh m n
  | _ => rfl

theorem Spec.stAt_apply (s : Spec) (op : Op) (n : Name) : (s.apply op).stAt n = stStep s.stAt op n := by
  cases op with
  | sets m x => exact afind_aset s.st m n x
  | unsets m => exact afind_aerase s.st m n
  | rem m f => simp only [Spec.apply, Spec.stAt, stStep]
  | _ => rfl

end Ndn.C05
