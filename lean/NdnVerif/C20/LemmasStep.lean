/-
  C20 — every operation of the model preserves the two invariants of the PIT: `Inv1`, and `Inv2` (every pending
  entry sits in an attached node), in one pass over the operations (`Keeps`).
-/
import NdnVerif.C20.LemmasWalk
namespace Ndn.C20

/-- `ts'` has the timers of `ts`, each with its node and instant; the state of timer `j` differs only
    where `K j` allows it (`Resolve.tlen` with `tmr` is one) -/
def TmrLe (K : Nat → Tmr → Tmr → Prop) (ts ts' : List Tmr) : Prop :=
  ts'.length = ts.length ∧ ∀ (j : Nat) (tm : Tmr), ts[j]? = some tm → ∃ tm' : Tmr, ts'[j]? = some tm' ∧
    tm'.node = tm.node ∧ tm'.fire = tm.fire ∧ (tm'.st = tm.st ∨ K j tm tm')

namespace TmrLe

theorem refl (K : Nat → Tmr → Tmr → Prop) (ts : List Tmr) : TmrLe K ts ts :=
  ⟨rfl, fun _ tm h => ⟨tm, h, rfl, rfl, Or.inl rfl⟩⟩

theorem mono {K K' : Nat → Tmr → Tmr → Prop} {ts ts' : List Tmr} (x : TmrLe K ts ts')
    (hk : ∀ j tm tm', K j tm tm' → K' j tm tm') : TmrLe K' ts ts' := by
  refine ⟨x.1, fun j tm hj => ?_⟩
  obtain ⟨tm', h1, h2, h3, h4⟩ := x.2 j tm hj
  exact ⟨tm', h1, h2, h3, h4.imp_right (hk j tm tm')⟩

theorem set {K : Nat → Tmr → Tmr → Prop} {ts : List Tmr} {k : Nat} {t : Tmr} (hk : ts[k]? = some t)
    (st : TSt) (h : K k t { t with st := st }) : TmrLe K ts (ts.set k { t with st := st }) := by
  refine ⟨List.length_set .., fun j tm hj => ?_⟩
  rw [List.getElem?_set]
  split
  · next e =>
    subst e
    rw [hk] at hj; cases hj
    exact ⟨_, if_pos (lt_of_get hk), rfl, rfl, Or.inr h⟩
  · exact ⟨tm, hj, rfl, rfl, Or.inl rfl⟩

theorem trans {K K' : Nat → Prop} {a b c : List Tmr} (x : TmrLe (fun j _ _ => K j) a b)
    (y : TmrLe (fun j _ _ => K' j) b c) : TmrLe (fun j _ _ => K j ∨ K' j) a c := by
  refine ⟨y.1.trans x.1, fun j tm hj => ?_⟩
  obtain ⟨tm1, h1, n1, f1, s1⟩ := x.2 j tm hj
  obtain ⟨tm2, h2, n2, f2, s2⟩ := y.2 j tm1 h1
  refine ⟨tm2, h2, n2.trans n1, f2.trans f1, ?_⟩
  rcases s2 with s2 | s2
  · exact s1.imp (s2.trans ·) Or.inl
  · exact Or.inr (Or.inr s2)

end TmrLe

theorem cancelTimer_le (ts : List Tmr) (k : Nat) : TmrLe (fun j _ _ => j = k) ts (cancelTimer ts k) := by
  rw [cancelTimer]
  split
  · exact TmrLe.refl _ ts
  · next t hk =>
    split
    · exact TmrLe.set hk _ rfl
    · exact TmrLe.refl _ ts

theorem cancelAll_le : ∀ (ps : List Pend) (ts : List Tmr),
    TmrLe (fun j _ _ => ∃ p ∈ ps, p.tid = j) ts (cancelAll ts ps) := by
  intro ps
  induction ps with
  | nil => exact fun ts => TmrLe.refl _ ts
  | cons p rest ih =>
    intro ts
    refine ((cancelTimer_le ts p.tid).trans (ih _)).mono fun j _ _ h => ?_
    rcases h with rfl | ⟨q, hq, hqj⟩
    · exact ⟨p, List.mem_cons_self, rfl⟩
    · exact ⟨q, List.mem_cons_of_mem _ hq, hqj⟩

/-- every pending entry sits in an ATTACHED node (so arriving Data finds it): the PIT is `Live` for the emptiness
    test of its `DeleteIf` -/
def Inv2 (s : St) : Prop := Live isEmptyList s.pit

namespace Inv2

theorem att {s : St} (I2 : Inv2 s) (i : Nat) (e : Pend) (he : pendingAt s i e) : Att s.pit i := by
  obtain ⟨l, hl, he⟩ := he
  obtain ⟨n, hn, rfl⟩ := valAt_eq_some.mp hl
  exact I2 i n hn (isEmptyList_false_iff.mpr (List.ne_nil_of_mem he))

theorem init : Inv2 St.init := Live.newTrie rfl

end Inv2

/-- what every operation does for the two invariants of the PIT: `s'` satisfies `Inv1`, and `Inv2` if `s` did
    (`Inv2` is kept by itself; only Data needs it, to find every entry) -/
def Keeps (s s' : St) : Prop := Inv1 s' ∧ (Inv2 s → Inv2 s')

namespace Keeps

theorem refl {s : St} (I : Inv1 s) : Keeps s s := ⟨I, id⟩

/-- The PIT loses the entries `G` selects (`h1`, then `DeleteIf` at `n`), each gets a callback of kind `k`, and a timer
    changes its state only if its entry is among them: cancelled (first disjunct of `htm`), or because it is the timer
    that is running (second).  `hG`: what the callback kind demands of a selected entry. -/
theorem of_removes {s s' : St} (I : Inv1 s) {G : Nat → Pend → Prop} {h1 : PHeap} {n : Nat} {gone : List Pend}
    {k : Kind} (R : Removes G s.pit h1 gone)
    (hG : ∀ (j : Nat) (e : Pend), pendingAt s j e → G j e → (k = .timeout → e.deadline ≤ s.now) ∧
      ∀ (nm : Name) (dg : Bytes), k = .data nm dg → ∃ nn : Name, nameAt s.pit j = some nn ∧
        (if e.cbp then Spec.isPre nn nm = true else nn = nm) ∧ (match e.dig with | some d => d = dg | none => True))
    (hnow : s'.now = s.now) (hex : s'.exprs = s.exprs) (hpit : s'.pit = prune isEmptyList h1 n)
    (hcbs : s'.cbs = s.cbs ++ gone.map fun p => (⟨p.id, k, s.now⟩ : Cb))
    (htm : TmrLe (fun j _ _ => (∃ p ∈ gone, p.tid = j) ∨ ∀ (i : Nat) (e : Pend), pendingAt s i e → e.id = j → G i e)
      s.timers s'.timers) :
    Keeps s s' := by
  refine ⟨I.resolve (new := gone.map fun p => (⟨p.id, k, s.now⟩ : Cb)) ?_,
    fun I2 => by rw [Inv2, hpit]; exact (R.live I2).prune n⟩
  have pend' : ∀ (i : Nat) (e : Pend), pendingAt s' i e ↔ pendH h1 i e := by
    intro i e; rw [pendingAt_iff, hpit]; exact pend_of_core (prune_core _ _ n) i e
  have sh' : Shrink s.pit s'.pit := by rw [hpit]; exact R.shrink.trans (shrink_of_core (prune_core _ _ n))
  refine ⟨hnow, hex, hcbs, by rw [hpit]; exact prune_wf _ _ _ (R.wf I.wf), sh'.name, sh'.sub, ?_, ?_, ?_, htm.1,
    (htm.mono fun j _ _ h i e he hid => ?_).2⟩
  · intro i e he
    exact (R.kept_or_out he).imp (pend' i e).mpr fun h' => ⟨_, List.mem_map.mpr ⟨e, h', rfl⟩, rfl⟩
  · intro c hc
    obtain ⟨e, he, rfl⟩ := List.mem_map.mp hc
    obtain ⟨j, hp, g⟩ := (R.mem e).mp he
    exact ⟨rfl, j, e, hp, rfl, fun h' => ((R.pend j e).mp ((pend' j e).mp h')).2 g, hG j e hp g⟩
  · rw [List.map_map]; exact R.nodup I.uniqH
  · obtain ⟨he1, ng⟩ := (R.pend i e).mp ((pend' i e).mp he)
    rcases h with ⟨p, hp, hpj⟩ | h
    · obtain ⟨j0, hpp, _⟩ := (R.mem p).mp hp
      exact R.out_gone I.uniqH hp ((pend' i e).mp he) (by rw [hid, ← hpj, I.tid_eq hpp])
    · exact ng (h i e he1 hid)

end Keeps

/-- onData takes out of the PIT exactly the pending entries whose Interest the Data satisfies -/
theorem data_removes {s : St} (I1 : Inv1 s) (I2 : Inv2 s) (nm : Name) (dg : Bytes) :
    Removes (fun _ e => ∃ x : Expr, s.exprs[e.id]? = some x ∧ Spec.satisfies ⟨x.node, x.final, x.cbp, x.dig, x.t, x.life⟩ nm dg = true) s.pit
      (dataWalk nm.length dg (depOf s.pit (prefixMatch s.pit nm) + 1) s.pit (prefixMatch s.pit nm) []).1
      (dataWalk nm.length dg (depOf s.pit (prefixMatch s.pit nm) + 1) s.pit (prefixMatch s.pit nm) []).2 := by
  obtain ⟨out, ho, R⟩ := dataWalk_removes nm.length dg (depOf s.pit (prefixMatch s.pit nm) + 1) s.pit (prefixMatch s.pit nm) []
  rw [ho, List.nil_append]
  refine R.congr fun j e he => ?_
  obtain ⟨nk, hk, hrest⟩ := prefixMatch_name I1.wf nm
  obtain ⟨nj, hnj, hdesc⟩ := I2.att j e he
  rw [I1.sat_iff he, nameAt, hnj, depOf_get hnj, I1.wf.dep_eq j nj hnj]
  constructor
  · -- a visited node is named by a prefix of `nk.name`, itself a prefix of `nm`: `satisfiedBy_iff`
    rintro ⟨hj, hs⟩
    obtain ⟨r', hr'⟩ := anc_dep I1.wf _ _ j nj nk hj hnj hk
    exact ⟨_, rfl, (satisfiedBy_iff (r := r' ++ _) (by rw [← List.append_assoc, hr', hrest]) dg e).mp hs⟩
  · -- the entry's node is attached (`Inv2`) and named by a prefix of `nm`, so the walk visits it: `att_on_walk`
    rintro ⟨_, ⟨rfl⟩, hs⟩
    obtain ⟨r, hr⟩ : ∃ r : Name, nj.name ++ r = nm := by
      have h1 := hs.1
      split at h1
      · exact (isPre_iff _ _).mp h1
      · exact ⟨[], (List.append_nil _).trans h1⟩
    have hwalk := att_on_walk I1.wf hnj hdesc r
    rw [hr] at hwalk
    exact ⟨hwalk, (satisfiedBy_iff hr dg e).mpr hs⟩

theorem data_keeps {s : St} (I : Inv1 s) (I2 : Inv2 s) (nm : Name) (dg : Bytes) : Keeps s (step s (.data nm dg)).1 := by
  dsimp only [step]
  have R := data_removes I I2 nm dg
  generalize dataWalk nm.length dg (depOf s.pit (prefixMatch s.pit nm) + 1) s.pit (prefixMatch s.pit nm) [] = r at R ⊢
  refine Keeps.of_removes (k := .data nm dg) I R ?_ rfl rfl rfl rfl
    ((cancelAll_le r.2 s.timers).mono fun _ _ _ => Or.inl)
  intro j e he g
  refine ⟨nofun, fun nm' dg' hkd => ?_⟩
  cases hkd
  exact (I.sat_iff he nm dg).mp g

namespace Inv1

theorem same_pit_keeps {s s' : St} (I : Inv1 s) (hp : s'.pit = s.pit) (he : s'.exprs = s.exprs)
    (hc : s'.cbs = s.cbs) (hn : s.now ≤ s'.now)
    (ht : TmrLe (fun _ tm tm' => tm.st = .armed ∧ tm'.st = .started ∧ tm'.fire ≤ s'.now) s.timers s'.timers) :
    Keeps s s' := by
  refine ⟨?_, fun l => by rw [Inv2, hp]; exact l⟩
  obtain ⟨now', pit', fib', timers', rx', exprs', cbs', hs'⟩ := s'
  dsimp only at hp he hc hn ht
  subst hp he hc
  refine ⟨I.wf, I.len.trans ht.1.symm, I.exid, fun i e hpe => ?_, I.nodup, I.cbs_nodup, I.cbs_done, I.cover, I.tout,
    I.dsat⟩
  obtain ⟨tm, h2, h3, h4, h5⟩ := I.timer hpe
  obtain ⟨x, h6⟩ := I.record hpe
  obtain ⟨tm', g1, g2, g3, g4⟩ := ht.2 e.id tm h2
  refine ⟨I.tid_eq hpe, tm', x, g1, g2.trans h3, g3.trans h4, ?_, h6⟩
  rcases g4 with g4 | ⟨_, g5, g6⟩
  · rw [g4, g3]
    exact h5.imp_right fun ⟨a, b⟩ => ⟨a, Nat.le_trans b hn⟩
  · exact Or.inr ⟨g5, g6⟩

/-- Express after `MatchAlways`, for a heap `h1` and a node `n` in variables (`g hnode hname` are what
    `matchAlways_spec` gives, `ha` is `matchAlways_att`), so that the proof never sees `step`. -/
theorem insert_keeps {s s' : St} (I : Inv1 s) {h1 : PHeap} {n : Nat} {nn : TNode (List Pend)} {x : Expr} {e0 : Pend}
    (g : Grows [] s.pit h1) (hnode : h1[n]? = some nn) (hname : nn.name = x.node) (ha : Att h1 n)
    (hid : x.id = s.exprs.length) (heid : e0.id = s.exprs.length) (hetid : e0.tid = e0.id)
    (hdl : e0.deadline = x.t + x.life) (hcb : x.cbp = e0.cbp) (hdg : x.dig = e0.dig)
    (hnow : s'.now = s.now) (hcbs : s'.cbs = s.cbs)
    (hpit : s'.pit = setVal h1 n (getVal [] h1 n ++ [e0]))
    (htm : s'.timers = s.timers ++ [⟨e0.deadline + margin, n, .armed⟩])
    (hex : s'.exprs = s.exprs ++ [x]) : Keeps s s' := by
  refine ⟨?_, fun I2 => by rw [Inv2, hpit]; exact (I2.grows rfl g).setVal fun _ => ha⟩
  have oldlt : ∀ (i : Nat) (e : Pend), pendH s.pit i e → i < s.pit.length ∧ e.id < s.exprs.length := by
    intro i e he
    obtain ⟨x, hx, _⟩ := I.record he
    obtain ⟨l, hl, _⟩ := he
    obtain ⟨y, hy, _⟩ := valAt_eq_some.mp hl
    exact ⟨lt_of_get hy, lt_of_get hx⟩
  have pv : ∀ i : Nat, getVal [] s'.pit i = if i = n then getVal [] s.pit n ++ [e0] else getVal [] s.pit i := by
    intro i; rw [hpit, getVal_setVal [] hnode, g.getVal, g.getVal]
  have pnew : ∀ (i : Nat) (e : Pend), pendingAt s' i e ↔ pendingAt s i e ∨ (i = n ∧ e = e0) := by
    intro i e
    rw [pendingAt_iff, pendingAt_iff, ← getVal_mem, pv]
    split
    · next h => rw [List.mem_append, List.mem_singleton, getVal_mem, h]; exact or_congr_right (and_iff_right rfl).symm
    · next h => rw [getVal_mem]; exact (or_iff_left fun h' => h h'.1).symm
  have exold : ∀ (k : Nat) (y : Expr), s.exprs[k]? = some y → s'.exprs[k]? = some y :=
    fun k y hk => by rw [hex, List.getElem?_append_left (lt_of_get hk)]; exact hk
  have elen : s'.exprs.length = s.exprs.length + 1 := by rw [hex, List.length_append]; rfl
  refine ⟨hpit ▸ setVal_wf (g.wf I.wf) _ _, by rw [elen, htm, List.length_append, I.len]; rfl, ?_, ?_, ?_, hcbs ▸ I.cbs_nodup,
    ?_, ?_, ?_, ?_⟩
  · intro k y hk
    rw [hex] at hk
    rcases get_push hk with hk | ⟨rfl, rfl⟩
    · exact I.exid k y hk
    · exact hid
  · intro i e he
    rcases (pnew i e).mp he with hold | ⟨rfl, rfl⟩
    · have h1' := I.tid_eq hold
      obtain ⟨tm, h2, h3, h4, h5⟩ := I.timer hold
      obtain ⟨y, h6, h7, h8, h9, h10⟩ := I.record hold
      refine ⟨h1', tm, y, by rw [htm, List.getElem?_append_left (lt_of_get h2)]; exact h2, h3, h4, hnow ▸ h5,
        exold _ y h6, h7, h8, h9, ?_⟩
      rw [hpit, nameAt_setVal, nameAt_of_core (g.core i (oldlt i e hold).1)]; exact h10
    · refine ⟨hetid, _, x, by rw [htm, heid, I.len]; exact List.getElem?_concat_length, rfl, rfl, Or.inl rfl,
        by rw [hex, heid]; exact List.getElem?_concat_length, hdl, hcb, hdg, ?_⟩
      rw [hpit, nameAt_setVal, nameAt, hnode, ← hname]; rfl
  · intro i l hl'
    have := (getVal_eq [] s'.pit i).trans (congrArg (·.getD []) hl')
    rw [pv] at this
    subst this
    split
    · rw [List.map_append, List.nodup_append]
      refine ⟨I.uniqH.nodup_getVal _, List.nodup_cons.mpr ⟨nofun, List.nodup_nil⟩, ?_⟩
      intro a ha b hb hab
      obtain ⟨e1, he1, rfl⟩ := List.mem_map.mp ha
      cases List.mem_singleton.mp hb
      exact Nat.lt_irrefl _ (heid ▸ hab ▸ (oldlt _ e1 (getVal_mem.mp he1)).2)
    · exact I.uniqH.nodup_getVal i
  · intro c hc
    rw [hcbs] at hc
    have hlt := (I.cbs_done c hc).1
    refine ⟨by rw [elen]; exact Nat.lt_succ_of_lt hlt, fun i e he => ?_⟩
    rcases (pnew i e).mp he with hold | ⟨_, rfl⟩
    · exact (I.cbs_done c hc).2 i e hold
    · exact heid ▸ Nat.ne_of_gt hlt
  · intro id hid'
    rw [elen] at hid'
    rw [hcbs]
    by_cases hlt' : id < s.exprs.length
    · exact (I.cover id hlt').imp_right fun ⟨i, e, h1, h2⟩ => ⟨i, e, (pnew i e).mpr (Or.inl h1), h2⟩
    · exact Or.inr ⟨n, e0, (pnew _ _).mpr (Or.inr ⟨rfl, rfl⟩),
        heid.trans (Nat.le_antisymm (Nat.le_of_not_lt hlt') (Nat.le_of_lt_succ hid'))⟩
  · intro c hc hk
    obtain ⟨y, h1, h2⟩ := I.tout c (hcbs ▸ hc) hk
    exact ⟨y, exold _ y h1, h2⟩
  · intro c hc nm dg hk
    obtain ⟨y, h1, h2⟩ := I.dsat c (hcbs ▸ hc) nm dg hk
    exact ⟨y, exold _ y h1, h2⟩

theorem express_keeps {s : St} (I : Inv1 s) (final : Name) (cbp : Bool) (life : Option Nat) :
    Keeps s (step s (.express final cbp life)).1 := by
  dsimp only [step]
  split
  · exact .refl I
  · obtain ⟨g, nn, hnode, hname, _⟩ := matchAlways_spec ([] : List Pend) I.wf (splitDigest final).2
    exact I.insert_keeps (x := ⟨_, final, _, cbp, _, _, _⟩) g hnode hname (matchAlways_att [] I.wf _) (hid := rfl)
      (heid := rfl) (hetid := I.len.symm) (hdl := rfl) (hcb := rfl) (hdg := rfl) (hnow := rfl) (hcbs := rfl) (hpit := rfl)
      (htm := rfl) (hex := rfl)

theorem express {s : St} (I : Inv1 s) (final : Name) (cbp : Bool) (life : Option Nat) :
    Inv1 (step s (.express final cbp life)).1 :=
  (I.express_keeps final cbp life).1

theorem nack_keeps {s : St} (I : Inv1 s) (name : Name) : Keeps s (step s (.nack name)).1 := by
  dsimp only [step]
  cases exactMatch s.pit (splitDigest name).2 with
  | none => exact .refl I
  | some n =>
    exact Keeps.of_removes (k := .nack) I
      (Removes.filter s.pit n (gone := fun p => decide (p.dig = (splitDigest name).1)) fun _ => (Bool.not_not _).symm)
      (fun _ _ _ _ => ⟨nofun, nofun⟩) rfl rfl rfl rfl ((cancelAll_le _ _).mono fun _ _ _ => Or.inl)

theorem timerRun_keeps {s : St} (I : Inv1 s) (k : Nat) : Keeps s (step s (.timerRun k)).1 := by
  dsimp only [step]
  cases hk : s.timers[k]? with
  | none => exact .refl I
  | some t =>
    dsimp only
    by_cases hst : t.st = .started
    · rw [if_pos hst]
      refine Keeps.of_removes (k := .timeout) I
        (Removes.filter s.pit t.node (keep := fun p => decide (s.now < p.deadline)) fun _ => rfl)
        (fun _ _ _ g => ⟨fun _ => by simpa using g.2, nofun⟩) rfl rfl rfl rfl (TmrLe.set hk .fired (Or.inr ?_))
      -- the entry of timer `k`, if still pending, sits in the captured node and is overdue
      intro i e he hid
      obtain ⟨tm', h2, h3, h4, h5⟩ := I.timer he
      rw [hid, hk] at h2; cases h2
      refine ⟨h3.symm, ?_⟩
      rcases h5 with h5 | ⟨_, h5⟩
      · rw [hst] at h5; cases h5
      · rw [Bool.not_eq_true', decide_eq_false_iff_not, Nat.not_lt]
        exact Nat.le_trans (Nat.le_add_right _ _) (h4 ▸ h5)
    · rw [if_neg hst]; exact .refl I

theorem timerRun {s : St} (I : Inv1 s) (k : Nat) : Inv1 (step s (.timerRun k)).1 := (I.timerRun_keeps k).1

theorem step_keeps {s : St} (I : Inv1 s) (I2 : Inv2 s) (op : Op) : Keeps s (step s op).1 := by
  cases op with
  | express final cbp life => exact I.express_keeps final cbp life
  | data name dig => exact data_keeps I I2 name dig
  | nack name => exact I.nack_keeps name
  | setTime t => exact I.same_pit_keeps rfl rfl rfl (Nat.le_max_left _ _) (TmrLe.refl _ _)
  | timerStart k =>
    dsimp only [step]
    cases hk : s.timers[k]? with
    | none => exact .refl I
    | some t =>
      dsimp only
      by_cases hc : t.st = .armed ∧ t.fire ≤ s.now
      · rw [if_pos hc]
        exact I.same_pit_keeps rfl rfl rfl (Nat.le_refl _) (TmrLe.set hk .started ⟨hc.1, rfl, hc.2⟩)
      · rw [if_neg hc]; exact .refl I
  | timerRun k => exact I.timerRun_keeps k
  | _ =>
    -- registrations, incoming Interests and replies touch neither PIT nor timers nor logs
    dsimp only [step]
    repeat' split
    all_goals exact I.same_pit_keeps rfl rfl rfl (Nat.le_refl _) (TmrLe.refl _ _)

end Inv1

def Out.callbacks : Out → List Cb
  | .cbs l => l
  | _ => []

theorem step_callbacks (s : St) (op : Op) : (step s op).1.cbs = s.cbs ++ (step s op).2.callbacks ∧
    ∃ (l : List Pend) (k : Kind), (step s op).2.callbacks = l.map fun p => (⟨p.id, k, s.now⟩ : Cb) := by
  have quiet : ∀ {s' : St} {o : Out}, s'.cbs = s.cbs → o.callbacks = [] → s'.cbs = s.cbs ++ o.callbacks ∧
      ∃ (l : List Pend) (k : Kind), o.callbacks = l.map fun p => (⟨p.id, k, s.now⟩ : Cb) :=
    fun h1 h2 => ⟨by rw [h1, h2, List.append_nil], [], .nack, h2⟩
  cases op with
  | data name dig => exact ⟨rfl, _, _, rfl⟩
  | nack name =>
    dsimp only [step]
    split
    · exact quiet rfl rfl
    · exact ⟨rfl, _, _, rfl⟩
  | timerRun k =>
    dsimp only [step]
    split
    · exact quiet rfl rfl
    · split
      · exact ⟨rfl, _, _, rfl⟩
      · exact quiet rfl rfl
  | _ =>
    -- only arrivals and timeouts make callbacks
    dsimp only [step]
    repeat' split
    all_goals exact quiet rfl rfl

theorem inv12_run {s : St} (I1 : Inv1 s) (I2 : Inv2 s) (ops : List Op) : Inv1 (run s ops) ∧ Inv2 (run s ops) :=
  run_inv (P := fun s => Inv1 s ∧ Inv2 s) (fun _ op I => (I.1.step_keeps I.2 op).imp_right (· I.2)) ⟨I1, I2⟩ ops

theorem Inv1.of_run (ops : List Op) : Inv1 (run St.init ops) := (inv12_run Inv1.init Inv2.init ops).1

end Ndn.C20
