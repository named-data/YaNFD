/-
  C20 — property theorems.  Every theorem is about EVERY history: `run St.init ops` for an
  arbitrary list `ops` of the model's atomic operations (express / data / nack / clock advance /
  timer goroutine start / timer goroutine run / attach / detach / incoming Interest / reply), i.e.
  every interleaving of arrivals and timer expirations the engine's lock admits, with no bound on
  the length of the history, the number of pending Interests or the depth of names.

  The ghost logs `exprs` (one record per successful Express) and `cbs` (one record per callback
  invocation) are what the theorems talk about; `log_faithful_*` show that these logs are exactly
  the outputs of the operations.
-/
import NdnVerif.C20.LemmasStep
import NdnVerif.C20.LemmasFib
namespace Ndn.C20

/-- the Interest record as the specification sees it -/
def Expr.toSpec (x : Expr) : Spec.Int := ⟨x.node, x.final, x.cbp, x.dig, x.t, x.life⟩

/-- the callback log grows by exactly the callbacks the operation reports -/
theorem log_faithful_cbs (s : St) (op : Op) : (step s op).1.cbs = s.cbs ++ (step s op).2.callbacks :=
  (step_callbacks s op).1

/-- a callback is logged with the instant at which the operation runs -/
theorem log_faithful_time (s : St) (op : Op) : ∀ c ∈ (step s op).2.callbacks, c.t = s.now := by
  obtain ⟨l, k, h⟩ := (step_callbacks s op).2
  intro c hc
  rw [h] at hc
  obtain ⟨p, _, rfl⟩ := List.mem_map.mp hc
  rfl

/-- `Express` succeeds exactly when the name is not empty, and then (and only then) a record with a
    fresh id, the current instant and the requested lifetime (default 4 s) is logged -/
theorem log_faithful_express (s : St) (final : Name) (cbp : Bool) (life : Option Nat) :
    (final = [] → (step s (.express final cbp life)) = (s, .exprErr)) ∧
    (final ≠ [] → (step s (.express final cbp life)).2 = .expressed s.exprs.length ∧
      (step s (.express final cbp life)).1.exprs = s.exprs ++
        [⟨s.exprs.length, final, (splitDigest final).2, cbp, (splitDigest final).1, s.now,
          life.getD defaultLife⟩]) := by
  constructor
  · rintro rfl; rfl
  · intro h
    dsimp only [step]
    cases hl : final.getLast? with
    | none => exact absurd (List.getLast?_eq_none_iff.mp hl) h
    | some last => exact ⟨rfl, rfl⟩

/-- **at most once**: in every history, no expressed Interest has its callback invoked twice
    (whatever the kinds of the two invocations, whichever interleaving of Data, Nack and timers) -/
theorem callback_at_most_once (ops : List Op) : ((run St.init ops).cbs.map (·.id)).Nodup :=
  (Inv1.of_run ops).cbs_nodup

example : ((run St.init [.express [⟨8, [97]⟩] false (some 100), .express [⟨8, [97]⟩] true none,
    .data [⟨8, [97]⟩] [1], .data [⟨8, [97]⟩] [1], .setTime (100 + margin), .timerStart 0, .timerRun 0]).cbs.map (·.id))
    = [0, 1] := by decide

/-- **exactly once after the deadline**: in every history, once the clock has passed
    `express instant + lifetime + margin` of an expressed Interest and every timer that is due has
    run (or was cancelled), its callback has been invoked — exactly once -/
theorem callback_exactly_once_after_deadline (ops : List Op) (id : Nat) (x : Expr)
    (hx : (run St.init ops).exprs[id]? = some x)
    (hquiet : ∀ (k : Nat) (tm : Tmr), (run St.init ops).timers[k]? = some tm → tm.fire ≤ (run St.init ops).now →
      tm.st = .fired ∨ tm.st = .cancelled)
    (hlate : x.t + x.life + margin ≤ (run St.init ops).now) :
    ∃ c ∈ (run St.init ops).cbs, c.id = id ∧ ∀ c' ∈ (run St.init ops).cbs, c'.id = id → c' = c := by
  have I := Inv1.of_run ops
  rcases I.cover id (lt_of_get hx) with ⟨c, hc, hid⟩ | ⟨i, e, he, hid⟩
  · refine ⟨c, hc, hid, ?_⟩
    intro c' hc' hid'
    exact inj_of_nodup_map _ I.cbs_nodup hc' hc (hid'.trans hid.symm)
  · exfalso
    obtain ⟨tm, h2, _, h4, h5⟩ := I.timer he
    obtain ⟨x', h6, h7, _⟩ := I.record he
    rw [hid, hx] at h6; cases h6
    rw [hid] at h2
    have := hquiet id tm h2 (by rw [h4, h7]; exact hlate)
    rcases h5 with h5 | ⟨h5, _⟩ <;> rcases this with h | h <;> rw [h] at h5 <;> cases h5

example : ∃ c ∈ (run St.init [.express [⟨8, [97]⟩] false (some 100), .setTime (100 + margin), .timerStart 0,
    .timerRun 0]).cbs, c.id = 0 ∧ c.kind = .timeout := by decide

/-- **Data satisfies**: in every history, every callback invoked with Data was expressed for a name
    the Data satisfies: the same name, or a prefix of the Data name only if CanBePrefix was set, and
    the implicit digest, if one was requested, equals the Data's digest -/
theorem data_callback_satisfies (ops : List Op) : ∀ c ∈ (run St.init ops).cbs, ∀ (nm : Name) (dg : Bytes),
    c.kind = .data nm dg → ∃ x : Expr, (run St.init ops).exprs[c.id]? = some x ∧
      Spec.satisfies x.toSpec nm dg = true :=
  (Inv1.of_run ops).dsat

example : (run St.init [.express [⟨8, [97]⟩] true (some 100), .express [⟨8, [97]⟩] false (some 100),
    .data [⟨8, [97]⟩, ⟨8, [98]⟩] [1]]).cbs = [⟨0, .data [⟨8, [97]⟩, ⟨8, [98]⟩] [1], 0⟩] := by decide

/-- **timeout not early**: in every history, a callback invoked with a timeout happens no earlier
    than the Interest's lifetime after it was expressed -/
theorem timeout_not_early (ops : List Op) : ∀ c ∈ (run St.init ops).cbs, c.kind = .timeout →
    ∃ x : Expr, (run St.init ops).exprs[c.id]? = some x ∧ Spec.timeoutOk x.toSpec c.t = true := by
  intro c hc hk
  obtain ⟨x, h1, h2⟩ := (Inv1.of_run ops).tout c hc hk
  exact ⟨x, h1, (timeoutOk_iff ..).mpr h2⟩

example : (run St.init [.express [⟨8, [97]⟩] false (some 100), .setTime (100 + margin), .timerStart 0,
    .timerRun 0]).cbs = [⟨0, .timeout, 100 + margin⟩] := by decide

/-- **resolves all**: in every history, when Data arrives, EVERY expressed Interest that has not been
    resolved yet and that the Data satisfies gets its callback invoked by that very arrival, with
    that Data (so nested names, duplicates and earlier deletions of trie nodes cannot hide a pending
    Interest from the Data) -/
theorem data_resolves_all_satisfied (ops : List Op) (nm : Name) (dg : Bytes) (id : Nat) (x : Expr)
    (hx : (run St.init ops).exprs[id]? = some x)
    (hpend : ∀ c ∈ (run St.init ops).cbs, c.id ≠ id)
    (hsat : Spec.satisfies x.toSpec nm dg = true) :
    ∃ c ∈ (step (run St.init ops) (.data nm dg)).2.callbacks, c.id = id ∧ c.kind = .data nm dg := by
  obtain ⟨I1, I2⟩ := inv12_run Inv1.init Inv2.init ops
  generalize run St.init ops = s at *
  rcases I1.cover id (lt_of_get hx) with ⟨c, hc, hid⟩ | ⟨i, e, he, hid⟩
  · exact absurd hid (hpend c hc)
  · exact ⟨⟨e.id, .data nm dg, s.now⟩,
      List.mem_map.mpr ⟨e, ((data_removes I1 I2 nm dg).mem e).mpr ⟨i, he, x, hid ▸ hx, hsat⟩, rfl⟩, hid, rfl⟩

example : (step (run St.init [.express [⟨8, [97]⟩, ⟨8, [98]⟩] false (some 100), .express [⟨8, [97]⟩] true none,
    .express [⟨8, [97]⟩] false none, .data [⟨8, [99]⟩] [1], .nack [⟨8, [97]⟩]])
    (.data [⟨8, [97]⟩, ⟨8, [98]⟩] [1])).2.callbacks.map (·.id) = [0] := by decide

/-- the ghost handler table `hs` follows the registration history as the specification defines it:
    `AttachHandler(p)` is refused exactly when a handler is already attached at `p` and otherwise
    adds `(p, handler)`; `DetachHandler(p)` fails exactly when none is attached at `p` and otherwise
    removes the handler of `p` and of no other prefix -/
theorem handler_table_follows_history (ops : List Op) (p : Name) (hid : Nat) :
    ((step (run St.init ops) (.attach p hid)).2 = .dup ↔ p ∈ (run St.init ops).hs.map (·.1)) ∧
    ((step (run St.init ops) (.attach p hid)).2 ≠ .dup →
      (step (run St.init ops) (.attach p hid)).1.hs = (run St.init ops).hs ++ [(p, hid)]) ∧
    ((step (run St.init ops) (.detach p)).2 = .err ↔ p ∉ (run St.init ops).hs.map (·.1)) ∧
    ((step (run St.init ops) (.detach p)).2 ≠ .err →
      (step (run St.init ops) (.detach p)).1.hs = (run St.init ops).hs.filter fun e => !decide (e.1 = p)) := by
  have I := Inv3.init.run ops
  refine ⟨(I.attach p hid).2, ?_, (I.detach p).2, ?_⟩
  · dsimp only [step]
    split
    · intro h; exact absurd rfl h
    · intro _; rfl
  · dsimp only [step]
    split
    · intro h; exact absurd rfl h
    · split
      · intro h; exact absurd rfl h
      · intro _; rfl

/-- **handler is the longest prefix**: in every registration history, an incoming Interest is
    handed to the handler attached at the longest prefix of its name among the attached prefixes
    (and to none iff no attached prefix matches) -/
theorem handler_is_longest_prefix (ops : List Op) (name : Name) (life : Option Nat) :
    ∃ dl r : Nat, (step (run St.init ops) (.interest name life)).2 =
      .handled ((Spec.lpm (run St.init ops).hs name).map (·.2)) dl r := by
  have I := Inv3.init.run ops
  dsimp only [step]
  rw [lpm_correct I name]
  cases Spec.lpm (run St.init ops).hs name <;> exact ⟨_, _, rfl⟩

example : (step (run St.init [.attach [⟨8, [97]⟩] 1, .attach [⟨8, [97]⟩, ⟨8, [98]⟩] 2, .attach [] 3,
    .detach [⟨8, [97]⟩]]) (.interest [⟨8, [97]⟩, ⟨8, [98]⟩, ⟨8, [99]⟩] none)).2 = .handled (some 2) defaultLife 0 ∧
    (step (run St.init [.attach [⟨8, [97]⟩] 1, .attach [⟨8, [97]⟩, ⟨8, [98]⟩] 2, .attach [] 3,
    .detach [⟨8, [97]⟩]]) (.interest [⟨8, [97]⟩, ⟨8, [99]⟩] none)).2 = .handled (some 3) defaultLife 0 := by
  decide

/-- the deadline given to the handler is the arrival instant plus the Interest's lifetime (4 s if
    it carries none) -/
theorem interest_deadline (s : St) (name : Name) (life : Option Nat) (h : Option Nat) (dl r : Nat)
    (ho : (step s (.interest name life)).2 = .handled h dl r) : dl = s.now + life.getD defaultLife := by
  dsimp only [step] at ho
  split at ho <;> cases ho <;> rfl

/-- **reply only before the deadline**: `Reply` transmits only if the clock has not passed the
    deadline of that Interest -/
theorem reply_only_before_deadline (s : St) (r : Nat) (x : Rx) (hx : s.rx[r]? = some x)
    (h : (step s (.reply r)).2 = .sent) : Spec.replyOk x.deadline s.now = true := by
  dsimp only [step] at h
  rw [hx] at h
  dsimp only at h
  split at h
  · cases h
  · next hlt => exact (replyOk_iff ..).mpr (Nat.le_of_not_lt hlt)

example : (step (run St.init [.attach [] 7, .interest [⟨8, [97]⟩] (some 5), .setTime 5]) (.reply 0)).2 = .sent ∧
    (step (run St.init [.attach [] 7, .interest [⟨8, [97]⟩] (some 5), .setTime 6]) (.reply 0)).2 = .late := by
  decide

end Ndn.C20
