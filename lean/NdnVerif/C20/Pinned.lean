/-
  C20 — the trie deletion and the three call sites AS THEY WERE on the pinned tree (before the
  `fix:` commits for F-20a / F-20b).  Used only (a) by the driver when VERIF_C20_PINNED=1, to
  validate this reading of the defective code against the unfixed tree, and (b) for the negative
  witnesses in PinnedWitness.lean.  Core Lean only.
-/
import NdnVerif.C20.Model
namespace Ndn.C20

/-- pinned `DeleteIf`: unlinks the node WITH its subtree, by key (not identity), clears the
    children of the root -/
def deleteIfU {V : Type} (pred : V → Bool) : Nat → Heap V → Nat → Heap V
  | 0, h, _ => h
  | fuel + 1, h, i =>
    match h[i]? with
    | none => h
    | some n =>
      if !pred n.val then h
      else
        let h1 := h.set i { n with chd := [] }
        match n.par with
        | none => h1
        | some p =>
          match h1[p]? with
          | none => h1
          | some pn =>
            let c' := aerase n.key pn.chd
            let h2 := h1.set p { pn with chd := c' }
            if c'.isEmpty then deleteIfU pred fuel h2 p else h2

/-- pinned `Delete`: unconditional, and the emptied parent is deleted whatever its value -/
def deleteU {V : Type} : Nat → Heap V → Nat → Heap V
  | 0, h, _ => h
  | fuel + 1, h, i =>
    match h[i]? with
    | none => h
    | some n =>
      let h1 := h.set i { n with chd := [] }
      match n.par with
      | none => h1
      | some p =>
        match h1[p]? with
        | none => h1
        | some pn =>
          let c' := aerase n.key pn.chd
          let h2 := h1.set p { pn with chd := c' }
          if c'.isEmpty then deleteU fuel h2 p else h2

def stepPinned (s : St) : Op → St × Out
  | .data name dig =>
    let n := prefixMatch s.pit name
    let (pit1, sat) := dataWalk name.length dig (depOf s.pit n + 1) s.pit n []
    let pit2 := deleteIfU isEmptyList (depOf pit1 n + 1) pit1 n
    let cbs := sat.map fun p => (⟨p.id, .data name dig, s.now⟩ : Cb)
    ({ s with pit := pit2, timers := cancelAll s.timers sat, cbs := s.cbs ++ cbs }, .cbs cbs)
  | .nack name =>
    match exactMatch s.pit name with
    | none => (s, .cbs [])
    | some n =>
      let lst := getVal [] s.pit n
      let cbs := lst.map fun p => (⟨p.id, .nack, s.now⟩ : Cb)
      let pit2 := deleteU (depOf s.pit n + 1) s.pit n     -- the value list stays in the node
      ({ s with pit := pit2, timers := cancelAll s.timers lst, cbs := s.cbs ++ cbs }, .cbs cbs)
  | .timerRun k =>
    match s.timers[k]? with
    | none => (s, .skip)
    | some t =>
      if t.st = .started then
        let lst := getVal [] s.pit t.node
        let keep := lst.filter fun p => s.now < p.deadline
        let gone := lst.filter fun p => !(s.now < p.deadline)
        let cbs := gone.map fun p => (⟨p.id, .timeout, s.now⟩ : Cb)
        let pit1 := setVal s.pit t.node keep
        let pit2 := deleteIfU isEmptyList (depOf pit1 t.node + 1) pit1 t.node
        ({ s with pit := pit2, timers := s.timers.set k { t with st := .fired },
                  cbs := s.cbs ++ cbs }, .cbs cbs)
      else (s, .skip)
  | .detach p =>
    match exactMatch s.fib p with
    | none => (s, .err)
    | some n => ({ s with fib := deleteU (depOf s.fib n + 1) s.fib n }, .ok)
  | op => step s op

end Ndn.C20
