/-
  C20 — attachedness: a node is attached when descending from the root along its own name reaches
  it.  Lookups (`ExactMatch`, `PrefixMatch`) only ever see attached nodes; the lemmas here show
  which operations keep nodes attached (`Grows`: what `MatchAlways` does to a heap; `Live`: what `SetValue` and
  `DeleteIf` keep) and that the parent walk from the `PrefixMatch` node visits every attached node whose name is
  a prefix of the looked-up name.
-/
import NdnVerif.C20.LemmasTrie
namespace Ndn.C20

variable {V : Type}

def Att (h : Heap V) (i : Nat) : Prop := ∃ n : TNode V, h[i]? = some n ∧ descend h 0 n.name = (i, [])

theorem descend_append {h : Heap V} : ∀ {a : Name} {i j : Nat}, descend h i a = (j, []) → ∀ b : Name,
    descend h i (a ++ b) = descend h j b := by
  intro a
  induction a with
  | nil => intro i j ha b; cases ha; rfl
  | cons c rest ih =>
    intro i j ha b
    obtain ⟨k, hc, ha⟩ := descend_cons_nil ha
    rw [List.cons_append, descend_some hc, ih ha]

def LinksLe (h h' : Heap V) : Prop := ∀ (i : Nat) (c : Component) (j : Nat), child h i c = some j → child h' i c = some j

namespace LinksLe

theorem refl (h : Heap V) : LinksLe h h := fun _ _ _ hc => hc

theorem trans {a b c : Heap V} (x : LinksLe a b) (y : LinksLe b c) : LinksLe a c :=
  fun i k j hc => y i k j (x i k j hc)

end LinksLe

theorem descend_mono {h h' : Heap V} (le : LinksLe h h') : ∀ (nm : Name) (i k : Nat),
    descend h i nm = (k, []) → descend h' i nm = (k, []) := by
  intro nm
  induction nm with
  | nil => exact fun _ _ hd => hd
  | cons c rest ih =>
    intro i k hd
    obtain ⟨j, hc, hd⟩ := descend_cons_nil hd
    exact (descend_some (le i c j hc) rest).trans (ih j k hd)

theorem descend_congr {h h' : Heap V} (e : ∀ j : Nat, chdAt h' j = chdAt h j) : ∀ (nm : Name) (i : Nat),
    descend h' i nm = descend h i nm := by
  intro nm
  induction nm with
  | nil => exact fun _ => rfl
  | cons c rest ih =>
    intro i
    rw [descend_cons, descend_cons, child, child, e i]
    cases (chdAt h i).bind (alookup c) with
    | none => rfl
    | some j => exact ih j

theorem att_iff {h : Heap V} {i : Nat} :
    Att h i ↔ ∃ nm : Name, nameAt h i = some nm ∧ descend h 0 nm = (i, []) := by
  rw [Att, nameAt]
  cases h[i]? with
  | none => exact ⟨fun ⟨_, e, _⟩ => (nomatch e), fun ⟨_, e, _⟩ => (nomatch e)⟩
  | some n =>
    constructor
    · rintro ⟨_, e, hd⟩; cases e; exact ⟨_, rfl, hd⟩
    · rintro ⟨_, e, hd⟩; cases e; exact ⟨_, rfl, hd⟩

theorem att_setVal (h : Heap V) (i : Nat) (v : V) (j : Nat) : Att (setVal h i v) j ↔ Att h j := by
  simp only [att_iff, nameAt_setVal, descend_congr (chdAt_setVal h i v)]

theorem descend_childless {h : Heap V} {i : Nat} {n : TNode V} (hi : h[i]? = some n) (hc : n.chd = [])
    (nm : Name) : descend h i nm = (i, nm) := by
  cases nm with
  | nil => rfl
  | cons c rest => exact descend_none (by rw [child_eq hi, hc]; rfl) rest

theorem child_unlink {h : Heap V} {p : Nat} {pn : TNode V} (hp : h[p]? = some pn) (k : Component) (x : Nat)
    (c : Component) : child (h.set p { pn with chd := aerase k pn.chd }) x c =
      if x = p ∧ c = k then none else child h x c := by
  rw [child, chdAt, get_set hp]
  by_cases hx : x = p
  · rw [if_pos hx, hx, child_eq hp]
    simp only [Option.map_some, Option.bind_some, alookup_aerase, true_and]
  · rw [if_neg hx, if_neg (fun e => hx e.1)]; rfl

theorem descend_unlink {h : Heap V} {p i : Nat} {pn ni : TNode V} (hp : h[p]? = some pn)
    (hi : h[i]? = some ni) (hci : ni.chd = []) (hl : alookup ni.key pn.chd = some i) :
    ∀ (nm : Name) (x j : Nat), j ≠ i → descend h x nm = (j, []) →
      descend (h.set p { pn with chd := aerase ni.key pn.chd }) x nm = (j, []) := by
  intro nm
  induction nm with
  | nil => exact fun _ _ _ hd => hd
  | cons c rest ih =>
    intro x j hji hd
    obtain ⟨y, hc, hd⟩ := descend_cons_nil hd
    by_cases hx : x = p ∧ c = ni.key
    · rw [hx.1, hx.2, child_eq hp, hl] at hc
      cases hc
      rw [descend_childless hi hci] at hd
      cases hd; exact absurd rfl hji
    · exact (descend_some (by rw [child_unlink hp, if_neg hx]; exact hc) rest).trans (ih y j hji hd)

theorem prune_att (pred : V → Bool) (h : Heap V) (i j : Nat) (nj : TNode V)
    (hj : h[j]? = some nj) (hp : pred nj.val = false) (a : Att h j) : Att (prune pred h i) j := by
  obtain ⟨nj', hj', hd⟩ := a
  rw [hj] at hj'; cases hj'
  have hv := valAt_get hj
  have : coreAt (prune pred h i) j = coreAt h j ∧ descend (prune pred h i) 0 nj.name = (j, []) := by
    refine deleteIf_induction (P := fun h' => coreAt h' j = coreAt h j ∧ descend h' 0 nj.name = (j, [])) pred ?_
      _ h i ⟨rfl, hd⟩
    intro h' i' p n pn hi' hc hpn hp' hl ⟨hcore, hd'⟩
    -- the node that is unlinked holds an empty value, `j` does not; being childless it is on no path to another node
    have hji : j ≠ i' := by
      intro e
      have := valAt_of_core hcore
      rw [hv, e, valAt, hi'] at this
      rw [← Option.some.inj this, hpn] at hp; cases hp
    exact ⟨(coreAt_setChd hp' _ j).trans hcore, descend_unlink hp' hi' hc hl _ 0 j hji hd'⟩
  exact att_iff.mpr ⟨nj.name, by rw [nameAt_of_core this.1, nameAt, hj]; rfl, this.2⟩

theorem child_link (z : V) {h : Heap V} {i : Nat} {ni : TNode V} (hi : h[i]? = some ni) {c : Component}
    (hn : child h i c = none) :
    LinksLe h (link z h i ni c) ∧ child (link z h i ni c) i c = some h.length := by
  have rd := fun x hx => get_link_old z hi c (j := x) hx
  constructor
  · intro x c' y hc
    obtain ⟨nx, hx, hl⟩ := child_some hc
    have := rd x (lt_of_get hx)
    by_cases hxi : x = i
    · rw [if_pos hxi] at this
      rw [hxi] at hc hx
      rw [hx] at hi; cases hi
      rw [child_eq this, alookup]
      split
      · next e => rw [e, hc] at hn; cases hn
      · exact hl
    · rw [if_neg hxi, hx] at this
      rw [child_eq this]; exact hl
  · have := rd i (lt_of_get hi)
    rw [if_pos rfl] at this
    rw [child_eq this, alookup, if_pos rfl]

/-- `h'` is `h` with fresh nodes appended, each holding `z`, and links added (`MatchAlways`): nothing that was
    reachable is lost, and whatever holds another value than `z` was there before -/
structure Grows (z : V) (h h' : Heap V) : Prop where
  len : h.length ≤ h'.length
  core : ∀ j : Nat, j < h.length → coreAt h' j = coreAt h j
  fresh : ∀ (j : Nat) (n : TNode V), h.length ≤ j → h'[j]? = some n → n.val = z
  links : LinksLe h h'
  wf : WF h → WF h'

-- Trap: inside `namespace Grows` / `Live` / `Removes` the bare `link`, `getVal`, `setVal`, `prune`, `none`, `filter` are the
-- theorems declared there; the functions of the model are written `C20.link`, `C20.getVal`, `C20.setVal`.
namespace Grows

theorem refl (z : V) (h : Heap V) : Grows z h h :=
  ⟨Nat.le_refl _, fun _ _ => rfl, fun _ _ hle hj => absurd (lt_of_get hj) (Nat.not_lt.mpr hle), LinksLe.refl h, id⟩

theorem trans {z : V} {a b c : Heap V} (x : Grows z a b) (y : Grows z b c) : Grows z a c := by
  refine ⟨Nat.le_trans x.len y.len, fun j hj => (y.core j (Nat.lt_of_lt_of_le hj x.len)).trans (x.core j hj),
    fun j n hle hj => ?_, x.links.trans y.links, y.wf ∘ x.wf⟩
  by_cases hjb : j < b.length
  · obtain ⟨m, hm, _, hv⟩ := core_get (y.core j hjb).symm hj
    exact hv.symm.trans (x.fresh j m hle hm)
  · exact y.fresh j n (Nat.le_of_not_lt hjb) hj

theorem link (z : V) {h : Heap V} {i : Nat} {ni : TNode V} (hi : h[i]? = some ni) {c : Component}
    (hn : child h i c = none) : Grows z h (link z h i ni c) := by
  have hl : (C20.link z h i ni c).length = h.length + 1 := by rw [C20.link, List.length_append, List.length_set]; rfl
  refine ⟨hl ▸ Nat.le_succ _, fun j hj => coreAt_link z hi c hj, fun j n hle hj => ?_, (child_link z hi hn).1,
    fun w => w.link hi c z⟩
  rcases get_push hj with hj | ⟨_, rfl⟩
  · exact absurd (List.length_set .. ▸ lt_of_get hj) (Nat.not_lt.mpr hle)
  · rfl

theorem att {z : V} {h h' : Heap V} (g : Grows z h h') {j : Nat} (a : Att h j) : Att h' j := by
  obtain ⟨nj, hj, hd⟩ := a
  obtain ⟨m, hm, hn, _⟩ := core_get (g.core j (lt_of_get hj)) hj
  exact ⟨m, hm, by rw [hn]; exact descend_mono g.links _ _ _ hd⟩

theorem old {z : V} {h h' : Heap V} (g : Grows z h h') {j : Nat} {n : TNode V} (hj : h'[j]? = some n)
    (hv : n.val ≠ z) : ∃ n0 : TNode V, h[j]? = some n0 ∧ n0.name = n.name ∧ n0.val = n.val := by
  by_cases hlt : j < h.length
  · exact core_get (g.core j hlt).symm hj
  · exact absurd (g.fresh j n (Nat.le_of_not_lt hlt) hj) hv

theorem getVal {z : V} {h h' : Heap V} (g : Grows z h h') (j : Nat) : getVal z h' j = getVal z h j := by
  by_cases hlt : j < h.length
  · rw [getVal_eq, getVal_eq, valAt_of_core (g.core j hlt)]
  · rw [C20.getVal, C20.getVal, List.getElem?_eq_none (Nat.le_of_not_lt hlt)]
    cases hj : h'[j]? with
    | none => rfl
    | some n => exact g.fresh j n (Nat.le_of_not_lt hlt) hj

end Grows

/-- `create` below a node `i` that has no link for the first component (third conjunct of `descend_split`): the heap
    grows, and the chain leads from `i` to the returned node -/
theorem create_spec (z : V) : ∀ (nm : Name) (h : Heap V) (i : Nat) (ni : TNode V), h[i]? = some ni →
    (∀ (c : Component) (r : Name), nm = c :: r → child h i c = none) →
    Grows z h (create z h i nm).1 ∧ descend (create z h i nm).1 i nm = ((create z h i nm).2, []) ∧
    ∃ nn : TNode V, (create z h i nm).1[(create z h i nm).2]? = some nn ∧ nn.name = ni.name ++ nm := by
  intro nm
  induction nm with
  | nil => exact fun h i ni hi _ => ⟨Grows.refl z h, rfl, ni, hi, (List.append_nil _).symm⟩
  | cons c rest ih =>
    intro h i ni hi hpre
    rw [create_cons z hi]
    have hnew := get_link_new z h i ni c
    obtain ⟨g2, d2, nn, hnode, hname⟩ := ih _ h.length _ hnew (fun c' _ _ => by rw [child_eq hnew]; rfl)
    exact ⟨(Grows.link z hi (hpre c rest rfl)).trans g2,
      (descend_some (g2.links i c _ (child_link z hi (hpre c rest rfl)).2) rest).trans d2, nn, hnode,
      by rw [hname, List.append_assoc]; rfl⟩

theorem matchAlways_spec (z : V) {h : Heap V} (w : WF h) (nm : Name) :
    Grows z h (matchAlways z h nm).1 ∧ ∃ nn : TNode V, (matchAlways z h nm).1[(matchAlways z h nm).2]? = some nn ∧
      nn.name = nm ∧ descend (matchAlways z h nm).1 0 nm = ((matchAlways z h nm).2, []) := by
  obtain ⟨nk, hk, hrest⟩ := prefixMatch_name w nm
  obtain ⟨m, hm1, hm2, hm3⟩ := descend_split h nm 0
  obtain ⟨g, dd, nn, hnode, hname⟩ := create_spec z (descend h 0 nm).2 h (descend h 0 nm).1 nk hk hm3
  refine ⟨g, nn, hnode, hname.trans hrest, ?_⟩
  have := (descend_append (descend_mono g.links _ _ _ hm2) _).trans dd
  rwa [← hm1] at this

theorem matchAlways_att (z : V) {h : Heap V} (w : WF h) (nm : Name) :
    Att (matchAlways z h nm).1 (matchAlways z h nm).2 := by
  obtain ⟨_, nn, hnode, hname, hd⟩ := matchAlways_spec z w nm
  exact ⟨nn, hnode, hname ▸ hd⟩

/-- the nodes that the parent loops of onData and onInterest visit from `cur` with that fuel -/
def anc (h : Heap V) : Nat → Nat → List Nat
  | 0, _ => []
  | fuel + 1, cur => cur :: (match parOf h cur with
      | none => []
      | some p => anc h fuel p)

theorem anc_congr {h h' : Heap V} (hp : ∀ j : Nat, parOf h' j = parOf h j) :
    ∀ (f k : Nat), anc h' f k = anc h f k := by
  intro f
  induction f with
  | zero => exact fun _ => rfl
  | succ f ih =>
    intro k
    rw [anc, anc, hp k]
    cases parOf h k with
    | none => rfl
    | some p => exact congrArg (k :: ·) (ih p)

theorem anc_par {h : Heap V} : ∀ (f : Nat) (k j i : Nat), j ∈ anc h f k → parOf h j = some i →
    i ∈ anc h (f + 1) k := by
  intro f
  induction f with
  | zero => intro k j i hj; cases hj
  | succ f ih =>
    intro k j i hj hp
    rw [anc] at hj
    rw [anc]
    rcases List.mem_cons.mp hj with rfl | hj
    · rw [hp]; exact List.mem_cons_of_mem _ List.mem_cons_self
    · cases hpk : parOf h k with
      | none => rw [hpk] at hj; cases hj
      | some p => rw [hpk] at hj; exact List.mem_cons_of_mem _ (ih p j i hj hp)

theorem descend_anc {h : Heap V} (w : WF h) : ∀ (m : Name) (i k : Nat), descend h i m = (k, []) →
    ∀ f : Nat, m.length < f → i ∈ anc h f k := by
  intro m
  induction m with
  | nil =>
    intro i k hd f hf
    cases hd
    obtain ⟨f, rfl⟩ := Nat.exists_eq_succ_of_ne_zero (Nat.ne_of_gt hf)
    exact List.mem_cons_self
  | cons c rest ih =>
    intro i k hd f hf
    obtain ⟨f, rfl⟩ := Nat.exists_eq_succ_of_ne_zero (Nat.ne_of_gt (Nat.zero_lt_of_lt hf))
    obtain ⟨j, hc, hd⟩ := descend_cons_nil hd
    obtain ⟨_, mj, _, hj, hp, _⟩ := w.child hc
    exact anc_par _ k j i (ih j k hd f (Nat.lt_of_succ_lt_succ hf)) ((parOf_get hj).trans hp)

theorem att_on_walk {h : Heap V} (w : WF h) {i : Nat} {ni : TNode V} (hi : h[i]? = some ni)
    (hd : descend h 0 ni.name = (i, [])) (r : Name) :
    i ∈ anc h (depOf h (prefixMatch h (ni.name ++ r)) + 1) (prefixMatch h (ni.name ++ r)) := by
  rw [prefixMatch, descend_append hd]
  obtain ⟨m, _, hm, _⟩ := descend_split h r i
  obtain ⟨nk, hk, hn⟩ := descend_name w m i _ ni hi hm
  refine descend_anc w m i _ hm _ ?_
  rw [depOf_get hk, w.dep_eq _ nk hk, hn, List.length_append]
  exact Nat.lt_succ_of_le (Nat.le_add_left _ _)

theorem anc_dep {h : Heap V} (w : WF h) : ∀ (f cur j : Nat) (nj nc : TNode V), j ∈ anc h f cur →
    h[j]? = some nj → h[cur]? = some nc → ∃ r : Name, nj.name ++ r = nc.name := by
  intro f
  induction f with
  | zero => intro cur j nj nc hj; cases hj
  | succ f ih =>
    intro cur j nj nc hj hnj hnc
    rw [anc] at hj
    rcases List.mem_cons.mp hj with rfl | hj
    · rw [hnj] at hnc; cases hnc; exact ⟨[], List.append_nil _⟩
    · rw [parOf_get hnc] at hj
      cases hp : nc.par with
      | none => rw [hp] at hj; cases hj
      | some p =>
        rw [hp] at hj
        obtain ⟨_, pn, hpn, _, hn⟩ := w.par cur nc p hnc hp
        obtain ⟨r, i2⟩ := ih p j nj pn hj hnj hpn
        exact ⟨r ++ [nc.key], by rw [hn, ← i2, List.append_assoc]⟩

theorem att_unique {h : Heap V} {i j : Nat} {ni nj : TNode V} (ai : Att h i) (aj : Att h j)
    (hi : h[i]? = some ni) (hj : h[j]? = some nj) (hn : ni.name = nj.name) : i = j := by
  obtain ⟨ni', hi', di⟩ := ai
  obtain ⟨nj', hj', dj⟩ := aj
  rw [hi] at hi'; cases hi'
  rw [hj] at hj'; cases hj'
  rw [hn, dj] at di
  exact (Prod.mk.inj di).1.symm

theorem exactMatch_att {h : Heap V} (w : WF h) {p : Name} {n : Nat} (hm : exactMatch h p = some n) :
    ∃ nk : TNode V, h[n]? = some nk ∧ nk.name = p ∧ Att h n := by
  obtain ⟨r, hr, _, _, hrn⟩ := w.root
  have hd : descend h 0 p = (n, []) := by
    rw [exactMatch] at hm
    split at hm
    · next e => rw [e, Option.some.inj hm]
    · cases hm
  obtain ⟨nk, h1, h2⟩ := descend_name w p 0 n r hr hd
  rw [hrn, List.nil_append] at h2
  exact ⟨nk, h1, h2, nk, h1, h2 ▸ hd⟩

theorem exactMatch_of_att {h : Heap V} {i : Nat} {ni : TNode V} (a : Att h i) (hi : h[i]? = some ni) :
    exactMatch h ni.name = some i := by
  obtain ⟨ni', hi', d⟩ := a
  rw [hi] at hi'; cases hi'
  rw [exactMatch, d]

/-- every node whose value is not empty (in the sense of `pred`, the test of `DeleteIf`) is attached -/
def Live (pred : V → Bool) (h : Heap V) : Prop :=
  ∀ (i : Nat) (n : TNode V), h[i]? = some n → pred n.val = false → Att h i

namespace Live

theorem newTrie {pred : V → Bool} {z : V} (hz : pred z = true) : Live pred (newTrie z) := by
  intro i n hi hp
  rw [(get_newTrie hi).2, hz] at hp; cases hp

theorem grows {pred : V → Bool} {z : V} (hz : pred z = true) {h h' : Heap V} (g : Grows z h h')
    (l : Live pred h) : Live pred h' := by
  intro i n hi hp
  obtain ⟨n0, h0, _, hv⟩ := g.old hi fun e => by rw [e, hz] at hp; cases hp
  exact g.att (l i n0 h0 (hv ▸ hp))

theorem setVal {pred : V → Bool} {h : Heap V} (l : Live pred h) {i : Nat} {v : V}
    (hv : pred v = false → Att h i) : Live pred (setVal h i v) := by
  intro j n hj hp
  rw [att_setVal]
  have hv' := valAt_setVal h i v j
  rw [valAt_get hj] at hv'
  split at hv'
  · next e =>
    obtain ⟨_, _, e'⟩ := Option.map_eq_some_iff.mp hv'.symm
    rw [← e'] at hp
    rw [e]; exact hv hp
  · obtain ⟨n0, hj0, e'⟩ := valAt_eq_some.mp hv'.symm
    exact l j n0 hj0 (by rw [e']; exact hp)

theorem prune {pred : V → Bool} {h : Heap V} (l : Live pred h) (i : Nat) : Live pred (prune pred h i) := by
  intro j n hj hp
  have := valAt_of_core (prune_core pred h i j)
  rw [valAt_get hj] at this
  obtain ⟨n0, hj0, e⟩ := valAt_eq_some.mp this.symm
  rw [← e] at hp
  exact prune_att pred h i j n0 hj0 hp (l j n0 hj0 hp)

end Live

end Ndn.C20
