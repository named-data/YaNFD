/-
  C20 — the loops of the engine over PIT nodes: `dataWalk` (onData) and the single-node sweep used
  by onNack and the timeout closure.
-/
import NdnVerif.C20.LemmasPit
import NdnVerif.C20.LemmasAtt
namespace Ndn.C20

/-- `h'` is `h` without the entries that `G` selects (by node and entry); `out` lists them.  Every operation that
    takes entries out of the PIT (a round of onData, its whole loop, the sweep of onNack and of the timeout closure)
    is one of these, and they compose. -/
structure Removes (G : Nat → Pend → Prop) (h h' : PHeap) (out : List Pend) : Prop where
  shrink : Shrink h h'
  pend : ∀ (j : Nat) (e : Pend), pendH h' j e ↔ pendH h j e ∧ ¬ G j e
  mem : ∀ e : Pend, e ∈ out ↔ ∃ j : Nat, pendH h j e ∧ G j e
  nodup : UniqH h → (out.map (·.id)).Nodup
  wf : WF h → WF h'
  live : Live isEmptyList h → Live isEmptyList h'

namespace UniqH

theorem nodup_getVal {h : PHeap} (u : UniqH h) (i : Nat) : ((getVal [] h i).map (·.id)).Nodup := by
  rw [getVal_eq]
  cases hv : valAt h i with
  | none => exact List.nodup_nil
  | some l => exact u.nodup i l hv

end UniqH

namespace Live

/-- what is left after filtering a node's entries was there before, so the node was attached -/
theorem filter {h : PHeap} (l : Live isEmptyList h) (n : Nat) (keep : Pend → Bool) :
    Live isEmptyList (C20.setVal h n ((getVal [] h n).filter keep)) := by
  refine l.setVal fun hv => ?_
  cases hn : h[n]? with
  | none => rw [getVal, hn] at hv; cases hv
  | some nd =>
    rw [getVal_get hn] at hv
    exact l n nd hn (isEmptyList_false_iff.mpr fun e => isEmptyList_false_iff.mp hv (by rw [e]; rfl))

end Live

namespace Removes

theorem none (h : PHeap) {G : Nat → Pend → Prop} (hG : ∀ j e, ¬ G j e) : Removes G h h [] :=
  ⟨Shrink.refl h, fun j e => (and_iff_left (hG j e)).symm, fun e => ⟨nofun, fun ⟨j, _, g⟩ => absurd g (hG j e)⟩,
    fun _ => List.nodup_nil, id, id⟩

theorem congr {G G' : Nat → Pend → Prop} {h h' : PHeap} {out : List Pend} (r : Removes G h h' out)
    (hG : ∀ j e, pendH h j e → (G j e ↔ G' j e)) : Removes G' h h' out :=
  ⟨r.shrink, fun j e => (r.pend j e).trans (and_congr_right fun p => not_congr (hG j e p)),
    fun e => (r.mem e).trans (exists_congr fun j => and_congr_right fun p => hG j e p), r.nodup, r.wf, r.live⟩

/-- node `n` keeps `keep`; the model writes the other filter as well, with the negation on either side, hence `hg` -/
theorem filter (h : PHeap) (n : Nat) {keep gone : Pend → Bool} (hg : ∀ p : Pend, gone p = !keep p) :
    Removes (fun j e => j = n ∧ gone e = true) h (setVal h n ((getVal [] h n).filter keep))
      ((getVal [] h n).filter gone) := by
  refine ⟨⟨nameAt_setVal h n _, fun j l' hl' => ?_⟩, fun j e => ?_, fun e => ?_,
    fun u => (u.nodup_getVal n).sublist (List.filter_sublist.map _), (setVal_wf · n _), (·.filter n keep)⟩
  · rw [valAt_setVal] at hl'
    split at hl'
    · next e =>
      obtain ⟨l, hl, rfl⟩ := Option.map_eq_some_iff.mp hl'
      rw [getVal_eq, hl]
      exact ⟨l, e ▸ hl, List.filter_sublist⟩
    · exact ⟨l', hl', List.Sublist.refl _⟩
  · rw [← getVal_mem, ← getVal_mem, getVal_eq, valAt_setVal]
    by_cases hjn : j = n
    · subst hjn
      rw [if_pos rfl, getVal_eq]
      cases valAt h j <;> simp [List.mem_filter, hg]
    · simp [hjn, getVal_eq]
  · rw [List.mem_filter, getVal_mem]
    exact ⟨fun ⟨a, b⟩ => ⟨n, a, rfl, b⟩, fun ⟨j, a, b, c⟩ => ⟨b ▸ a, c⟩⟩

theorem comp {G1 G2 : Nat → Pend → Prop} {h h1 h2 : PHeap} {o1 o2 : List Pend} (a : Removes G1 h h1 o1)
    (b : Removes G2 h1 h2 o2) : Removes (fun j e => G1 j e ∨ G2 j e) h h2 (o1 ++ o2) := by
  refine ⟨a.shrink.trans b.shrink, fun j e => by rw [b.pend, a.pend, not_or, and_assoc], fun e => ?_, fun u => ?_,
    b.wf ∘ a.wf, b.live ∘ a.live⟩
  · rw [List.mem_append, a.mem, b.mem]
    constructor
    · rintro (⟨j, p, g⟩ | ⟨j, p, g⟩)
      · exact ⟨j, p, Or.inl g⟩
      · exact ⟨j, ((a.pend j e).mp p).1, Or.inr g⟩
    · rintro ⟨j, p, g⟩
      by_cases g1 : G1 j e
      · exact Or.inl ⟨j, p, g1⟩
      · exact Or.inr ⟨j, (a.pend j e).mpr ⟨p, g1⟩, g.resolve_left g1⟩
  · -- an entry removed by `a` is gone from `h1`, so `b` cannot remove one with its id
    rw [List.map_append, List.nodup_append]
    refine ⟨a.nodup u, b.nodup (u.shrink a.shrink), ?_⟩
    intro x hx y hy hxy
    obtain ⟨e1, he1, rfl⟩ := List.mem_map.mp hx
    obtain ⟨e2, he2, rfl⟩ := List.mem_map.mp hy
    obtain ⟨j1, p1, g1⟩ := (a.mem e1).mp he1
    obtain ⟨j2, p2, _⟩ := (b.mem e2).mp he2
    obtain ⟨p2', ng⟩ := (a.pend j2 e2).mp p2
    obtain ⟨rfl, rfl⟩ := u.cross j1 j2 e1 e2 p1 p2' hxy
    exact ng g1

theorem kept_or_out {G : Nat → Pend → Prop} {h h' : PHeap} {out : List Pend} (r : Removes G h h' out) {j : Nat}
    {e : Pend} (p : pendH h j e) : pendH h' j e ∨ e ∈ out := by
  by_cases g : G j e
  · exact Or.inr ((r.mem e).mpr ⟨j, p, g⟩)
  · exact Or.inl ((r.pend j e).mpr ⟨p, g⟩)

theorem out_gone {G : Nat → Pend → Prop} {h h' : PHeap} {out : List Pend} (r : Removes G h h' out) (u : UniqH h)
    {a : Pend} (ha : a ∈ out) {j : Nat} {e : Pend} (p : pendH h' j e) : e.id ≠ a.id := by
  intro hid
  obtain ⟨j0, pa, g⟩ := (r.mem a).mp ha
  obtain ⟨p0, ng⟩ := (r.pend j e).mp p
  obtain ⟨rfl, rfl⟩ := u.cross j j0 e a p0 pa hid
  exact ng g

end Removes

/-- at a node whose name is a prefix of the Data name, the engine's test is the specification's -/
theorem satisfiedBy_iff {nn r nm : Name} (hr : nn ++ r = nm) (dg : Bytes) (e : Pend) :
    satisfiedBy nn.length nm.length dg e = true ↔
      (if e.cbp then Spec.isPre nn nm = true else nn = nm) ∧
      (match e.dig with | some d => d = dg | none => True) := by
  subst hr
  have hp : Spec.isPre nn (nn ++ r) = true := (isPre_iff _ _).mpr ⟨r, rfl⟩
  rw [satisfiedBy]
  -- without CanBePrefix: the node is not shorter than `nn ++ r` iff `r = []` iff the names are equal
  cases e.dig <;> cases e.cbp <;> simp [hp]

/-- node `cur` after the round of the loop that visits it: the entries the Data satisfies are gone -/
def strip (dataLen : Nat) (dig : Bytes) (h : PHeap) (cur : Nat) : PHeap :=
  setVal h cur ((getVal [] h cur).filter fun p => !satisfiedBy (depOf h cur) dataLen dig p)

/-- the entries that round collects -/
def hits (dataLen : Nat) (dig : Bytes) (h : PHeap) (cur : Nat) : List Pend :=
  (getVal [] h cur).filter (satisfiedBy (depOf h cur) dataLen dig)

theorem dataWalk_succ (dataLen : Nat) (dig : Bytes) (f : Nat) (h : PHeap) (cur : Nat) (acc : List Pend) :
    dataWalk dataLen dig (f + 1) h cur acc =
      match parOf h cur with
      | none => (strip dataLen dig h cur, acc ++ hits dataLen dig h cur)
      | some p => dataWalk dataLen dig f (strip dataLen dig h cur) p (acc ++ hits dataLen dig h cur) := by
  rw [dataWalk, strip, hits]
  cases hc : h[cur]? with
  | none => simp only [parOf, getVal, setVal, hc, List.filter_nil, List.append_nil]
  | some n => simp only [parOf, getVal, setVal, depOf, hc]; rfl

theorem dataWalk_removes (dataLen : Nat) (dig : Bytes) : ∀ (fuel : Nat) (h : PHeap) (cur : Nat) (acc : List Pend),
    ∃ out : List Pend, (dataWalk dataLen dig fuel h cur acc).2 = acc ++ out ∧
      Removes (fun j e => j ∈ anc h fuel cur ∧ satisfiedBy (depOf h j) dataLen dig e = true) h
        (dataWalk dataLen dig fuel h cur acc).1 out := by
  intro fuel
  induction fuel with
  | zero => exact fun h _ acc => ⟨[], (List.append_nil acc).symm, Removes.none h fun _ _ g => nomatch g.1⟩
  | succ f ih =>
    intro h cur acc
    have r1 : Removes (fun j e => j = cur ∧ satisfiedBy (depOf h cur) dataLen dig e = true) h
        (strip dataLen dig h cur) (hits dataLen dig h cur) := Removes.filter h cur fun _ => (Bool.not_not _).symm
    rw [dataWalk_succ, anc]
    cases parOf h cur with
    | none =>
      refine ⟨_, rfl, r1.congr fun j e _ => ?_⟩
      rw [List.mem_singleton]
      exact ⟨fun ⟨a, b⟩ => ⟨a, a ▸ b⟩, fun ⟨a, b⟩ => ⟨a, a ▸ b⟩⟩
    | some p =>
      obtain ⟨out, ho, r2⟩ := ih (strip dataLen dig h cur) p (acc ++ hits dataLen dig h cur)
      refine ⟨_, ho.trans (List.append_assoc ..), (r1.comp r2).congr fun j e _ => ?_⟩
      rw [strip, anc_congr (parOf_setVal h cur _), depOf_setVal, List.mem_cons, or_and_right]
      exact or_congr_left ⟨fun ⟨a, b⟩ => ⟨a, a ▸ b⟩, fun ⟨a, b⟩ => ⟨a, a ▸ b⟩⟩

/-- The fields of `Removes` for the whole loop, unfolded, for an accumulator `acc` whose ids differ from every pending
    one.  `data_removes` takes `dataWalk_removes` itself. -/
theorem dataWalk_spec (dataLen : Nat) (dig : Bytes) : ∀ (fuel : Nat) (h : PHeap) (cur : Nat) (acc : List Pend),
    WF h → UniqH h → (acc.map (·.id)).Nodup →
    (∀ a ∈ acc, ∀ (j : Nat) (e : Pend), pendH h j e → e.id ≠ a.id) →
    WF (dataWalk dataLen dig fuel h cur acc).1 ∧
    Shrink h (dataWalk dataLen dig fuel h cur acc).1 ∧
    (∀ (j : Nat) (e : Pend), pendH h j e →
        pendH (dataWalk dataLen dig fuel h cur acc).1 j e ∨ e ∈ (dataWalk dataLen dig fuel h cur acc).2) ∧
    (∀ e ∈ (dataWalk dataLen dig fuel h cur acc).2, e ∈ acc ∨
        ∃ (j : Nat) (nd : TNode (List Pend)), h[j]? = some nd ∧ e ∈ nd.val ∧
          satisfiedBy nd.dep dataLen dig e = true ∧
          ¬ pendH (dataWalk dataLen dig fuel h cur acc).1 j e ∧
          (∀ cn : Name, nameAt h cur = some cn → ∃ r, nd.name ++ r = cn)) ∧
    (∀ a ∈ acc, a ∈ (dataWalk dataLen dig fuel h cur acc).2) ∧
    ((dataWalk dataLen dig fuel h cur acc).2.map (·.id)).Nodup ∧
    (∀ a ∈ (dataWalk dataLen dig fuel h cur acc).2, ∀ (j : Nat) (e : Pend),
        pendH (dataWalk dataLen dig fuel h cur acc).1 j e → e.id ≠ a.id) := by
  intro fuel h cur acc w u nd dj
  obtain ⟨out, ho, R⟩ := dataWalk_removes dataLen dig fuel h cur acc
  rw [ho]
  refine ⟨R.wf w, R.shrink,
    fun j e pe => (R.kept_or_out pe).imp_right (List.mem_append_right _), ?_, fun a => List.mem_append_left _, ?_, ?_⟩
  · intro e he
    refine (List.mem_append.mp he).imp_right fun he => ?_
    obtain ⟨j, ⟨l, hl, hel⟩, hj, hs⟩ := (R.mem e).mp he
    obtain ⟨nd, hnd, rfl⟩ := valAt_eq_some.mp hl
    rw [depOf_get hnd] at hs
    refine ⟨j, nd, hnd, hel, hs, fun pf => R.out_gone u he pf rfl, fun cn hcn => ?_⟩
    obtain ⟨nc, hnc, rfl⟩ := Option.map_eq_some_iff.mp hcn
    exact anc_dep w fuel cur j nd nc hj hnd hnc
  · rw [List.map_append, List.nodup_append]
    refine ⟨nd, R.nodup u, fun x hx y hy hxy => ?_⟩
    obtain ⟨a, ha, rfl⟩ := List.mem_map.mp hx
    obtain ⟨b, hb, rfl⟩ := List.mem_map.mp hy
    obtain ⟨j, pb, _⟩ := (R.mem b).mp hb
    exact dj a ha j b pb hxy.symm
  · intro a ha j e pe
    rcases List.mem_append.mp ha with ha | ha
    · exact dj a ha j e (R.shrink.pend pe)
    · exact R.out_gone u ha pe

theorem dataWalk_clears (dataLen : Nat) (dig : Bytes) : ∀ (fuel : Nat) (h : PHeap) (cur : Nat) (acc : List Pend)
    (i : Nat) (ni : TNode (List Pend)) (e : Pend), i ∈ anc h fuel cur → h[i]? = some ni →
    pendH (dataWalk dataLen dig fuel h cur acc).1 i e → satisfiedBy ni.dep dataLen dig e = false := by
  intro fuel h cur acc i ni e hi hni hpe
  obtain ⟨_, _, R⟩ := dataWalk_removes dataLen dig fuel h cur acc
  have := ((R.pend i e).mp hpe).2
  rw [depOf_get hni] at this
  exact Bool.eq_false_iff.mpr fun hs => this ⟨hi, hs⟩

end Ndn.C20
