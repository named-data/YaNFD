/-
  C20 — negative witnesses: the model of the PINNED tree (`stepPinned`, NdnVerif/C20/Pinned.lean)
  violates the property on the very histories that are replayed against the real unfixed engine
  (corpus/C20/f20*.ops, `VERIF_C20_PINNED=1 ./check C20 --replay …` shows 0 DIFF and the SPEC line).
  `stepPinned` is the code before the fixes of F-20a/b/c; the theorems of Props.lean are about `step`.
-/
import NdnVerif.C20.Pinned
namespace Ndn.C20

def runPinned (s : St) : List Op → St
  | [] => s
  | op :: ops => runPinned (stepPinned s op).1 ops

private def a : Component := ⟨8, [97]⟩
private def b : Component := ⟨8, [98]⟩

/-- F-20a: pending /a/b/a, unsolicited Data /a unlinks the subtree, Data /a/b/a is not delivered
    (corpus/C20/f20a-data-deletes-subtree.ops) -/
example : (runPinned St.init [.express [a, b, a] false (some 100000), .setTime 1000, .data [a] [1],
    .setTime 2000, .data [a, b, a] [2]]).cbs = [] := by decide

/-- the fixed model delivers it -/
example : (run St.init [.express [a, b, a] false (some 100000), .setTime 1000, .data [a] [1],
    .setTime 2000, .data [a, b, a] [2]]).cbs = [⟨0, .data [a, b, a] [2], 2000⟩] := by decide

/-- F-20c: Nack, then a Timeout for the same Interest from a sibling's still armed timer
    (corpus/C20/f20c-nack-then-timeout.ops) -/
example : ((runPinned St.init [.express [a] false (some 100000), .setTime 5000, .express [a] false (some 100000),
    .setTime 13000, .express [a] false (some 100000), .setTime 110000, .timerStart 0, .timerRun 0,
    .setTime 112000, .nack [a], .setTime 115000, .timerStart 1, .timerRun 1]).cbs.map (·.id))
    = [0, 1, 2, 2] := by decide

/-- F-20b: the stale timer of an unlinked node removes the re-created node, Data /a is not delivered
    (corpus/C20/f20b-stale-timer-deletes-new-node.ops) -/
example : ((runPinned St.init [.express [a] false (some 100000), .setTime 5000, .express [a] false (some 100000),
    .setTime 110000, .timerStart 0, .timerRun 0, .setTime 112000, .express [a] false (some 100000),
    .setTime 115000, .timerStart 1, .timerRun 1, .setTime 120000, .data [a] [1]]).cbs.map (·.id))
    = [0, 1] := by decide

/-- F-20a (handlers): detaching /a also removed the handler of /a/b
    (corpus/C20/f20a-detach-removes-subtree-handlers.ops) -/
example : (stepPinned (runPinned St.init [.attach [a] 0, .attach [a, b] 1, .detach [a]])
    (.interest [a, b, a] none)).2 = .handled none defaultLife 0 := by decide

end Ndn.C20
