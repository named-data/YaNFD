/-
  C20 — what the decidable predicates of Spec.lean mean (`isPre_iff` … `replyOk_iff`), then the generic heap
  trie (simple_trie.go model): well-formedness, its preservation by `SetValue`, by `DeleteIf` and by one step
  of `MatchAlways` (`link`), and what these do to node values.  `MatchAlways` as a whole is in LemmasAtt.
-/
import NdnVerif.C20.Model
import NdnVerif.C20.Spec
import NdnVerif.C05.Assoc
import NdnVerif.Base.Code
namespace Ndn.C20

theorem lt_of_get {α : Type} {l : List α} {i : Nat} {a : α} (h : l[i]? = some a) : i < l.length :=
  (List.getElem?_eq_some_iff.mp h).1

theorem isPre_iff (a b : Name) : Spec.isPre a b = true ↔ ∃ r, a ++ r = b :=
  prefix_test (fun _ _ => decide_eq_true_iff) (fun _ => rfl) (fun _ _ => rfl) fun _ _ _ _ => rfl

theorem satisfies_iff (i : Spec.Int) (nm : Name) (dg : Bytes) :
    Spec.satisfies i nm dg = true ↔
      (if i.cbp then Spec.isPre i.node nm = true else i.node = nm) ∧
      (match i.dig with | some d => d = dg | none => True) := by
  rw [Spec.satisfies, Bool.and_eq_true]
  refine and_congr ?_ ?_
  · cases i.cbp <;> simp
  · cases i.dig <;> simp

theorem timeoutOk_iff (i : Spec.Int) (t : Nat) : Spec.timeoutOk i t = true ↔ i.t + i.life ≤ t := decide_eq_true_iff

theorem replyOk_iff (deadline now : Nat) : Spec.replyOk deadline now = true ↔ now ≤ deadline := decide_eq_true_iff

variable {V : Type}

theorem alookup_aerase (c k : Component) (l : List (Component × Nat)) :
    alookup c (aerase k l) = if c = k then none else alookup c l := by
  -- `alookup`, `aerase` satisfy the equations of C05's `afind`, `aerase` (arguments the other way round), so they ARE
  -- those functions and C05's lemma applies
  have hl : ∀ l c, alookup c l = C05.afind l c :=
    C05.afind_unique (f := fun l c => alookup c l) (fun _ => rfl) fun _ _ _ _ => rfl
  have he : aerase k l = C05.aerase l k :=
    C05.aerase_unique (f := fun l k => aerase k l) (fun _ => rfl) (fun _ _ _ _ => rfl) l k
  rw [hl, hl, he]; exact C05.afind_aerase' ..

theorem get_set {h : Heap V} {i : Nat} {n m : TNode V} (hi : h[i]? = some n) (j : Nat) :
    (h.set i m)[j]? = if j = i then some m else h[j]? := by
  simp only [List.getElem?_set, lt_of_get hi, if_true, eq_comm]

theorem map_get_set {α : Type} (f : TNode V → α) {h : Heap V} {i : Nat} {n m : TNode V}
    (hi : h[i]? = some n) (hf : f m = f n) (j : Nat) : ((h.set i m)[j]?).map f = (h[j]?).map f := by
  rw [get_set hi]
  split
  · next e => rw [e, hi, Option.map_some, Option.map_some, hf]
  · rfl

theorem get_newTrie {z : V} {i : Nat} {n : TNode V} (hi : (newTrie z)[i]? = some n) :
    i = 0 ∧ n = ⟨⟨0, []⟩, none, 0, [], [], z⟩ := by
  cases i with
  | zero => exact ⟨rfl, (Option.some.inj hi).symm⟩
  | succ i => cases hi

def valAt (h : Heap V) (i : Nat) : Option V := (h[i]?).map (·.val)
def nameAt {V : Type} (h : Heap V) (j : Nat) : Option Name := (h[j]?).map (·.name)
def chdAt (h : Heap V) (j : Nat) : Option (List (Component × Nat)) := (h[j]?).map (·.chd)

def coreAt (h : Heap V) (j : Nat) : Option (Component × Option Nat × Nat × Name × V) :=
  (h[j]?).map fun n => (n.key, n.par, n.dep, n.name, n.val)

/-- the part of node `j` that no operation changes -/
def frameAt (h : Heap V) (j : Nat) : Option (Component × Option Nat × Nat × Name) :=
  (h[j]?).map fun n => (n.key, n.par, n.dep, n.name)

theorem valAt_get {h : Heap V} {j : Nat} {n : TNode V} (hj : h[j]? = some n) : valAt h j = some n.val := by
  rw [valAt, hj]; rfl

theorem valAt_eq_some {h : Heap V} {j : Nat} {v : V} :
    valAt h j = some v ↔ ∃ n : TNode V, h[j]? = some n ∧ n.val = v :=
  Option.map_eq_some_iff

theorem getVal_eq (z : V) (h : Heap V) (j : Nat) : getVal z h j = (valAt h j).getD z := by
  rw [getVal, valAt]; cases h[j]? <;> rfl

theorem getVal_get {z : V} {h : Heap V} {j : Nat} {n : TNode V} (hj : h[j]? = some n) : getVal z h j = n.val := by
  simp only [getVal, hj]

theorem core_get {a b : Heap V} {j : Nat} (e : coreAt a j = coreAt b j) {x : TNode V} (hx : b[j]? = some x) :
    ∃ y : TNode V, a[j]? = some y ∧ y.name = x.name ∧ y.val = x.val := by
  rw [coreAt, coreAt, hx] at e
  obtain ⟨y, hy, e⟩ := Option.map_eq_some_iff.mp e
  simp only [Prod.mk.injEq] at e
  exact ⟨y, hy, e.2.2.2⟩

theorem valAt_of_core {h h' : Heap V} {j : Nat} (e : coreAt h' j = coreAt h j) : valAt h' j = valAt h j := by
  have := congrArg (Option.map (·.2.2.2.2)) e
  rw [coreAt, coreAt, Option.map_map, Option.map_map] at this
  exact this

theorem nameAt_of_core {h h' : Heap V} {j : Nat} (e : coreAt h' j = coreAt h j) : nameAt h' j = nameAt h j := by
  have := congrArg (Option.map (·.2.2.2.1)) e
  rw [coreAt, coreAt, Option.map_map, Option.map_map] at this
  exact this

theorem frame_get {a b : Heap V} {j : Nat} (e : frameAt a j = frameAt b j) {x : TNode V} (hx : b[j]? = some x) :
    ∃ y : TNode V, a[j]? = some y ∧ y.key = x.key ∧ y.par = x.par ∧ y.dep = x.dep ∧ y.name = x.name := by
  rw [frameAt, frameAt, hx] at e
  obtain ⟨y, hy, e⟩ := Option.map_eq_some_iff.mp e
  simp only [Prod.mk.injEq] at e
  exact ⟨y, hy, e⟩

/-- Parents have smaller indices; a link leads to a node that names this node as parent under that key.
    Not demanded: that a node is linked from its parent — unlinked nodes stay in the heap (hence `Att`). -/
structure WF (h : Heap V) : Prop where
  root : ∃ r, h[0]? = some r ∧ r.par = none ∧ r.dep = 0 ∧ r.name = []
  par : ∀ (i : Nat) (n : TNode V) (p : Nat), h[i]? = some n → n.par = some p →
    p < i ∧ ∃ pn, h[p]? = some pn ∧ n.dep = pn.dep + 1 ∧ n.name = pn.name ++ [n.key]
  top : ∀ (i : Nat) (n : TNode V), h[i]? = some n → n.par = none → i = 0
  chd : ∀ (i : Nat) (n : TNode V) (c : Component) (j : Nat), h[i]? = some n → alookup c n.chd = some j →
    ∃ m, h[j]? = some m ∧ m.par = some i ∧ m.key = c

namespace WF

theorem newTrie (z : V) : WF (newTrie z) := by
  refine ⟨⟨_, rfl, rfl, rfl, rfl⟩, ?_, ?_, ?_⟩
  · intro i n p hi hp
    rw [(get_newTrie hi).2] at hp; cases hp
  · intro i n hi _
    exact (get_newTrie hi).1
  · intro i n c j hi hl
    rw [(get_newTrie hi).2] at hl; cases hl

theorem dep_eq {h : Heap V} (w : WF h) : ∀ (i : Nat) (n : TNode V), h[i]? = some n → n.dep = n.name.length := by
  intro i
  induction i using Nat.strongRecOn with
  | _ i ih =>
    intro n hi
    cases hp : n.par with
    | none =>
      obtain ⟨r, hr, _, hd, hn⟩ := w.root
      rw [w.top i n hi hp, hr] at hi; cases hi
      rw [hd, hn]; rfl
    | some p =>
      obtain ⟨hlt, pn, hpn, hd, hn⟩ := w.par i n p hi hp
      rw [hd, hn, ih p hlt pn hpn, List.length_append]; rfl

theorem of_frame {h h' : Heap V} (w : WF h) (fr : ∀ j : Nat, frameAt h' j = frameAt h j)
    (lk : ∀ (j : Nat) (y : TNode V) (c : Component) (k : Nat), h'[j]? = some y → alookup c y.chd = some k →
      ∃ x : TNode V, h[k]? = some x ∧ x.par = some j ∧ x.key = c) : WF h' := by
  refine ⟨?_, ?_, ?_, ?_⟩
  · obtain ⟨r, hr, h1, h2, h3⟩ := w.root
    obtain ⟨y, hy, _, e2, e3, e4⟩ := frame_get (fr 0) hr
    exact ⟨y, hy, e2.trans h1, e3.trans h2, e4.trans h3⟩
  · intro j y p hj hyp
    obtain ⟨x, hx, e1, e2, e3, e4⟩ := frame_get (fr j).symm hj
    obtain ⟨hlt, pn, hpn, hd, hn⟩ := w.par j x p hx (e2.trans hyp)
    obtain ⟨pn', hpn', _, _, f3, f4⟩ := frame_get (fr p) hpn
    exact ⟨hlt, pn', hpn', by rw [← e3, hd, f3], by rw [← e4, hn, f4, e1]⟩
  · intro j y hj hyp
    obtain ⟨x, hx, _, e2, _, _⟩ := frame_get (fr j).symm hj
    exact w.top j x hx (e2.trans hyp)
  · intro j y c k hj hl
    obtain ⟨x, hx, h1, h2⟩ := lk j y c k hj hl
    obtain ⟨x', hx', f1, f2, _, _⟩ := frame_get (fr k) hx
    exact ⟨x', hx', f2.trans h1, f1.trans h2⟩

theorem setNode {h : Heap V} (w : WF h) {i : Nat} {n m : TNode V} (hi : h[i]? = some n)
    (hf : (m.key, m.par, m.dep, m.name) = (n.key, n.par, n.dep, n.name))
    (hc : ∀ c j, alookup c m.chd = some j → ∃ x : TNode V, h[j]? = some x ∧ x.par = some i ∧ x.key = c) :
    WF (h.set i m) := by
  refine w.of_frame (map_get_set _ hi hf) ?_
  intro j y c k hj hl
  rw [get_set hi] at hj
  split at hj
  · next e => cases hj; rw [e]; exact hc c k hl
  · exact w.chd j y c k hj hl

theorem setVal {h : Heap V} (w : WF h) {i : Nat} {n : TNode V} (hi : h[i]? = some n) (v : V) :
    WF (h.set i { n with val := v }) :=
  w.setNode hi rfl (w.chd i n · · hi)

end WF

theorem setVal_eq {h : Heap V} {i : Nat} {n : TNode V} (hi : h[i]? = some n) (v : V) :
    setVal h i v = h.set i { n with val := v } := by
  rw [setVal, hi]

theorem setVal_none {h : Heap V} {i : Nat} (hi : h[i]? = none) (v : V) : setVal h i v = h := by
  simp only [setVal, hi]

theorem map_get_setVal {α : Type} (f : TNode V → α) (hf : ∀ (n : TNode V) (v : V), f { n with val := v } = f n)
    (h : Heap V) (i : Nat) (v : V) (j : Nat) : ((setVal h i v)[j]?).map f = (h[j]?).map f := by
  cases hi : h[i]? with
  | none => rw [setVal_none hi]
  | some n => rw [setVal_eq hi]; exact map_get_set f hi (hf n v) j

theorem get_setVal (h : Heap V) (i : Nat) (v : V) (j : Nat) :
    (setVal h i v)[j]? = if j = i then (h[i]?).map fun n => { n with val := v } else h[j]? := by
  cases hi : h[i]? with
  | none =>
    rw [setVal_none hi]
    split
    · next e => rw [e, hi]; rfl
    · rfl
  | some n => rw [setVal_eq hi, get_set hi]; rfl

theorem nameAt_setVal (h : Heap V) (i : Nat) (v : V) (j : Nat) : nameAt (setVal h i v) j = nameAt h j :=
  map_get_setVal _ (fun _ _ => rfl) h i v j

theorem chdAt_setVal (h : Heap V) (i : Nat) (v : V) (j : Nat) : chdAt (setVal h i v) j = chdAt h j :=
  map_get_setVal _ (fun _ _ => rfl) h i v j

theorem valAt_setVal (h : Heap V) (i : Nat) (v : V) (j : Nat) :
    valAt (setVal h i v) j = if j = i then (valAt h i).map fun _ => v else valAt h j := by
  rw [valAt, get_setVal]
  split
  · rw [valAt, Option.map_map, Option.map_map]; rfl
  · rfl

theorem getVal_setVal (z : V) {h : Heap V} {i : Nat} {n : TNode V} (hi : h[i]? = some n) (v : V) (j : Nat) :
    getVal z (setVal h i v) j = if j = i then v else getVal z h j := by
  rw [getVal_eq, valAt_setVal]
  split
  · rw [valAt_get hi]; rfl
  · rw [getVal_eq]

theorem parOf_eq (h : Heap V) (j : Nat) : parOf h j = ((h[j]?).map (·.par)).getD none := by
  rw [parOf]; cases h[j]? <;> rfl

theorem depOf_eq (h : Heap V) (j : Nat) : depOf h j = ((h[j]?).map (·.dep)).getD 0 := by
  rw [depOf]; cases h[j]? <;> rfl

theorem parOf_get {h : Heap V} {j : Nat} {n : TNode V} (hj : h[j]? = some n) : parOf h j = n.par := by
  simp only [parOf, hj]

theorem depOf_get {h : Heap V} {j : Nat} {n : TNode V} (hj : h[j]? = some n) : depOf h j = n.dep := by
  simp only [depOf, hj]

theorem parOf_setVal (h : Heap V) (i : Nat) (v : V) (j : Nat) : parOf (setVal h i v) j = parOf h j := by
  rw [parOf_eq, parOf_eq, map_get_setVal _ (fun _ _ => rfl)]

theorem depOf_setVal (h : Heap V) (i : Nat) (v : V) (j : Nat) : depOf (setVal h i v) j = depOf h j := by
  rw [depOf_eq, depOf_eq, map_get_setVal _ (fun _ _ => rfl)]

theorem setVal_wf {h : Heap V} (w : WF h) (i : Nat) (v : V) : WF (setVal h i v) := by
  cases hi : h[i]? with
  | none => rw [setVal_none hi]; exact w
  | some n => rw [setVal_eq hi]; exact w.setVal hi v

theorem coreAt_setVal {V : Type} {h : Heap V} {i : Nat} {n : TNode V} (hi : h[i]? = some n) (v : V) (j : Nat)
    (hji : j ≠ i) : coreAt (h.set i { n with val := v }) j = coreAt h j := by
  rw [coreAt, get_set hi, if_neg hji]; rfl

theorem deleteIf_induction {P : Heap V → Prop} (pred : V → Bool)
    (unlink : ∀ (h : Heap V) (i p : Nat) (n pn : TNode V), h[i]? = some n → n.chd = [] → pred n.val = true →
      h[p]? = some pn → alookup n.key pn.chd = some i → P h → P (h.set p { pn with chd := aerase n.key pn.chd })) :
    ∀ (fuel : Nat) (h : Heap V) (i : Nat), P h → P (deleteIf pred fuel h i) := by
  intro fuel
  induction fuel with
  | zero => intro h i a; exact a
  | succ f ih =>
    intro h i a
    unfold deleteIf
    cases hn : h[i]? with
    | none => exact a
    | some n =>
      dsimp only
      by_cases hc : (!n.chd.isEmpty || !pred n.val) = true
      · rw [if_pos hc]; exact a
      · rw [if_neg hc]
        cases hpar : n.par with
        | none => exact a
        | some p =>
          dsimp only
          cases hp : h[p]? with
          | none => exact a
          | some pn =>
            dsimp only
            by_cases hl : alookup n.key pn.chd = some i
            · rw [if_pos hl]
              have hc : n.chd = [] ∧ pred n.val = true := by simpa using hc
              exact ih _ p (unlink h i p n pn hn hc.1 hc.2 hp hl a)
            · rw [if_neg hl]; exact a

theorem coreAt_setChd {h : Heap V} {i : Nat} {n : TNode V} (hi : h[i]? = some n)
    (c' : List (Component × Nat)) (j : Nat) : coreAt (h.set i { n with chd := c' }) j = coreAt h j :=
  map_get_set (m := { n with chd := c' }) _ hi rfl j

theorem prune_core (pred : V → Bool) (h : Heap V) (i j : Nat) : coreAt (prune pred h i) j = coreAt h j :=
  deleteIf_induction (P := fun h' => coreAt h' j = coreAt h j) pred
    (fun _ _ _ _ _ _ _ _ hp _ a => (coreAt_setChd hp _ j).trans a) _ h i rfl

theorem prune_wf (pred : V → Bool) (h : Heap V) (i : Nat) (w : WF h) : WF (prune pred h i) := by
  refine deleteIf_induction pred ?_ _ h i w
  intro h i p n pn _ _ _ hp _ w
  refine w.setNode hp rfl ?_
  intro c j hl
  rw [alookup_aerase] at hl
  split at hl
  · cases hl
  · exact w.chd p pn c j hp hl

theorem prune_length (pred : V → Bool) (h : Heap V) (i : Nat) : (prune pred h i).length = h.length :=
  deleteIf_induction (P := fun h' => h'.length = h.length) pred
    (fun _ _ _ _ _ _ _ _ _ _ a => (List.length_set ..).trans a) _ h i rfl

def child (h : Heap V) (i : Nat) (c : Component) : Option Nat := (chdAt h i).bind (alookup c)

theorem child_eq {h : Heap V} {i : Nat} {n : TNode V} (hi : h[i]? = some n) (c : Component) :
    child h i c = alookup c n.chd := by
  rw [child, chdAt, hi]; rfl

theorem child_some {h : Heap V} {i j : Nat} {c : Component} (hc : child h i c = some j) :
    ∃ n : TNode V, h[i]? = some n ∧ alookup c n.chd = some j := by
  cases hi : h[i]? with
  | none => rw [child, chdAt, hi] at hc; cases hc
  | some n => exact ⟨n, rfl, by rw [← child_eq hi]; exact hc⟩

theorem descend_cons (h : Heap V) (i : Nat) (c : Component) (r : Name) :
    descend h i (c :: r) = match child h i c with
      | some j => descend h j r
      | none => (i, c :: r) := by
  rw [descend, child, chdAt]
  cases h[i]? <;> rfl

theorem descend_some {h : Heap V} {i j : Nat} {c : Component} (hc : child h i c = some j) (r : Name) :
    descend h i (c :: r) = descend h j r := by
  rw [descend_cons, hc]

theorem descend_none {h : Heap V} {i : Nat} {c : Component} (hc : child h i c = none) (r : Name) :
    descend h i (c :: r) = (i, c :: r) := by
  rw [descend_cons, hc]

theorem descend_cons_nil {h : Heap V} {i k : Nat} {c : Component} {r : Name} (hd : descend h i (c :: r) = (k, [])) :
    ∃ j : Nat, child h i c = some j ∧ descend h j r = (k, []) := by
  cases hc : child h i c with
  | none => rw [descend_none hc] at hd; cases hd
  | some j => exact ⟨j, rfl, descend_some hc r ▸ hd⟩

namespace WF

theorem child {h : Heap V} (w : WF h) {i j : Nat} {c : Component} (hc : child h i c = some j) :
    ∃ ni m : TNode V, h[i]? = some ni ∧ h[j]? = some m ∧ m.par = some i ∧ m.name = ni.name ++ [c] := by
  obtain ⟨ni, hi, hl⟩ := child_some hc
  obtain ⟨m, hm, hp, hk⟩ := w.chd i ni c j hi hl
  obtain ⟨_, pn, hpn, _, hn⟩ := w.par j m i hm hp
  rw [hi] at hpn; cases hpn
  exact ⟨ni, m, hi, hm, hp, hk ▸ hn⟩

end WF

theorem descend_split (h : Heap V) : ∀ (nm : Name) (i : Nat),
    ∃ m : Name, nm = m ++ (descend h i nm).2 ∧ descend h i m = ((descend h i nm).1, []) ∧
      ∀ (c : Component) (r : Name), (descend h i nm).2 = c :: r → child h (descend h i nm).1 c = none := by
  intro nm
  induction nm with
  | nil => exact fun i => ⟨[], rfl, rfl, fun _ _ e => by cases e⟩
  | cons c rest ih =>
    intro i
    cases hc : child h i c with
    | none =>
      rw [descend_none hc]
      exact ⟨[], rfl, rfl, fun _ _ e => by cases e; exact hc⟩
    | some j =>
      rw [descend_some hc]
      obtain ⟨m, h1, h2, h3⟩ := ih j
      exact ⟨c :: m, congrArg (c :: ·) h1, by rw [descend_some hc]; exact h2, h3⟩

theorem descend_name {h : Heap V} (w : WF h) : ∀ (m : Name) (i k : Nat) (ni : TNode V), h[i]? = some ni →
    descend h i m = (k, []) → ∃ nk : TNode V, h[k]? = some nk ∧ nk.name = ni.name ++ m := by
  intro m
  induction m with
  | nil => intro i k ni hi hd; cases hd; exact ⟨ni, hi, (List.append_nil _).symm⟩
  | cons c rest ih =>
    intro i k ni hi hd
    obtain ⟨j, hc, hd⟩ := descend_cons_nil hd
    obtain ⟨ni', mj, hi', hj, _, hn⟩ := w.child hc
    rw [hi] at hi'; cases hi'
    obtain ⟨nk, h1, h2⟩ := ih j k mj hj hd
    exact ⟨nk, h1, by rw [h2, hn, List.append_assoc]; rfl⟩

theorem descend_spec {h : Heap V} (w : WF h) (nm : Name) (i : Nat) (ni : TNode V) (hi : h[i]? = some ni) :
    ∃ nk : TNode V, h[(descend h i nm).1]? = some nk ∧ nk.name ++ (descend h i nm).2 = ni.name ++ nm := by
  obtain ⟨m, h1, h2, _⟩ := descend_split h nm i
  obtain ⟨nk, h3, h4⟩ := descend_name w m i _ ni hi h2
  exact ⟨nk, h3, by rw [h4, List.append_assoc, ← h1]⟩

theorem prefixMatch_name {h : Heap V} (w : WF h) (nm : Name) :
    ∃ nk : TNode V, h[prefixMatch h nm]? = some nk ∧ nk.name ++ (descend h 0 nm).2 = nm := by
  obtain ⟨r, hr, _, _, hrn⟩ := w.root
  obtain ⟨nk, h1, h2⟩ := descend_spec w nm 0 r hr
  exact ⟨nk, h1, by rw [h2, hrn]; rfl⟩

theorem descend_lt {h : Heap V} (w : WF h) (nm : Name) : (descend h 0 nm).1 < h.length := by
  obtain ⟨nk, h1, _⟩ := prefixMatch_name w nm
  exact lt_of_get h1

theorem get_push {α : Type} {h : List α} {nn y : α} {j : Nat} (hj : (h ++ [nn])[j]? = some y) :
    h[j]? = some y ∨ (j = h.length ∧ y = nn) := by
  rw [List.getElem?_append] at hj
  split at hj
  · exact Or.inl hj
  · rw [List.getElem?_singleton] at hj
    split at hj
    · next hge h0 =>
      exact Or.inr ⟨Nat.le_antisymm (Nat.le_of_sub_eq_zero h0) (Nat.le_of_not_lt hge), (Option.some.inj hj).symm⟩
    · cases hj

namespace WF

theorem push {h : Heap V} (w : WF h) {i : Nat} {ni : TNode V} (hi : h[i]? = some ni) (c : Component) (z : V) :
    WF (h ++ [⟨c, some i, ni.dep + 1, ni.name ++ [c], [], z⟩]) := by
  have old : ∀ (j : Nat) (x : TNode V), h[j]? = some x →
      (h ++ [⟨c, some i, ni.dep + 1, ni.name ++ [c], [], z⟩])[j]? = some x :=
    fun j x hj => (List.getElem?_append_left (lt_of_get hj)).trans hj
  refine ⟨?_, ?_, ?_, ?_⟩
  · obtain ⟨r, hr, a⟩ := w.root
    exact ⟨r, old 0 r hr, a⟩
  · intro j y p hj hp
    rcases get_push hj with hj | ⟨rfl, rfl⟩
    · obtain ⟨lt, pn, hpn, a⟩ := w.par j y p hj hp
      exact ⟨lt, pn, old p pn hpn, a⟩
    · cases hp
      exact ⟨lt_of_get hi, ni, old i ni hi, rfl, rfl⟩
  · intro j y hj hp
    rcases get_push hj with hj | ⟨rfl, rfl⟩
    · exact w.top j y hj hp
    · cases hp
  · intro j y c' k hj hl
    rcases get_push hj with hj | ⟨rfl, rfl⟩
    · obtain ⟨m, hm, a⟩ := w.chd j y c' k hj hl
      exact ⟨m, old k m hm, a⟩
    · cases hl

end WF

def link (z : V) (h : Heap V) (i : Nat) (ni : TNode V) (c : Component) : Heap V :=
  h.set i { ni with chd := (c, h.length) :: ni.chd } ++ [⟨c, some i, ni.dep + 1, ni.name ++ [c], [], z⟩]

theorem create_cons (z : V) {h : Heap V} {i : Nat} {ni : TNode V} (hi : h[i]? = some ni) (c : Component)
    (rest : Name) : create z h i (c :: rest) = create z (link z h i ni c) h.length rest := by
  rw [create, hi]; rfl

theorem get_link_new (z : V) (h : Heap V) (i : Nat) (ni : TNode V) (c : Component) :
    (link z h i ni c)[h.length]? = some ⟨c, some i, ni.dep + 1, ni.name ++ [c], [], z⟩ := by
  rw [link, List.getElem?_append_right (by rw [List.length_set]; exact Nat.le_refl _), List.length_set,
    Nat.sub_self]; rfl

theorem get_link_old (z : V) {h : Heap V} {i : Nat} {ni : TNode V} (hi : h[i]? = some ni) (c : Component)
    {j : Nat} (hj : j < h.length) :
    (link z h i ni c)[j]? = if j = i then some { ni with chd := (c, h.length) :: ni.chd } else h[j]? := by
  rw [link, List.getElem?_append_left (by rw [List.length_set]; exact hj), get_set hi]

theorem coreAt_link (z : V) {h : Heap V} {i : Nat} {ni : TNode V} (hi : h[i]? = some ni) (c : Component)
    {j : Nat} (hj : j < h.length) : coreAt (link z h i ni c) j = coreAt h j := by
  rw [coreAt, get_link_old z hi c hj]
  split
  · next e => rw [e, coreAt, hi]; rfl
  · rfl

namespace WF

theorem link {h : Heap V} (w : WF h) {i : Nat} {ni : TNode V} (hi : h[i]? = some ni) (c : Component) (z : V) :
    WF (link z h i ni c) := by
  have wp := w.push hi c z
  have hi' := (List.getElem?_append_left (l₂ := [⟨c, some i, ni.dep + 1, ni.name ++ [c], [], z⟩]) (lt_of_get hi)).trans hi
  rw [C20.link, ← List.set_append_left _ _ (lt_of_get hi)]
  refine wp.setNode hi' rfl ?_
  intro c' j hl
  rw [alookup] at hl
  split at hl
  · next e => cases hl; exact ⟨_, List.getElem?_concat_length, rfl, e⟩
  · exact wp.chd i ni c' j hi' hl

end WF

end Ndn.C20
