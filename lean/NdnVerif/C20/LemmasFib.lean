/-
  C20 — the handler trie (application FIB): the trie holds exactly the handler table defined by the
  registration history, every handler node is attached, and the walk of onInterest finds the
  longest registered prefix.
-/
import NdnVerif.C20.LemmasPit
import NdnVerif.C20.LemmasAtt
namespace Ndn.C20

abbrev FHeap := Heap (Option Nat)

def Best (name : Name) (seen : List (Name × Nat)) : Option (Name × Nat) → Prop
  | none => ∀ e ∈ seen, Spec.isPre e.1 name = false
  | some b => b ∈ seen ∧ Spec.isPre b.1 name = true ∧
      ∀ e ∈ seen, Spec.isPre e.1 name = true → e.1.length ≤ b.1.length

theorem lpm_foldl (name : Name) : ∀ (l seen : List (Name × Nat)) (best : Option (Name × Nat)),
    Best name seen best → Best name (seen ++ l) (l.foldl (fun best e =>
      if Spec.isPre e.1 name then
        match best with
        | none => some e
        | some b => if b.1.length < e.1.length then some e else some b
      else best) best) := by
  intro l
  induction l with
  | nil => intro seen best hb; rw [List.append_nil]; exact hb
  | cons e rest ih =>
    intro seen best hb
    rw [List.foldl_cons, List.append_cons]
    refine ih _ _ ?_
    have app : ∀ {P : Name × Nat → Prop}, (∀ e' ∈ seen, P e') → P e → ∀ e' ∈ seen ++ [e], P e' :=
      fun h1 h2 => List.forall_mem_append.mpr ⟨h1, List.forall_mem_singleton.mpr h2⟩
    have hmem : e ∈ seen ++ [e] := List.mem_append_right _ List.mem_cons_self
    cases hp : Spec.isPre e.1 name with
    | false =>
      rw [if_neg (by simp)]
      cases best with
      | none => exact app hb hp
      | some b => exact ⟨List.mem_append_left _ hb.1, hb.2.1, app hb.2.2 fun h => absurd (hp.symm.trans h) nofun⟩
    | true =>
      rw [if_pos rfl]
      cases best with
      | none => exact ⟨hmem, hp, app (fun e' h hp' => absurd ((hb e' h).symm.trans hp') nofun) fun _ => Nat.le_refl _⟩
      | some b =>
        dsimp only
        by_cases hlt : b.1.length < e.1.length
        · rw [if_pos hlt]
          exact ⟨hmem, hp, app (fun e' h hp' => Nat.le_trans (hb.2.2 e' h hp') (Nat.le_of_lt hlt)) fun _ => Nat.le_refl _⟩
        · rw [if_neg hlt]
          exact ⟨List.mem_append_left _ hb.1, hb.2.1, app hb.2.2 fun _ => Nat.le_of_not_lt hlt⟩

theorem lpm_best (hs : List (Name × Nat)) (name : Name) : Best name hs (Spec.lpm hs name) := by
  have := lpm_foldl name hs [] none (fun _ h => nomatch h)
  rwa [List.nil_append] at this

theorem isNoneH_false {v : Option Nat} (h : isNoneH v = false) : ∃ x, v = some x := by
  cases v with
  | none => cases h
  | some x => exact ⟨x, rfl⟩

structure Inv3 (s : St) : Prop where
  wf : WF s.fib
  val_att : ∀ (i : Nat) (n : TNode (Option Nat)) (v : Nat), s.fib[i]? = some n → n.val = some v →
      Att s.fib i ∧ (n.name, v) ∈ s.hs
  hs_node : ∀ (nm : Name) (v : Nat), (nm, v) ∈ s.hs →
      ∃ (i : Nat) (n : TNode (Option Nat)), s.fib[i]? = some n ∧ n.name = nm ∧ n.val = some v
  nodup : (s.hs.map (·.1)).Nodup

namespace Inv3

theorem init : Inv3 St.init := by
  refine ⟨WF.newTrie _, ?_, nofun, List.nodup_nil⟩
  intro i n v hi hv
  rw [(get_newTrie hi).2] at hv; cases hv

theorem live {s : St} (I : Inv3 s) : Live isNoneH s.fib := by
  intro i n hn hp
  obtain ⟨v, hv⟩ := isNoneH_false hp
  exact (I.val_att i n v hn hv).1

theorem keys_iff {s : St} (I : Inv3 s) {n : Nat} {nk : TNode (Option Nat)} (hn : s.fib[n]? = some nk)
    (a : Att s.fib n) : nk.val ≠ none ↔ nk.name ∈ s.hs.map (·.1) := by
  constructor
  · intro hv
    cases hv' : nk.val with
    | none => exact absurd hv' hv
    | some v => exact List.mem_map.mpr ⟨_, (I.val_att n nk v hn hv').2, rfl⟩
  · intro hp
    obtain ⟨⟨q, v⟩, hq, e⟩ := List.mem_map.mp hp
    obtain ⟨i, m0, c1, c2, c3⟩ := I.hs_node q v hq
    cases att_unique (I.val_att i m0 v c1 c3).1 a c1 hn (c2.trans e)
    rw [hn] at c1; cases c1
    rw [c3]; nofun

theorem grows {s : St} (I : Inv3 s) {h1 : FHeap} (g : Grows none s.fib h1) : Inv3 { s with fib := h1 } := by
  refine ⟨g.wf I.wf, fun i m v hi hv => ?_, fun nm v hmem => ?_, I.nodup⟩
  · obtain ⟨m0, h0, e1, e2⟩ := g.old hi (by rw [hv]; nofun)
    obtain ⟨d1, d2⟩ := I.val_att i m0 v h0 (e2.trans hv)
    exact ⟨g.att d1, e1 ▸ d2⟩
  · obtain ⟨i, m0, c1, c2, c3⟩ := I.hs_node nm v hmem
    obtain ⟨m, d1, d2, d3⟩ := core_get (g.core i (lt_of_get c1)) c1
    exact ⟨i, m, d1, d2.trans c2, d3.trans c3⟩

theorem insert {s : St} (I : Inv3 s) {n : Nat} {nk : TNode (Option Nat)} (hn : s.fib[n]? = some nk)
    (a : Att s.fib n) (hv : nk.val = none) (hid : Nat) :
    Inv3 { s with fib := setVal s.fib n (some hid), hs := s.hs ++ [(nk.name, hid)] } := by
  have rd := get_setVal s.fib n (some hid)
  refine ⟨setVal_wf I.wf _ _, fun i m v hi hmv => ?_, fun nm v hmem => ?_, ?_⟩
  · replace hi := (rd i).symm.trans hi
    rw [att_setVal]
    split at hi
    · next e =>
      rw [hn] at hi; cases hi; cases hmv
      exact ⟨e ▸ a, List.mem_append_right _ List.mem_cons_self⟩
    · exact ⟨(I.val_att i m v hi hmv).1, List.mem_append_left _ (I.val_att i m v hi hmv).2⟩
  · rcases List.mem_append.mp hmem with hmem | hmem
    · obtain ⟨i, m0, c1, c2, c3⟩ := I.hs_node nm v hmem
      have hin : i ≠ n := by rintro rfl; rw [hn] at c1; cases c1; rw [hv] at c3; cases c3
      exact ⟨i, m0, (rd i).trans ((if_neg hin).trans c1), c2, c3⟩
    · cases List.mem_singleton.mp hmem
      exact ⟨n, { nk with val := some hid }, (rd n).trans ((if_pos rfl).trans (congrArg _ hn)), rfl, rfl⟩
  · show ((s.hs ++ [(nk.name, hid)]).map (·.1)).Nodup
    rw [List.map_append, List.nodup_append]
    refine ⟨I.nodup, List.nodup_cons.mpr ⟨nofun, List.nodup_nil⟩, fun x hx y hy hxy => ?_⟩
    cases List.mem_singleton.mp hy
    rw [hxy] at hx
    exact (I.keys_iff hn a).mpr hx hv

theorem remove {s : St} (I : Inv3 s) {n : Nat} {nk : TNode (Option Nat)} (hn : s.fib[n]? = some nk)
    (a : Att s.fib n) :
    Inv3 { s with fib := prune isNoneH (setVal s.fib n none) n,
                  hs := s.hs.filter fun e => !decide (e.1 = nk.name) } := by
  have rd := get_setVal s.fib n none
  have core := prune_core isNoneH (setVal s.fib n none) n
  have live : Live isNoneH (prune isNoneH (setVal s.fib n none) n) := (I.live.setVal fun h => by cases h).prune n
  refine ⟨prune_wf _ _ _ (setVal_wf I.wf _ _), fun i m v hi hmv => ?_, fun nm v hmem => ?_,
    I.nodup.sublist (List.filter_sublist.map _)⟩
  · refine ⟨live i m hi (by rw [hmv]; rfl), ?_⟩
    obtain ⟨m1, c1, c2, c3⟩ := core_get (core i).symm hi
    rw [rd] at c1
    split at c1
    · rw [hn] at c1; cases c1; rw [hmv] at c3; cases c3
    · next hin =>
      obtain ⟨d1, d2⟩ := I.val_att i m1 v c1 (c3.trans hmv)
      refine List.mem_filter.mpr ⟨c2 ▸ d2, ?_⟩
      rw [Bool.not_eq_true', decide_eq_false_iff_not]
      exact fun e => hin (att_unique d1 a c1 hn (c2.trans e))
  · obtain ⟨hmem, hne⟩ := List.mem_filter.mp hmem
    rw [Bool.not_eq_true', decide_eq_false_iff_not] at hne
    obtain ⟨i, m0, c1, c2, c3⟩ := I.hs_node nm v hmem
    have hin : i ≠ n := by rintro rfl; rw [hn] at c1; cases c1; exact hne c2.symm
    obtain ⟨m, d1, d2, d3⟩ := core_get (core i) ((rd i).trans ((if_neg hin).trans c1))
    exact ⟨i, m, d1, d2.trans c2, d3.trans c3⟩

theorem attach {s : St} (I : Inv3 s) (p : Name) (hid : Nat) :
    Inv3 (step s (.attach p hid)).1 ∧ ((step s (.attach p hid)).2 = .dup ↔ p ∈ s.hs.map (·.1)) := by
  obtain ⟨g, nn, hnode, hname, _⟩ := matchAlways_spec (none : Option Nat) I.wf p
  have b2 := matchAlways_att (none : Option Nat) I.wf p
  have I1 := I.grows g
  have keys := I1.keys_iff hnode b2
  subst hname
  dsimp only [step]
  rw [getVal_get hnode]
  cases hv : nn.val with
  | some v0 => exact ⟨I1, iff_of_true rfl (keys.mp (hv ▸ nofun))⟩
  | none => exact ⟨I1.insert hnode b2 hv hid, iff_of_false nofun fun hp => keys.mpr hp hv⟩

theorem detach {s : St} (I : Inv3 s) (p : Name) :
    Inv3 (step s (.detach p)).1 ∧ ((step s (.detach p)).2 = .err ↔ p ∉ s.hs.map (·.1)) := by
  dsimp only [step]
  cases hm : exactMatch s.fib p with
  | none =>
    refine ⟨I, iff_of_true rfl fun hp => ?_⟩
    obtain ⟨⟨q, v⟩, hq, rfl⟩ := List.mem_map.mp hp
    obtain ⟨i, m0, c1, c2, c3⟩ := I.hs_node q v hq
    have := exactMatch_of_att (I.val_att i m0 v c1 c3).1 c1
    rw [c2, hm] at this; cases this
  | some n =>
    obtain ⟨nk, h1, h2, h3⟩ := exactMatch_att I.wf hm
    have keys := I.keys_iff h1 h3
    subst h2
    dsimp only
    rw [getVal_get h1]
    cases hv : nk.val with
    | none => exact ⟨I, iff_of_true rfl fun hp => keys.mpr hp hv⟩
    | some v0 => exact ⟨I.remove h1 h3, iff_of_false nofun fun h => h (keys.mp (hv ▸ nofun))⟩

theorem step_inv {s : St} (I : Inv3 s) (op : Op) : Inv3 (step s op).1 := by
  have same : ∀ s' : St, s'.fib = s.fib → s'.hs = s.hs → Inv3 s' := fun s' h1 h2 =>
    ⟨h1 ▸ I.wf, by rw [h1, h2]; exact I.val_att, by rw [h1, h2]; exact I.hs_node, h2 ▸ I.nodup⟩
  cases op with
  | attach p hid => exact (I.attach p hid).1
  | detach p => exact (I.detach p).1
  | _ =>
    -- the other operations do not touch the handler trie
    dsimp only [step]
    repeat' split
    all_goals exact same _ rfl rfl

theorem run {s : St} (I : Inv3 s) (ops : List Op) : Inv3 (run s ops) :=
  run_inv (fun _ op I => I.step_inv op) I ops

end Inv3

theorem handlerWalk_succ (f : Nat) (h : FHeap) (cur : Nat) :
    handlerWalk (f + 1) h cur = match getVal none h cur with
      | some hid => some hid
      | none => match parOf h cur with
        | none => none
        | some p => handlerWalk f h p := by
  rw [handlerWalk, getVal, parOf]
  cases h[cur]? <;> rfl

theorem handlerWalk_spec {h : FHeap} (w : WF h) : ∀ (f cur : Nat),
    (∀ v : Nat, handlerWalk f h cur = some v → ∃ (i : Nat) (n : TNode (Option Nat)), i ∈ anc h f cur ∧
      h[i]? = some n ∧ n.val = some v ∧
      ∀ (j : Nat) (nj : TNode (Option Nat)) (v' : Nat), j ∈ anc h f cur → h[j]? = some nj → nj.val = some v' →
        nj.name.length ≤ n.name.length) ∧
    (handlerWalk f h cur = none → ∀ (j : Nat) (nj : TNode (Option Nat)), j ∈ anc h f cur → h[j]? = some nj →
      nj.val = none) := by
  intro f
  induction f with
  | zero => exact fun cur => ⟨nofun, fun _ _ _ hj => nomatch hj⟩
  | succ f ih =>
    intro cur
    rw [handlerWalk_succ]
    cases hv : getVal none h cur with
    | some hid =>
      refine ⟨fun v hvv => ?_, nofun⟩
      cases hvv
      cases hc : h[cur]? with
      | none => rw [getVal, hc] at hv; cases hv
      | some n =>
        rw [getVal_get hc] at hv
        refine ⟨cur, n, List.mem_cons_self, hc, hv, fun j nj _ hj hnj _ => ?_⟩
        obtain ⟨r, hr⟩ := anc_dep w (f + 1) cur j nj n hj hnj hc
        rw [← hr, List.length_append]; exact Nat.le_add_right _ _
    | none =>
      have hcur : ∀ nj : TNode (Option Nat), h[cur]? = some nj → nj.val = none :=
        fun nj hnj => (getVal_get hnj).symm.trans hv
      rw [anc]
      cases parOf h cur with
      | none =>
        refine ⟨nofun, fun _ j nj hj hnj => ?_⟩
        cases List.mem_singleton.mp hj
        exact hcur nj hnj
      | some p =>
        obtain ⟨i1, i2⟩ := ih p
        refine ⟨fun v hvv => ?_, fun hnone j nj hj hnj => ?_⟩
        · obtain ⟨i, ni, a1, a2, a3, a4⟩ := i1 v hvv
          refine ⟨i, ni, List.mem_cons_of_mem _ a1, a2, a3, fun j nj v' hj hnj hnv => ?_⟩
          rcases List.mem_cons.mp hj with rfl | hj
          · rw [hcur nj hnj] at hnv; cases hnv
          · exact a4 j nj v' hj hnj hnv
        · rcases List.mem_cons.mp hj with rfl | hj
          · exact hcur nj hnj
          · exact i2 hnone j nj hj hnj

/-- the handler found by onInterest is the one registered at the longest matching prefix -/
theorem lpm_correct {s : St} (I : Inv3 s) (name : Name) :
    handlerWalk (depOf s.fib (prefixMatch s.fib name) + 1) s.fib (prefixMatch s.fib name) =
      (Spec.lpm s.hs name).map (·.2) := by
  obtain ⟨nk, hk, hrest⟩ := prefixMatch_name I.wf name
  obtain ⟨w1, w2⟩ := handlerWalk_spec I.wf (depOf s.fib (prefixMatch s.fib name) + 1) (prefixMatch s.fib name)
  have onchain : ∀ b ∈ s.hs, Spec.isPre b.1 name = true → ∃ (j : Nat) (nj : TNode (Option Nat)),
      j ∈ anc s.fib (depOf s.fib (prefixMatch s.fib name) + 1) (prefixMatch s.fib name) ∧
      s.fib[j]? = some nj ∧ nj.name = b.1 ∧ nj.val = some b.2 := by
    intro b hb hp
    obtain ⟨j, nj, c1, c2, c3⟩ := I.hs_node b.1 b.2 hb
    obtain ⟨nj', c1', dj⟩ := (I.val_att j nj b.2 c1 c3).1
    rw [c1] at c1'; cases c1'
    obtain ⟨r, hr⟩ := (isPre_iff _ _).mp hp
    have := att_on_walk I.wf c1 dj r
    rw [c2, hr] at this
    exact ⟨j, nj, this, c1, c2, c3⟩
  -- walk result and `lpm` result both sit on the chain; deepest there = longest name; names are unique
  have best := lpm_best s.hs name
  generalize prefixMatch s.fib name = k at *
  cases hw : handlerWalk (depOf s.fib k + 1) s.fib k with
  | none =>
    cases hl : Spec.lpm s.hs name with
    | none => rfl
    | some b =>
      rw [hl] at best
      obtain ⟨j, nj, c1, c2, _, c4⟩ := onchain b best.1 best.2.1
      rw [w2 hw j nj c1 c2] at c4; cases c4
  | some v =>
    obtain ⟨i, n, a1, a2, a3, a4⟩ := w1 v hw
    have hmem := (I.val_att i n v a2 a3).2
    obtain ⟨r, hr⟩ := anc_dep I.wf _ k i n nk a1 a2 hk
    have hpre : n.name ++ (r ++ (descend s.fib 0 name).2) = name := by rw [← List.append_assoc, hr, hrest]
    have hisp : Spec.isPre n.name name = true := (isPre_iff _ _).mpr ⟨_, hpre⟩
    cases hl : Spec.lpm s.hs name with
    | none =>
      rw [hl] at best
      rw [best (n.name, v) hmem] at hisp; cases hisp
    | some b =>
      rw [hl] at best
      obtain ⟨j, nj, c1, c2, c3, c4⟩ := onchain b best.1 best.2.1
      have l1 : n.name.length ≤ b.1.length := best.2.2 (n.name, v) hmem hisp
      have l2 := a4 j nj b.2 c1 c2 c4
      rw [c3] at l2
      obtain ⟨rb, hrb⟩ := (isPre_iff _ _).mp best.2.1
      have hname : n.name = b.1 := (List.append_inj (hpre.trans hrb.symm) (Nat.le_antisymm l1 l2)).1
      have : (n.name, v) = b := inj_of_nodup_map (·.1) I.nodup hmem best.1 hname
      rw [← this]; rfl

end Ndn.C20
