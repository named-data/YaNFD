/-
  C20 — the PIT invariant (every pending entry is owned by exactly one node, has a live timer and an
  `Express` record; every callback belongs to an entry that is gone) and its preservation by a step that only
  resolves entries (`Resolve`, `Inv1.resolve`); the operations are in LemmasStep.
-/
import NdnVerif.C20.LemmasTrie
namespace Ndn.C20

abbrev PHeap := Heap (List Pend)

def pendH (h : PHeap) (i : Nat) (e : Pend) : Prop := ∃ l, valAt h i = some l ∧ e ∈ l

/-- `pendH` of the PIT of a state -/
def pendingAt (s : St) (i : Nat) (e : Pend) : Prop := ∃ l, valAt s.pit i = some l ∧ e ∈ l

theorem pendingAt_iff (s : St) (i : Nat) (e : Pend) : pendingAt s i e ↔ pendH s.pit i e := Iff.rfl

theorem isEmptyList_false_iff {l : List Pend} : isEmptyList l = false ↔ l ≠ [] := by
  cases l <;> simp [isEmptyList]

theorem getVal_mem {h : PHeap} {n : Nat} {e : Pend} : e ∈ getVal [] h n ↔ pendH h n e := by
  rw [getVal_eq, pendH]
  cases valAt h n <;> simp

structure Shrink (h h' : PHeap) : Prop where
  name : ∀ j : Nat, nameAt h' j = nameAt h j
  sub : ∀ (j : Nat) (l' : List Pend), valAt h' j = some l' → ∃ l, valAt h j = some l ∧ l'.Sublist l

namespace Shrink

theorem refl (h : PHeap) : Shrink h h := ⟨fun _ => rfl, fun _ l' hl => ⟨l', hl, List.Sublist.refl _⟩⟩

theorem trans {a b c : PHeap} (x : Shrink a b) (y : Shrink b c) : Shrink a c := by
  refine ⟨fun j => (y.name j).trans (x.name j), ?_⟩
  intro j l'' hl
  obtain ⟨l', h1, s1⟩ := y.sub j l'' hl
  obtain ⟨l, h2, s2⟩ := x.sub j l' h1
  exact ⟨l, h2, s1.trans s2⟩

theorem pend {h h' : PHeap} (x : Shrink h h') {i : Nat} {e : Pend} (p : pendH h' i e) : pendH h i e := by
  obtain ⟨l', hl', he⟩ := p
  obtain ⟨l, hl, hs⟩ := x.sub i l' hl'
  exact ⟨l, hl, hs.subset he⟩

end Shrink

theorem shrink_of_core {h h' : PHeap} (c : ∀ j : Nat, coreAt h' j = coreAt h j) : Shrink h h' := by
  refine ⟨fun j => nameAt_of_core (c j), ?_⟩
  intro j l' hl'
  rw [valAt_of_core (c j)] at hl'
  exact ⟨l', hl', List.Sublist.refl _⟩

theorem pend_of_core {h h' : PHeap} (c : ∀ j : Nat, coreAt h' j = coreAt h j) (i : Nat) (e : Pend) :
    pendH h' i e ↔ pendH h i e := by
  rw [pendH, pendH, valAt_of_core (c i)]

theorem run_inv {P : St → Prop} (hstep : ∀ (s : St) (op : Op), P s → P (step s op).1) {s : St} (h : P s)
    (ops : List Op) : P (run s ops) := by
  induction ops generalizing s with
  | nil => exact h
  | cons op rest ih => exact ih (hstep s op h)

/-- `own`: a pending entry has its timer (armed, or started and due), pointing at its node, and its `Express`
    record; `cbs_done`, `cover`: an id is pending or called back, never both. -/
structure Inv1 (s : St) : Prop where
  wf : WF s.pit
  len : s.exprs.length = s.timers.length
  exid : ∀ (k : Nat) (x : Expr), s.exprs[k]? = some x → x.id = k
  own : ∀ (i : Nat) (e : Pend), pendingAt s i e →
      e.tid = e.id ∧ ∃ (tm : Tmr) (x : Expr), s.timers[e.id]? = some tm ∧ tm.node = i ∧
        tm.fire = e.deadline + margin ∧ (tm.st = .armed ∨ (tm.st = .started ∧ tm.fire ≤ s.now)) ∧
        s.exprs[e.id]? = some x ∧ e.deadline = x.t + x.life ∧ x.cbp = e.cbp ∧ x.dig = e.dig ∧
        nameAt s.pit i = some x.node
  nodup : ∀ (i : Nat) (l : List Pend), valAt s.pit i = some l → (l.map (·.id)).Nodup
  cbs_nodup : (s.cbs.map (·.id)).Nodup
  cbs_done : ∀ c ∈ s.cbs, c.id < s.exprs.length ∧ ∀ (i : Nat) (e : Pend), pendingAt s i e → e.id ≠ c.id
  cover : ∀ id : Nat, id < s.exprs.length →
      (∃ c ∈ s.cbs, c.id = id) ∨ (∃ (i : Nat) (e : Pend), pendingAt s i e ∧ e.id = id)
  tout : ∀ c ∈ s.cbs, c.kind = .timeout → ∃ x : Expr, s.exprs[c.id]? = some x ∧ x.t + x.life ≤ c.t
  dsat : ∀ c ∈ s.cbs, ∀ (nm : Name) (dg : Bytes), c.kind = .data nm dg →
      ∃ x : Expr, s.exprs[c.id]? = some x ∧
        Spec.satisfies ⟨x.node, x.final, x.cbp, x.dig, x.t, x.life⟩ nm dg = true

namespace Inv1

theorem tid_eq {s : St} (I : Inv1 s) {i : Nat} {e : Pend} (h : pendingAt s i e) : e.tid = e.id := (I.own i e h).1

theorem timer {s : St} (I : Inv1 s) {i : Nat} {e : Pend} (h : pendingAt s i e) :
    ∃ tm : Tmr, s.timers[e.id]? = some tm ∧ tm.node = i ∧ tm.fire = e.deadline + margin ∧
      (tm.st = .armed ∨ (tm.st = .started ∧ tm.fire ≤ s.now)) := by
  obtain ⟨_, tm, _, h1, h2, h3, h4, _⟩ := I.own i e h
  exact ⟨tm, h1, h2, h3, h4⟩

theorem record {s : St} (I : Inv1 s) {i : Nat} {e : Pend} (h : pendingAt s i e) :
    ∃ x : Expr, s.exprs[e.id]? = some x ∧ e.deadline = x.t + x.life ∧ x.cbp = e.cbp ∧ x.dig = e.dig ∧
      nameAt s.pit i = some x.node := by
  obtain ⟨_, _, x, _, _, _, _, r⟩ := I.own i e h
  exact ⟨x, r⟩

/-- for a pending entry, the specification's test on its `Express` record is the engine's view of it: the entry's own
    flags against the name of its node (the form in which `Resolve.cb_from` has it) -/
theorem sat_iff {s : St} (I : Inv1 s) {i : Nat} {e : Pend} (h : pendingAt s i e) (nm : Name) (dg : Bytes) :
    (∃ x : Expr, s.exprs[e.id]? = some x ∧
        Spec.satisfies ⟨x.node, x.final, x.cbp, x.dig, x.t, x.life⟩ nm dg = true) ↔
      ∃ nn : Name, nameAt s.pit i = some nn ∧ (if e.cbp then Spec.isPre nn nm = true else nn = nm) ∧
        (match e.dig with | some d => d = dg | none => True) := by
  obtain ⟨x, hx, _, hcbp, hdig, hnm⟩ := I.record h
  constructor
  · rintro ⟨x', hx', hs⟩
    rw [hx] at hx'; cases hx'
    have hs := (satisfies_iff ..).mp hs
    exact ⟨x.node, hnm, hcbp ▸ hs.1, hdig ▸ hs.2⟩
  · rintro ⟨nn, hnn, h1, h2⟩
    rw [hnm] at hnn; cases hnn
    exact ⟨x, hx, (satisfies_iff ..).mpr ⟨hcbp ▸ h1, hdig ▸ h2⟩⟩

theorem uniq {s : St} (I : Inv1 s) {i j : Nat} {e1 e2 : Pend} (h1 : pendingAt s i e1)
    (h2 : pendingAt s j e2) (hid : e1.id = e2.id) : i = j ∧ e1 = e2 := by
  obtain ⟨tm1, ht1, hn1, _⟩ := I.timer h1
  obtain ⟨tm2, ht2, hn2, _⟩ := I.timer h2
  rw [hid, ht2] at ht1; cases ht1
  have hij : i = j := hn1.symm.trans hn2
  subst hij
  obtain ⟨l1, hl1, m1⟩ := h1
  obtain ⟨l2, hl2, m2⟩ := h2
  rw [hl1] at hl2; cases hl2
  exact ⟨rfl, inj_of_nodup_map _ (I.nodup i l1 hl1) m1 m2 hid⟩

theorem init : Inv1 St.init := by
  have hv : ∀ (i : Nat) (l : List Pend), valAt St.init.pit i = some l → l = [] := by
    intro i l h
    obtain ⟨n, hn, rfl⟩ := valAt_eq_some.mp h
    rw [(get_newTrie hn).2]
  refine ⟨WF.newTrie _, rfl, ?_, ?_, ?_, List.nodup_nil, ?_, ?_, ?_, ?_⟩
  · intro k x h; cases k <;> cases h
  · rintro i e ⟨l, hl, he⟩; rw [hv i l hl] at he; cases he
  · intro i l hl; rw [hv i l hl]; exact List.nodup_nil
  · intro c hc; cases hc
  · intro id hid; cases hid
  · intro c hc; cases hc
  · intro c hc; cases hc

end Inv1

/-- the part of `Inv1` that the loop of onData keeps while it runs -/
structure UniqH (h : PHeap) : Prop where
  nodup : ∀ (i : Nat) (l : List Pend), valAt h i = some l → (l.map (·.id)).Nodup
  cross : ∀ (i j : Nat) (e1 e2 : Pend), pendH h i e1 → pendH h j e2 → e1.id = e2.id → i = j ∧ e1 = e2

namespace Inv1

theorem uniqH {s : St} (I : Inv1 s) : UniqH s.pit :=
  ⟨I.nodup, fun _ _ _ _ h1 h2 hid => I.uniq h1 h2 hid⟩

end Inv1

namespace UniqH

theorem shrink {h h' : PHeap} (u : UniqH h) (x : Shrink h h') : UniqH h' := by
  refine ⟨?_, ?_⟩
  · intro i l' hl'
    obtain ⟨l, hl, hs⟩ := x.sub i l' hl'
    exact (u.nodup i l hl).sublist (hs.map _)
  · intro i j e1 e2 p1 p2 hid
    exact u.cross i j e1 e2 (x.pend p1) (x.pend p2) hid

end UniqH


/-- A step that only removes pending entries and logs one callback for each of them; a timer may change its
    state only if no entry with its id is left (`tmr`). -/
structure Resolve (s s' : St) (new : List Cb) : Prop where
  now : s'.now = s.now
  exprs : s'.exprs = s.exprs
  cbs : s'.cbs = s.cbs ++ new
  wf : WF s'.pit
  name : ∀ j : Nat, nameAt s'.pit j = nameAt s.pit j
  sub : ∀ (j : Nat) (l' : List Pend), valAt s'.pit j = some l' →
      ∃ l, valAt s.pit j = some l ∧ l'.Sublist l
  kept_or_cb : ∀ (i : Nat) (e : Pend), pendingAt s i e → pendingAt s' i e ∨ ∃ c ∈ new, c.id = e.id
  cb_from : ∀ c ∈ new, c.t = s.now ∧ ∃ (i : Nat) (e : Pend), pendingAt s i e ∧ e.id = c.id ∧
      ¬ pendingAt s' i e ∧ (c.kind = .timeout → e.deadline ≤ s.now) ∧
      (∀ (nm : Name) (dg : Bytes), c.kind = .data nm dg → ∃ nn : Name, nameAt s.pit i = some nn ∧
          (if e.cbp then Spec.isPre nn nm = true else nn = nm) ∧
          (match e.dig with | some d => d = dg | none => True))
  new_nodup : (new.map (·.id)).Nodup
  tlen : s'.timers.length = s.timers.length
  tmr : ∀ (k : Nat) (tm : Tmr), s.timers[k]? = some tm → ∃ tm' : Tmr, s'.timers[k]? = some tm' ∧
      tm'.node = tm.node ∧ tm'.fire = tm.fire ∧
      (tm'.st = tm.st ∨ ∀ (i : Nat) (e : Pend), pendingAt s' i e → e.id ≠ k)

namespace Resolve

theorem shrink {s s' : St} {new : List Cb} (R : Resolve s s' new) : Shrink s.pit s'.pit := ⟨R.name, R.sub⟩

end Resolve

namespace Inv1

theorem resolve {s s' : St} {new : List Cb} (I : Inv1 s) (R : Resolve s s' new) : Inv1 s' := by
  have gone : ∀ c ∈ new, ∀ (i : Nat) (e : Pend), pendingAt s' i e → e.id ≠ c.id := by
    intro c hc i e he hid
    obtain ⟨_, i0, e0, hp0, hid0, hnp, _⟩ := R.cb_from c hc
    obtain ⟨hij, hee⟩ := I.uniq (R.shrink.pend he) hp0 (hid.trans hid0.symm)
    subst hij; subst hee
    exact hnp he
  refine ⟨R.wf, by rw [R.exprs, R.tlen]; exact I.len, by rw [R.exprs]; exact I.exid, ?_, ?_, ?_, ?_, ?_, ?_, ?_⟩
  · intro i e he
    have hp := R.shrink.pend he
    have h1 := I.tid_eq hp
    obtain ⟨tm, ht, hn, hf, hst⟩ := I.timer hp
    obtain ⟨x, hx, hd, hc, hg, hnm⟩ := I.record hp
    obtain ⟨tm', ht', hn', hf', hst'⟩ := R.tmr e.id tm ht
    refine ⟨h1, tm', x, ht', hn'.trans hn, hf'.trans hf, ?_, by rw [R.exprs]; exact hx, hd, hc, hg,
      by rw [R.name]; exact hnm⟩
    rcases hst' with h | h
    · rw [h, hf', R.now]; exact hst
    · exact absurd rfl (h i e he)
  · exact (I.uniqH.shrink R.shrink).nodup
  · rw [R.cbs, List.map_append, List.nodup_append]
    refine ⟨I.cbs_nodup, R.new_nodup, ?_⟩
    intro a ha b hb hab
    obtain ⟨c1, hc1, rfl⟩ := List.mem_map.mp ha
    obtain ⟨c2, hc2, rfl⟩ := List.mem_map.mp hb
    obtain ⟨_, i0, e0, hp0, hid0, _⟩ := R.cb_from c2 hc2
    exact (I.cbs_done c1 hc1).2 i0 e0 hp0 (hid0.trans hab.symm)
  · intro c hc
    rw [R.cbs, List.mem_append] at hc
    rw [R.exprs]
    rcases hc with hc | hc
    · exact ⟨(I.cbs_done c hc).1, fun i e he => (I.cbs_done c hc).2 i e (R.shrink.pend he)⟩
    · obtain ⟨_, i0, e0, hp0, hid0, _⟩ := R.cb_from c hc
      obtain ⟨x, hx, _⟩ := I.record hp0
      exact ⟨hid0 ▸ lt_of_get hx, gone c hc⟩
  · intro id hid
    rw [R.exprs] at hid
    rw [R.cbs]
    rcases I.cover id hid with ⟨c, hc, h⟩ | ⟨i, e, he, h⟩
    · exact Or.inl ⟨c, List.mem_append_left _ hc, h⟩
    · rcases R.kept_or_cb i e he with h' | ⟨c, hc, h'⟩
      · exact Or.inr ⟨i, e, h', h⟩
      · exact Or.inl ⟨c, List.mem_append_right _ hc, h'.trans h⟩
  · intro c hc hk
    rw [R.cbs, List.mem_append] at hc
    rw [R.exprs]
    rcases hc with hc | hc
    · exact I.tout c hc hk
    · obtain ⟨ht, i0, e0, hp0, hid0, _, hto, _⟩ := R.cb_from c hc
      obtain ⟨x, hx, hd, _⟩ := I.record hp0
      exact ⟨x, hid0 ▸ hx, ht ▸ hd ▸ hto hk⟩
  · intro c hc nm dg hk
    rw [R.cbs, List.mem_append] at hc
    rw [R.exprs]
    rcases hc with hc | hc
    · exact I.dsat c hc nm dg hk
    · obtain ⟨_, i0, e0, hp0, hid0, _, _, hds⟩ := R.cb_from c hc
      rw [← hid0]
      exact (I.sat_iff hp0 nm dg).mpr (hds nm dg hk)

end Inv1

end Ndn.C20
