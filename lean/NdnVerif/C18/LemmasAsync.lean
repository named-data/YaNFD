/-
  C18 — lemmas about the task-level model of the advertisement machinery (`Async.lean`):
  the invariant `Inv` of every reachable state and its preservation by every step; `Announced` (kept by every
  non-fault step); `work` decreases under every internal step, and a non-quiescent state has one.
-/
import NdnVerif.C18.Async
namespace Ndn.C18.Async

theorem eq_or_mem_removeAt {α} {l : List α} {i : Nat} {x y : α} (hx : x ∈ l) (hy : l[i]? = some y) :
    x = y ∨ x ∈ removeAt l i := by
  obtain ⟨j, hj⟩ := List.mem_iff_getElem?.mp hx
  by_cases e : j = i
  · exact Or.inl (Option.some.inj ((e ▸ hj).symm.trans hy))
  · exact Or.inr (List.mem_eraseIdx_iff_getElem?.2 ⟨j, e, hj⟩)

theorem forall_mem_removeAt {α} {l : List α} {i : Nat} {P : α → Prop} (h : ∀ x ∈ l, P x) :
    ∀ x ∈ removeAt l i, P x :=
  fun x hx => h x (List.mem_of_mem_eraseIdx hx)

theorem length_removeAt {α} {l : List α} {i : Nat} (h : i < l.length) : (removeAt l i).length + 1 = l.length := by
  unfold removeAt; rw [List.length_eraseIdx, if_pos h]; omega

/-- a token of the fetch of number `s` exists: a sleeping fetch goroutine, an Interest pending, or Data in flight -/
def Token (st : St) (s : Nat) : Prop := s ∈ st.fetchTasks ∨ s ∈ st.reqs ∨ ∃ v, (s, v) ∈ st.datas

theorem token_mono {st st' : St} {s : Nat} (h1 : ∀ x ∈ st.fetchTasks, x ∈ st'.fetchTasks) (h2 : ∀ x ∈ st.reqs, x ∈ st'.reqs)
    (h3 : ∀ x ∈ st.datas, x ∈ st'.datas) (t : Token st s) : Token st' s :=
  t.imp (h1 s) (Or.imp (h2 s) fun ⟨v, t⟩ => ⟨v, h3 _ t⟩)

/-- what holds in every state reachable from `init` -/
structure Inv (st : St) : Prop where
  /-- the RIB version at the last bump of the number … -/
  seqVerLe : st.seqVer ≤ st.ver
  /-- … is behind only while a propagation goroutine is pending -/
  seqVerLt : st.seqVer < st.ver → 0 < st.grpFib + st.grpNotify
  fibLe : st.fibVer ≤ st.ver
  /-- a FIB behind the RIB has a `fibUpdate` pending -/
  fibLt : st.fibVer < st.ver → 0 < st.grpFib
  /-- no number ahead of w's -/
  syncsLe : ∀ s ∈ st.syncs, s ≤ st.seq
  advLe : st.advSeq ≤ st.seq
  tasksLe : ∀ s ∈ st.fetchTasks, s ≤ st.seq
  reqsLe : ∀ s ∈ st.reqs, s ≤ st.seq
  /-- Data named by the current number was encoded after the bump to it -/
  datasLe : ∀ p ∈ st.datas, p.1 ≤ st.seq ∧ p.2 ≤ st.ver ∧ (p.1 = st.seq → st.seqVer ≤ p.2)
  /-- u has heard the current number: its fetch is under way (a token) or its answer is stored -/
  heard : st.hasNbr = true → st.advSeq = st.seq → Token st st.seq ∨ ∃ v, st.stored = some v ∧ st.seqVer ≤ v
  storedLe : ∀ v, st.stored = some v → v ≤ st.ver
  appliedNone : st.stored = none → st.applied = none
  /-- no `ribUpdate(ns)` pending: u's RIB was computed from the stored advertisement -/
  appliedEq : st.ribTasks = 0 → st.applied = st.stored

theorem Inv.heard_move {st : St} (h : Inv st) {T R : List Nat} {D : List (Nat × Nat)} {s : Nat}
    (h1 : ∀ x ∈ st.fetchTasks, x = s ∨ x ∈ T) (h2 : ∀ x ∈ st.reqs, x = s ∨ x ∈ R)
    (h3 : ∀ x ∈ st.datas, x.1 = s ∨ x ∈ D)
    (hs : st.hasNbr = true → st.advSeq = s → s ∈ T ∨ s ∈ R ∨ ∃ v, (s, v) ∈ D)
    (hn : st.hasNbr = true) (he : st.advSeq = st.seq) :
    (st.seq ∈ T ∨ st.seq ∈ R ∨ ∃ v, (st.seq, v) ∈ D) ∨ ∃ v, st.stored = some v ∧ st.seqVer ≤ v := by
  refine (h.heard hn he).imp_left fun t => ?_
  rcases t with t | t | ⟨v, t⟩
  · rcases h1 _ t with rfl | t
    · exact hs hn he
    · exact Or.inl t
  · rcases h2 _ t with rfl | t
    · exact hs hn he
    · exact Or.inr (Or.inl t)
  · rcases h3 _ t with e | t
    · cases e; exact hs hn he
    · exact Or.inr (Or.inr ⟨v, t⟩)

theorem inv_init (s0 : Nat) : Inv (init s0) := by
  constructor <;> simp [init, Token]

theorem inv_onSync {st : St} (h : Inv st) (s : Nat) (hs : s ≤ st.seq) : Inv (onSync st s) := by
  unfold onSync; split
  · exact h
  · exact { h with
      advLe := hs
      tasksLe := List.forall_mem_cons.2 ⟨hs, h.tasksLe⟩
      heard := fun _ (e : s = st.seq) => Or.inl (Or.inl (e ▸ List.mem_cons_self ..)) }

theorem inv_dropSyncs {st : St} (h : Inv st) (i : Nat) : Inv { st with syncs := removeAt st.syncs i } :=
  { h with syncsLe := forall_mem_removeAt h.syncsLe }

theorem inv_step {st : St} (h : Inv st) (s : Step) : Inv (step st s) := by
  cases s with
  | change =>
    exact { h with
      seqVerLe := Nat.le_succ_of_le h.seqVerLe
      seqVerLt := fun _ => show 0 < st.grpFib + 1 + st.grpNotify by omega
      fibLe := Nat.le_succ_of_le h.fibLe
      fibLt := fun _ => Nat.succ_pos st.grpFib
      datasLe := fun p hp => ⟨(h.datasLe p hp).1, Nat.le_succ_of_le (h.datasLe p hp).2.1, (h.datasLe p hp).2.2⟩
      storedLe := fun v hv => Nat.le_succ_of_le (h.storedLe v hv) }
  | runFib =>
    simp only [step]; split
    · exact h
    · exact { h with
        seqVerLt := fun _ => show 0 < st.grpFib - 1 + (st.grpNotify + 1) by omega
        fibLe := Nat.le_refl st.ver
        fibLt := fun hh => absurd hh (Nat.lt_irrefl st.ver) }
  | runNotify =>
    simp only [step]; split
    · exact h
    · -- the number advances: nothing in flight carries the new one yet, and u has not heard it
      exact { h with
        seqVerLe := Nat.le_refl st.ver
        seqVerLt := fun hh => absurd hh (Nat.lt_irrefl st.ver)
        syncsLe := fun s hs => Nat.le_succ_of_le (h.syncsLe s hs)
        advLe := Nat.le_succ_of_le h.advLe
        tasksLe := fun s hs => Nat.le_succ_of_le (h.tasksLe s hs)
        reqsLe := fun s hs => Nat.le_succ_of_le (h.reqsLe s hs)
        datasLe := fun p hp => ⟨Nat.le_succ_of_le (h.datasLe p hp).1, (h.datasLe p hp).2.1,
          fun (e : p.1 = st.seq + 1) => absurd (h.datasLe p hp).1 (by omega)⟩
        heard := fun _ (e : st.advSeq = st.seq + 1) => absurd h.advLe (by omega) }
  | runSend =>
    simp only [step]; split
    · exact h
    · exact { h with syncsLe := List.forall_mem_cons.2 ⟨Nat.le_refl st.seq, h.syncsLe⟩ }
  | heartbeat =>
    exact { h with syncsLe := List.forall_mem_cons.2 ⟨Nat.le_refl st.seq, h.syncsLe⟩ }
  | deliverSync i keep =>
    simp only [step]; split
    · exact h
    · next s hs =>
      have hle : s ≤ st.seq := h.syncsLe s (List.mem_of_getElem? hs)
      cases keep
      · exact inv_onSync (inv_dropSyncs h i) s hle
      · exact inv_onSync h s hle
  | dropSync i => exact inv_dropSyncs h i
  | runFetch i =>
    simp only [step]; split
    · exact h
    · next s hs =>
      have hle := h.tasksLe s (List.mem_of_getElem? hs)
      split
      · -- the guard holds: the fetch becomes an Interest
        refine { h with
          tasksLe := forall_mem_removeAt h.tasksLe
          reqsLe := List.forall_mem_cons.2 ⟨hle, h.reqsLe⟩
          heard := h.heard_move (s := s) (fun x hx => ?_) (fun x hx => ?_) (fun x hx => ?_) (fun hn e => ?_) }
        · exact eq_or_mem_removeAt hx hs
        · exact Or.inr (List.mem_cons_of_mem _ hx)
        · exact Or.inr hx
        · exact Or.inr (Or.inl (List.mem_cons_self ..))
      · -- the guard fails: not the number u waits for
        next hc =>
        simp only [Bool.and_eq_true, decide_eq_true_eq, not_and] at hc
        refine { h with
          tasksLe := forall_mem_removeAt h.tasksLe
          heard := h.heard_move (s := s) (fun x hx => ?_) (fun x hx => ?_) (fun x hx => ?_) (fun hn e => ?_) }
        · exact eq_or_mem_removeAt hx hs
        · exact Or.inr hx
        · exact Or.inr hx
        · exact absurd e (hc hn)
  | serve i keep =>
    simp only [step]; split
    · exact h
    · next s hs =>
      have hle := h.reqsLe s (List.mem_of_getElem? hs)
      refine { h with
        reqsLe := ?_
        datasLe := List.forall_mem_cons.2 ⟨⟨hle, Nat.le_refl st.ver, fun _ => h.seqVerLe⟩, h.datasLe⟩
        heard := h.heard_move (s := s) (fun x hx => ?_) (fun x hx => ?_) (fun x hx => ?_) (fun hn e => ?_) }
      · cases keep
        · exact forall_mem_removeAt h.reqsLe
        · exact h.reqsLe
      · exact Or.inr hx
      · cases keep
        · exact eq_or_mem_removeAt hx hs
        · exact Or.inr hx
      · exact Or.inr (List.mem_cons_of_mem _ hx)
      · exact Or.inr (Or.inr ⟨st.ver, List.mem_cons_self ..⟩)
  | timeoutReq i =>
    simp only [step]; split
    · exact h
    · next s hs =>
      refine { h with
        tasksLe := List.forall_mem_cons.2 ⟨h.reqsLe s (List.mem_of_getElem? hs), h.tasksLe⟩
        reqsLe := forall_mem_removeAt h.reqsLe
        heard := h.heard_move (s := s) (fun x hx => ?_) (fun x hx => ?_) (fun x hx => ?_) (fun hn e => ?_) }
      · exact Or.inr (List.mem_cons_of_mem _ hx)
      · exact eq_or_mem_removeAt hx hs
      · exact Or.inr hx
      · exact Or.inl (List.mem_cons_self ..)
  | deliverData i keep =>
    simp only [step]; split
    · exact h
    · next s v hs =>
      have hd := h.datasLe _ (List.mem_of_getElem? hs)
      split
      · -- accepted: the stored advertisement is at least as new as the last bump
        next hc =>
        simp only [Bool.and_eq_true, decide_eq_true_eq] at hc
        have hi : ∀ D, (∀ p ∈ D, p.1 ≤ st.seq ∧ p.2 ≤ st.ver ∧ (p.1 = st.seq → st.seqVer ≤ p.2)) →
            Inv { st with datas := D, stored := some v, ribTasks := st.ribTasks + 1 } := fun D hD =>
          { h with
            datasLe := hD
            heard := fun _ he => Or.inr ⟨v, rfl, hd.2.2 (hc.2.symm.trans he)⟩
            storedLe := fun x hx => Option.some.inj hx ▸ hd.2.1
            appliedNone := fun hh => nomatch hh
            appliedEq := fun hh => nomatch hh }
        cases keep
        · exact hi _ (forall_mem_removeAt h.datasLe)
        · exact hi _ h.datasLe
      · -- rejected: not the number u waits for
        next hc =>
        simp only [Bool.and_eq_true, decide_eq_true_eq, not_and] at hc
        cases keep
        · refine { h with
            datasLe := forall_mem_removeAt h.datasLe
            heard := h.heard_move (s := s) (fun x hx => ?_) (fun x hx => ?_) (fun x hx => ?_) (fun hn e => ?_) }
          · exact Or.inr hx
          · exact Or.inr hx
          · exact (eq_or_mem_removeAt hx hs).imp_left (congrArg Prod.fst)
          · exact absurd e (hc hn)
        · exact h
  | loseData i =>
    simp only [step]; split
    · exact h
    · next s v hs =>
      refine { h with
        tasksLe := List.forall_mem_cons.2 ⟨(h.datasLe _ (List.mem_of_getElem? hs)).1, h.tasksLe⟩
        datasLe := forall_mem_removeAt h.datasLe
        heard := h.heard_move (s := s) (fun x hx => ?_) (fun x hx => ?_) (fun x hx => ?_) (fun hn e => ?_) }
      · exact Or.inr (List.mem_cons_of_mem _ hx)
      · exact Or.inr hx
      · exact (eq_or_mem_removeAt hx hs).imp_left (congrArg Prod.fst)
      · exact Or.inl (List.mem_cons_self ..)
  | runRib =>
    simp only [step]; split
    · exact h
    · exact { h with
        appliedNone := fun (hh : st.stored = none) => by rw [hh]; exact h.appliedNone hh
        appliedEq := fun _ => by
          cases hst : st.stored with
          | none => exact h.appliedNone hst
          | some v => rfl }
  | dead =>
    exact { h with
      advLe := Nat.zero_le st.seq
      heard := fun hh => nomatch hh
      storedLe := fun _ hh => nomatch hh
      appliedNone := fun _ => rfl
      appliedEq := fun _ => rfl }

theorem inv_run {st : St} (h : Inv st) (steps : List Step) : Inv (run st steps) :=
  List.foldlRecOn steps _ h fun _ h s _ => inv_step h s

theorem quiescent_heard {st : St} (h : Inv st) (q : Quiescent st) (hd : Heard st) :
    st.applied = some st.ver ∧ st.fibVer = st.ver := by
  obtain ⟨q1, q2, _, _, q5, q6, q7, q8⟩ := q
  have e1 : st.seqVer = st.ver := by
    have := h.seqVerLe; have := h.seqVerLt; omega
  have e2 : st.fibVer = st.ver := by
    have := h.fibLe; have := h.fibLt; omega
  rcases h.heard hd.1 hd.2 with t | ⟨v, hv, hle⟩
  · rcases t with t | t | ⟨v, t⟩
    · rw [q5] at t; cases t
    · rw [q6] at t; cases t
    · rw [q7] at t; cases t
  · cases Nat.le_antisymm (h.storedLe v hv) (e1 ▸ hle)
    exact ⟨(h.appliedEq q8).trans hv, e2⟩

/-- a Sync Interest lost, or the neighbour declared dead: the two events after which only the next
    heartbeat re-announces the current number -/
def Step.fault : Step → Bool
  | .dropSync _ | .dead => true
  | _ => false

def Announced (st : St) : Prop := Heard st ∨ st.seq ∈ st.syncs ∨ 0 < st.sendPending

theorem announced_heartbeat (st : St) : Announced (step st .heartbeat) :=
  Or.inr (Or.inl (List.mem_cons_self ..))

theorem heard_onSync_same {st : St} (h : Inv st) : Heard (onSync st st.seq) := by
  unfold onSync; split
  · next hc =>
    simp only [Bool.and_eq_true, decide_eq_true_eq] at hc
    exact ⟨hc.1, Nat.le_antisymm h.advLe hc.2⟩
  · exact ⟨rfl, rfl⟩

theorem heard_onSync {st : St} (hd : Heard st) (s : Nat) (hs : s ≤ st.seq) : Heard (onSync st s) := by
  unfold onSync; split
  · exact hd
  · next hc =>
    simp only [Bool.and_eq_true, decide_eq_true_eq, not_and] at hc
    exact absurd (hd.2 ▸ hs) (hc hd.1)

theorem announced_onSync {st : St} {s : Nat} (hs : s ≤ st.seq) (a : Announced st) : Announced (onSync st s) := by
  refine a.imp (fun hd => heard_onSync hd s hs) ?_
  unfold onSync; split <;> exact id

theorem announced_step {st : St} (h : Inv st) (a : Announced st) (s : Step) (nf : s.fault = false) :
    Announced (step st s) := by
  cases s with
  | change => exact a
  | runFib | serve _ _ | timeoutReq _ | loseData _ | runRib => simp only [step]; split <;> exact a
  | runNotify =>
    simp only [step]; split
    · exact a
    · exact Or.inr (Or.inr (Nat.succ_pos _))
  | runSend =>
    simp only [step]; split
    · exact a
    · exact Or.inr (Or.inl (List.mem_cons_self ..))
  | heartbeat => exact announced_heartbeat st
  | deliverSync i keep =>
    simp only [step]; split
    · exact a
    · next s hs =>
      have hle : s ≤ st.seq := h.syncsLe s (List.mem_of_getElem? hs)
      cases keep
      · rcases a with a | a | a
        · exact Or.inl (heard_onSync (st := { st with syncs := removeAt st.syncs i }) a s hle)
        · rcases eq_or_mem_removeAt a hs with e | a
          · exact Or.inl (e ▸ heard_onSync_same (inv_dropSyncs h i))
          · exact announced_onSync (st := { st with syncs := removeAt st.syncs i }) hle (Or.inr (Or.inl a))
        · exact announced_onSync (st := { st with syncs := removeAt st.syncs i }) hle (Or.inr (Or.inr a))
      · exact announced_onSync hle a
  | runFetch i =>
    simp only [step]; split
    · exact a
    · split <;> exact a
  | deliverData i keep =>
    simp only [step]; split
    · exact a
    · split <;> cases keep <;> exact a
  | dropSync _ | dead => cases nf

theorem announced_run {st : St} (h : Inv st) (a : Announced st) (steps : List Step)
    (nf : ∀ s ∈ steps, s.fault = false) : Announced (run st steps) :=
  (List.foldlRecOn (motive := fun st => Inv st ∧ Announced st) steps _ ⟨h, a⟩
    fun _ ⟨h, a⟩ s hs => ⟨inv_step h s, announced_step h a s (nf s hs)⟩).2

theorem announced_quiescent {st : St} (a : Announced st) (q : Quiescent st) : Heard st := by
  obtain ⟨_, _, q3, q4, _⟩ := q
  rcases a with a | a | a
  · exact a
  · rw [q4] at a; cases a
  · exact absurd a (q3 ▸ Nat.lt_irrefl 0)

/-- one item leaves a stage of weight `k`; at most one enters a later stage, of weight `j < k` -/
theorem stage_lt {P k j a a' b : Nat} (ha : a' + 1 = a) (hjk : j < k) :
    P + k * a' + j * (b + 1) < P + k * a + j * b := by
  subst ha; rw [Nat.mul_succ, Nat.mul_succ]; omega

theorem stage_drop {P k a a' : Nat} (ha : a' + 1 = a) (hk : 0 < k) : P + k * a' < P + k * a :=
  Nat.add_lt_add_left (Nat.mul_lt_mul_of_pos_left (ha ▸ Nat.lt_succ_self a') hk) P

/-- the weights of `work` follow the pipeline grpFib → grpNotify → sendPending → sync → fetch task → Interest → Data →
    ribUpdate: an internal step turns one item into at most one of the next stage (`stage_lt`, `stage_drop`; the
    summands behind the two stages are cancelled first, those in front are the `P` of the lemma) -/
theorem work_decreases (st : St) (s : Step) (hi : s.internal = true) (he : s.enabled st = true) :
    work (step st s) < work st := by
  have pred {a : Nat} (h : a ≠ 0) : a - 1 + 1 = a := Nat.sub_add_cancel (Nat.pos_of_ne_zero h)
  cases s with
  | runFib =>
    have he : st.grpFib ≠ 0 := of_decide_eq_true he
    rw [show step st .runFib = _ from if_neg he]
    -- the first stage: no summand in front
    unfold work; simp only [Nat.add_lt_add_iff_right]; omega
  | runNotify =>
    have he : st.grpNotify ≠ 0 := of_decide_eq_true he
    rw [show step st .runNotify = _ from if_neg he]
    unfold work; simp only [Nat.add_lt_add_iff_right]
    exact stage_lt (pred he) (by decide)
  | runSend =>
    have he : st.sendPending ≠ 0 := of_decide_eq_true he
    rw [show step st .runSend = _ from if_neg he]
    unfold work; simp only [List.length_cons, Nat.add_lt_add_iff_right]
    exact stage_lt (pred he) (by decide)
  | runRib =>
    have he : st.ribTasks ≠ 0 := of_decide_eq_true he
    rw [show step st .runRib = _ from if_neg he]
    exact Nat.add_lt_add_left (Nat.sub_lt (Nat.pos_of_ne_zero he) Nat.one_pos) _
  | deliverSync i keep =>
    cases keep <;> cases hi
    have he : i < st.syncs.length := of_decide_eq_true he
    have := length_removeAt he
    unfold step onSync
    simp only [List.getElem?_eq_getElem he, Bool.false_eq_true, if_false]
    split <;> (unfold work; simp only [List.length_cons, Nat.add_lt_add_iff_right])
    · exact stage_drop this (by decide)
    · exact stage_lt this (by decide)
  | runFetch i =>
    have he : i < st.fetchTasks.length := of_decide_eq_true he
    have := length_removeAt he
    unfold step
    simp only [List.getElem?_eq_getElem he]
    split <;> (unfold work; simp only [List.length_cons, Nat.add_lt_add_iff_right])
    · exact stage_lt this (by decide)
    · exact stage_drop this (by decide)
  | serve i keep =>
    cases keep <;> cases hi
    have he : i < st.reqs.length := of_decide_eq_true he
    have := length_removeAt he
    unfold step
    simp only [List.getElem?_eq_getElem he, Bool.false_eq_true, if_false]
    unfold work; simp only [List.length_cons, Nat.add_lt_add_iff_right]
    exact stage_lt this (by decide)
  | deliverData i keep =>
    cases keep <;> cases hi
    have he : i < st.datas.length := of_decide_eq_true he
    have := length_removeAt he
    unfold step
    simp only [List.getElem?_eq_getElem he, Bool.false_eq_true, if_false]
    split <;> (unfold work; simp only [Nat.add_lt_add_iff_right, Nat.add_lt_add_iff_left]; omega)
  | change | heartbeat | dropSync _ | timeoutReq _ | loseData _ | dead => cases hi

theorem busy_has_step (st : St) (nq : ¬ Quiescent st) :
    ∃ s : Step, s.internal = true ∧ s.enabled st = true := by
  have pos : ∀ {α} {l : List α}, l ≠ [] → decide (0 < l.length) = true := fun h =>
    decide_eq_true (List.length_pos_iff.2 h)
  by_cases h1 : st.grpFib = 0
  case neg => exact ⟨.runFib, rfl, decide_eq_true h1⟩
  by_cases h2 : st.grpNotify = 0
  case neg => exact ⟨.runNotify, rfl, decide_eq_true h2⟩
  by_cases h3 : st.sendPending = 0
  case neg => exact ⟨.runSend, rfl, decide_eq_true h3⟩
  by_cases h4 : st.syncs = []
  case neg => exact ⟨.deliverSync 0 false, rfl, pos h4⟩
  by_cases h5 : st.fetchTasks = []
  case neg => exact ⟨.runFetch 0, rfl, pos h5⟩
  by_cases h6 : st.reqs = []
  case neg => exact ⟨.serve 0 false, rfl, pos h6⟩
  by_cases h7 : st.datas = []
  case neg => exact ⟨.deliverData 0 false, rfl, pos h7⟩
  by_cases h8 : st.ribTasks = 0
  case neg => exact ⟨.runRib, rfl, decide_eq_true h8⟩
  exact absurd ⟨h1, h2, h3, h4, h5, h6, h7, h8⟩ nq

end Ndn.C18.Async
