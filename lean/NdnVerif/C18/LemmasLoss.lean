/-
  C18 — link / router loss.  Once every router that lost a neighbour has run its dead-neighbour check for it, the
  network state fits the remaining topology — the hypothesis of `converges` — so the tables re-converge to the
  shortest paths of what is left.
-/
import NdnVerif.C18.LemmasConv
namespace Ndn.C18

variable {g : Graph} {net net' : Net}

/-- every router keeps a neighbour state for every next hop through which it holds a finite cost -/
def NbrCover (net : Net) : Prop :=
  ∀ (u : Nat) (r : Router), net[u]? = some r → ∀ d h, r.rib.cst d h < inf → h = r.id ∨ (aget r.nbrs h).isSome

theorem start_cover (ids : List Nat) : NbrCover (ids.map Router.start) := by
  intro u r hr d h hlt
  rw [List.getElem?_map] at hr
  cases hi : ids[u]? with
  | none => rw [hi] at hr; cases hr
  | some id =>
    rw [hi] at hr
    cases hr
    rw [(start_wf_cst id).2 d h] at hlt
    by_cases hc : d = id ∧ h = id
    · exact Or.inl hc.2
    · rw [if_neg hc] at hlt; exact absurd hlt (Nat.lt_irrefl _)

theorem cover_setAt (cov : NbrCover net) {u : Nat} {ru : Router} (hu : net[u]? = some ru)
    {rib' : Rib} {nbrs' : List (Nat × Nat)}
    (h' : ∀ d h, rib'.cst d h < inf → h = ru.id ∨ (aget nbrs' h).isSome) :
    NbrCover (net.setAt u { ru with rib := rib', nbrs := nbrs' }) := by
  intro x r hr d h hlt
  rw [getElem?_setAt hu] at hr
  split at hr
  · cases hr; exact h' d h hlt
  · exact cov x r hr d h hlt

theorem fetch_cover {u w face : Nat} {fl : Bool} (wf : net.AllWF) (cov : NbrCover net)
    (hf : net.fetch u w face = some (net', fl)) : NbrCover net' := by
  obtain ⟨ru, rw, hu, _, rfl⟩ := of_fetch_eq_some hf
  obtain ⟨_, hc⟩ := ribUpdate_wf_cst ru.id (wf ru (List.mem_of_getElem? hu)) rw.id rw.rib.advert
  refine cover_setAt cov hu fun d h hlt => ?_
  rw [aget_aset]
  by_cases hh : h = rw.id
  · rw [if_pos hh]; exact Or.inr rfl
  · rw [hc, if_neg hh] at hlt
    rw [if_neg hh]; exact cov u ru hu d h hlt

theorem dead_cover {u w : Nat} {fl : Bool} (wf : net.AllWF) (cov : NbrCover net)
    (hf : net.dead u w = some (net', fl)) : NbrCover net' := by
  obtain ⟨ru, rw, hu, _, rfl⟩ := of_dead_eq_some hf
  obtain ⟨_, hc⟩ := ribDead_wf_cst (wf ru (List.mem_of_getElem? hu)) rw.id
  refine cover_setAt cov hu fun d h hlt => ?_
  rw [hc] at hlt
  rw [aget_aerase]
  by_cases hh : h = rw.id
  · rw [if_pos hh] at hlt; exact absurd hlt (Nat.lt_irrefl _)
  · rw [if_neg hh] at hlt ⊢; exact cov u ru hu d h hlt

/-- the dead-neighbour check of `u` for `w` (no effect without a neighbour state) -/
def Net.deadStep (net : Net) (u w : Nat) : Net :=
  match net.dead u w with
  | some (net', _) => net'
  | none => net

theorem dead_none {u w : Nat} {ru rw : Router} (hu : net[u]? = some ru) (hw : net[w]? = some rw)
    (hf : net.dead u w = none) : aget ru.nbrs rw.id = none := by
  unfold Net.dead Net.get? at hf
  simp only [hu, hw] at hf
  cases hn : aget ru.nbrs rw.id with
  | none => rfl
  | some f => rw [hn] at hf; cases hf

/-- the dead-neighbour check of `u` for `w` resets the costs of `u` via `w` to infinity; without a neighbour state
    nothing changes, and by the cover invariant nothing finite was held via `w` -/
theorem deadStep_sem (ok : NetOK g net) (cov : NbrCover net) {u w : Nat}
    (hv : u < net.length ∧ w < net.length ∧ u ≠ w) :
    ColUpdate net (net.deadStep u w) u (net.idOf w) (fun _ => inf) ∧ NbrCover (net.deadStep u w) := by
  unfold Net.deadStep
  cases hf : net.dead u w with
  | some p => exact ⟨dead_sem ok.wf hf, dead_cover ok.wf cov hf⟩
  | none =>
    refine ⟨⟨ok.wf, rfl, fun _ => rfl, fun x d h => ?_, fun _ _ _ => rfl⟩, cov⟩
    by_cases hc : x = u ∧ h = net.idOf w
    · rw [if_pos hc]
      obtain ⟨rfl, rfl⟩ := hc
      apply Nat.le_antisymm (K_le_inf ok.wf x d _)
      apply Nat.le_of_not_lt; intro hlt
      have hu := List.getElem?_eq_getElem hv.1
      have hw := List.getElem?_eq_getElem hv.2.1
      rw [K_of_get hu, idOf_of_get hw] at hlt
      rcases cov x _ hu d _ hlt with h1 | h1
      · exact hv.2.2 (ok.idInj x w hv.1 hv.2.1 (by rw [idOf_of_get hu, idOf_of_get hw, h1]))
      · rw [dead_none hu hw hf] at h1; cases h1
    · rw [if_neg hc]

def Net.deads (net : Net) (lost : List (Nat × Nat)) : Net :=
  lost.foldl (fun n e => n.deadStep e.1 e.2) net

theorem NetOK.regraph {g g' : Graph} (ok : NetOK g net)
    (valid : ∀ u w, g'.adj u w → u < net.length ∧ w < net.length ∧ u ≠ w)
    (loc : ∀ u w, g.adj u w → (∃ d, net.K u d (net.idOf w) < inf) → g'.adj u w) : NetOK g' net :=
  ⟨ok.wf, valid, ok.idInj, ok.self, fun u d h hlt => (ok.loc u d h hlt).imp_right fun ⟨w, ha, hh⟩ =>
    ⟨w, loc u w ha ⟨d, hh ▸ hlt⟩, hh⟩⟩

/-- after the dead-neighbour checks along `lost` the state fits every graph that keeps the links of `g` not in `lost`:
    each check takes its link out of the graph the state fits -/
theorem deads_fit (lost : List (Nat × Nat)) : ∀ {g : Graph} {net : Net}, NetOK g net → NbrCover net →
    (∀ e ∈ lost, e.1 < net.length ∧ e.2 < net.length ∧ e.1 ≠ e.2) → ∀ g' : Graph,
    (∀ u w, g'.adj u w → u < net.length ∧ w < net.length ∧ u ≠ w) →
    (∀ u w, g.adj u w → (u, w) ∉ lost → g'.adj u w) →
    NetOK g' (net.deads lost) ∧ NbrCover (net.deads lost) := by
  induction lost with
  | nil => exact fun ok cov _ g' valid keep => ⟨ok.regraph valid fun u w ha _ => keep u w ha (nomatch ·), cov⟩
  | cons e t ih =>
    intro g net ok cov hall g' valid keep
    have hv := hall e (List.mem_cons_self ..)
    obtain ⟨c, cov1⟩ := deadStep_sem ok cov hv
    have ok1 : NetOK ⟨fun a b => g.adj a b ∧ ¬ (a = e.1 ∧ b = e.2)⟩ (net.deadStep e.1 e.2) :=
      c.fits ok hv (fun _ _ h => h.1) (fun _ _ h n => ⟨h, n⟩) fun _ h => absurd h (Nat.lt_irrefl _)
    rw [← c.len] at hall valid
    exact ih ok1 cov1 (fun x hx => hall x (List.mem_cons_of_mem _ hx)) g' valid fun u w ha hn =>
      keep u w ha.1 fun hm => (List.mem_cons.1 hm).elim (fun h => ha.2 ⟨congrArg Prod.fst h, congrArg Prod.snd h⟩) hn

theorem refit {g g' : Graph} (ok : NetOK g net) (cov : NbrCover net)
    (sub : ∀ u w, g'.adj u w → g.adj u w) (lost : List (Nat × Nat))
    (hl : ∀ e ∈ lost, g.adj e.1 e.2) (hcov : ∀ u w, g.adj u w → ¬ g'.adj u w → (u, w) ∈ lost) :
    NetOK g' (net.deads lost) ∧ NbrCover (net.deads lost) :=
  deads_fit lost ok cov (fun e he => ok.adjValid _ _ (hl e he)) g' (fun u w ha => ok.adjValid u w (sub u w ha))
    fun u w ha hn => Classical.byContradiction fun hg => hn (hcov u w ha hg)

theorem run_fit (s : List Exchange) : ∀ {net : Net}, NetOK g net → NbrCover net → Along g s →
    NetOK g (net.run s) ∧ NbrCover (net.run s) := by
  induction s with
  | nil => intro net ok cov _; exact ⟨ok, cov⟩
  | cons e t ih =>
    intro net ok cov hal
    obtain ⟨u, w⟩ := e
    have ha : g.adj u w := hal (u, w) (List.mem_cons_self ..)
    obtain ⟨net', fl, hf, e⟩ := run_cons_along ok ha t
    rw [e]
    exact ih (ok_fetch ok ha hf) (fetch_cover ok.wf cov hf) (fun x hx => hal x (List.mem_cons_of_mem _ hx))

end Ndn.C18
