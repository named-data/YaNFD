/-
  C18 — the property theorems, the histories they quantify over (`Event`, `Net.exec`, `Net.start`) and the concrete
  networks that meet their hypotheses.  Clauses of the property and the theorems that cover them:
    * ties are broken the same way for every map iteration order -> refresh_order_independent, refresh_is_lexicographic_top2
    * no advertisement ever lists a cost at or above infinity -> advert_never_infinite, costInfinity_is_sixteen
    * fixed point: cost = hop distance (< 16), next hop on a shortest path, deterministic tie-break, unreachable
      destinations withdrawn -> fixed_point_is_shortest_path, fixed_point_unreachable_withdrawn
    * reached within 16 fair rounds from ANY state -> converges_within_rounds
    * after any link or router loss, or addition -> reconverges_after_loss, links_can_be_added
    * the timing assumption behind stable links -> accepted_config_keeps_live_neighbours
    * the schedule is produced by the code (task-level model `Async.lean`) -> async_model_matches_source_structure,
      quiescent_link_is_synced, synced_after_heartbeat, pending_work_drains, star_quiescent_links_are_synced
    * synced links are the fixed points -> fixed_point_iff_all_links_synced, quiescent_network_is_shortest_path
-/
import NdnVerif.C18.Spec
import NdnVerif.C18.LemmasLoss
import NdnVerif.C18.AsyncFacts
import NdnVerif.C18.AsyncStar
namespace Ndn.C18

/-- the regenerated constant is the protocol's infinity metric -/
theorem costInfinity_is_sixteen : inf = 16 := rfl

/-- Every configuration `Config.Parse` accepts keeps a neighbour that is heard once per advertise interval
    alive: the time since its last heartbeat never exceeds the dead interval (so the deadcheck sweep on
    stable links removes nobody — the assumption under which exchanges on a stable topology are the only
    events, as in `converges_within_rounds`). -/
theorem accepted_config_keeps_live_neighbours (advMs deadMs : Nat) (h : configValid advMs deadMs = true) :
    Spec.deadIntervalOk advMs deadMs = true ∧ ∀ since, since ≤ advMs → ¬ since > deadMs := by
  simp only [configValid, Bool.and_eq_true, decide_eq_true_eq] at h
  refine ⟨by simp only [Spec.deadIntervalOk, decide_eq_true_eq]; omega, fun since hs => by omega⟩

example : configValid 5000 30000 = true ∧ configValid 5000 9999 = false ∧ configValid 999 30000 = false := by decide

/-- `RibEntry.refresh` gives the same lowest / second-lowest costs and next hops for EVERY iteration
    order of the cost map (Go map iteration is random). -/
theorem refresh_order_independent (c c' : Costs) (p : c.Perm c') (nd : (c.map (·.1)).Nodup) :
    refreshOf c = refreshOf c' :=
  (refreshOf_top2 c nd).unique (refreshOf_top2 c' ((p.map _).nodup_iff.1 nd)) fun _ => p.mem_iff

example : refreshOf [(7, 3), (5, 3), (9, 2)] = refreshOf [(9, 2), (5, 3), (7, 3)] := by decide

/-- ... and that result is the lexicographic minimum and second minimum of the finite (cost, hop)
    pairs: equal costs are always resolved towards the smaller hop key. -/
theorem refresh_is_lexicographic_top2 (c : Costs) (nd : (c.map (·.1)).Nodup) :
    let b := refreshOf c
    (∀ h k, (h, k) ∈ c → k < inf → lexLe b.low1 b.nh1 k h) ∧
    (∀ h k, (h, k) ∈ c → k < inf → (h = b.nh1 ∧ k = b.low1) ∨ lexLe b.low2 b.nh2 k h) ∧
    (b.low1 < inf → (b.nh1, b.low1) ∈ c) ∧
    (b.low2 < inf → (b.nh2, b.low2) ∈ c ∧ b.nh2 ≠ b.nh1) ∧
    b.low1 ≤ inf ∧ b.low2 ≤ inf := by
  have t := refreshOf_top2 c nd
  exact ⟨t.min1, t.min2, t.mem1, t.mem2, t.le1, t.le2⟩

example : refreshOf [(7, 3), (5, 3), (9, 4)] = { low1 := 3, nh1 := 5, low2 := 3, nh2 := 7 } := by decide

/-- an event of a network history -/
inductive Event where
  | fetch (u w face : Nat)
  | dead (u w : Nat)

def Net.step (net : Net) : Event → Net
  | .fetch u w face => match net.fetch u w face with
    | some (net', _) => net'
    | none => net
  | .dead u w => match net.dead u w with
    | some (net', _) => net'
    | none => net

def Net.exec (net : Net) (evs : List Event) : Net := evs.foldl Net.step net

/-- the network right after every router started (`Router.Start` adds the router to its own RIB) -/
def Net.start (ids : List Nat) : Net := ids.map Router.start

/-- a schedule of exchanges is a history of `fetch` events, so `advert_never_infinite` speaks of every state
    `Net.run` reaches (and `deads_eq_exec` of every state `Net.deads` reaches) -/
theorem run_eq_exec (net : Net) (s : List Exchange) :
    net.run s = net.exec (s.map fun e => .fetch e.1 e.2 (e.2 + 1)) := by
  induction s generalizing net with
  | nil => rfl
  | cons e t ih =>
    obtain ⟨u, w⟩ := e
    simp only [Net.run, List.map_cons, Net.exec, List.foldl_cons, Net.step]
    cases net.fetch u w (w + 1) with
    | none => exact ih net
    | some p => exact ih p.1

theorem deads_eq_exec (net : Net) (lost : List (Nat × Nat)) :
    net.deads lost = net.exec (lost.map fun e => .dead e.1 e.2) := by
  unfold Net.deads Net.exec; rw [List.foldl_map]; rfl

theorem step_allWF {net : Net} (wf : net.AllWF) (ev : Event) : (net.step ev).AllWF := by
  cases ev with
  | fetch u w face =>
    simp only [Net.step]
    cases hf : net.fetch u w face with
    | none => exact wf
    | some p => obtain ⟨net', fl⟩ := p; exact (fetch_sem wf hf).wf
  | dead u w =>
    simp only [Net.step]
    cases hf : net.dead u w with
    | none => exact wf
    | some p => obtain ⟨net', fl⟩ := p; exact (dead_sem wf hf).wf

theorem exec_allWF {net : Net} (wf : net.AllWF) (evs : List Event) : (net.exec evs).AllWF :=
  List.foldlRecOn evs _ wf fun _ wf ev _ => step_allWF wf ev

/-- For any set of routers, after ANY history of exchanges (any pairs, any order, any faces) and
    dead-neighbour events, no advertisement lists a destination whose best cost is at or above the
    infinity metric 16. -/
theorem advert_never_infinite (ids : List Nat) (evs : List Event) (u : Nat) :
    ∀ a ∈ ((Net.start ids).exec evs).advertOf u, a.cost < 16 := by
  -- `inf` meets the literal 16 by unfolding
  exact fun a ha => show a.cost < inf from (advert_mem (exec_allWF (start_allWF ids) evs) ha).2

example : ((Net.start [11, 22, 33]).exec [.fetch 0 1 2, .fetch 1 0 1, .fetch 2 1 2, .dead 1 0, .fetch 2 1 2]).advertOf 2
    = [⟨33, 33, 0, 16⟩, ⟨22, 22, 1, 16⟩] := by decide

/-- In ANY network state that fits topology `g` (any graph, any number of routers) and is a fixed
    point of all exchanges along its links: for every pair at hop distance `k < 16`, the router's best
    cost is exactly `k`; if `k ≥ 1` its chosen next hop is a neighbour at distance `k-1` (so it lies on
    a shortest path), namely the one with the smallest key among all such neighbours (the tie-break
    depends on the topology only). -/
theorem fixed_point_is_shortest_path (g : Graph) (net : Net) (ok : NetOK g net) (fp : IsFixedPoint g net)
    (u v k : Nat) (hul : u < net.length) (hvl : v < net.length) (hd : IsDist g u v k) (hk : k < 16) :
    net.best u (net.idOf v) = k ∧
    (1 ≤ k → ∃ w, g.adj u w ∧ net.nextHop u (net.idOf v) = net.idOf w ∧ IsDist g w v (k - 1) ∧
      ∀ w', g.adj u w' → IsDist g w' v (k - 1) → net.idOf w ≤ net.idOf w') :=
  sh_shortest_path ok (fp_sh ok fp) hul hvl hd (show k < inf from hk)

/-- ... and a destination that cannot be reached in `g` is not listed at all (withdrawn, not lingering). -/
theorem fixed_point_unreachable_withdrawn (g : Graph) (net : Net) (ok : NetOK g net) (fp : IsFixedPoint g net)
    (u v : Nat) (hvl : v < net.length) (hun : ∀ k, ¬ Reach g k u v) :
    ∀ a ∈ net.advertOf u, a.dest ≠ net.idOf v :=
  sh_unreachable ok (fp_sh ok fp) hvl hun

/-- From ANY network state that fits topology `g` (in particular the state left behind by any
    sequence of link / router losses once the dead neighbours have been removed, or a freshly started
    network), EVERY schedule of exchanges along the links of `g` that consists of at least 16 fair
    rounds (each round contains every link at least once, in any order, with any repetitions) ends in
    a state that fits `g` and is a fixed point of all exchanges — hence, by
    `fixed_point_is_shortest_path`, costs are the hop distances, next hops lie on shortest paths, and
    unreachable destinations are withdrawn. 16 = the infinity metric; the bound does not depend on the
    number of routers. -/
theorem converges_within_rounds (g : Graph) (net : Net) (ok : NetOK g net)
    (rounds : List (List Exchange)) (hal : ∀ r ∈ rounds, Along g r) (hcov : ∀ r ∈ rounds, Covers g r)
    (hn : 16 ≤ rounds.length) :
    NetOK g (net.run rounds.flatten) ∧ IsFixedPoint g (net.run rounds.flatten) :=
  converges ok rounds hal hcov hn

/-- After ANY set of links is lost (a lost router = all its links), once every router that lost a
    neighbour has run its dead-neighbour check for it (in any order; `lost` may list the removed links
    several times), any 16 fair rounds over the REMAINING topology `g'` end in a state that fits `g'`
    and is a fixed point of it: by `fixed_point_is_shortest_path` / `fixed_point_unreachable_withdrawn`
    the costs are the hop distances of what is left and destinations that became unreachable are
    withdrawn.  `NbrCover` (a neighbour state exists for every next hop in use) is an invariant of all
    exchanges and dead checks, so losses, re-additions and convergence phases can be chained. -/
theorem reconverges_after_loss (g g' : Graph) (net : Net) (ok : NetOK g net) (cov : NbrCover net)
    (sub : ∀ u w, g'.adj u w → g.adj u w) (lost : List (Nat × Nat))
    (hl : ∀ e ∈ lost, g.adj e.1 e.2) (hlost : ∀ u w, g.adj u w → ¬ g'.adj u w → (u, w) ∈ lost)
    (rounds : List (List Exchange)) (hal : ∀ r ∈ rounds, Along g' r) (hcov : ∀ r ∈ rounds, Covers g' r)
    (hn : 16 ≤ rounds.length) :
    NetOK g' ((net.deads lost).run rounds.flatten) ∧ IsFixedPoint g' ((net.deads lost).run rounds.flatten) ∧
    NbrCover ((net.deads lost).run rounds.flatten) := by
  obtain ⟨ok', cov'⟩ := refit ok cov sub lost hl hlost
  have hc := converges ok' rounds hal hcov hn
  have hal' : Along g' rounds.flatten := by
    intro e he
    obtain ⟨r, hr, her⟩ := List.mem_flatten.1 he
    exact hal r hr e her
  exact ⟨hc.1, hc.2, (run_fit rounds.flatten ok' cov' hal').2⟩

/-- Links between existing routers can come (back) at any time: the state still fits the larger
    topology, so `converges_within_rounds` applies to it. -/
theorem links_can_be_added (g g2 : Graph) (net : Net) (ok : NetOK g net) (sub : ∀ u w, g.adj u w → g2.adj u w)
    (valid : ∀ u w, g2.adj u w → u < net.length ∧ w < net.length ∧ u ≠ w) : NetOK g2 net :=
  ok.regraph valid fun u w ha _ => sub u w ha

/-! ### non-vacuity: a concrete network meets every hypothesis above -/

/-- 4 routers: triangle 0-1-2 with tail 2-3 -/
def exRound : List Exchange := [(0, 1), (1, 0), (1, 2), (2, 1), (0, 2), (2, 0), (2, 3), (3, 2)]
def exGraph : Graph := { adj := fun u w => (u, w) ∈ exRound }
def exIds : List Nat := [40, 10, 30, 20]

theorem exGraph_valid : ∀ u w, exGraph.adj u w → u < exIds.length ∧ w < exIds.length ∧ u ≠ w :=
  fun u w => (by decide : ∀ e ∈ exRound, e.1 < exIds.length ∧ e.2 < exIds.length ∧ e.1 ≠ e.2) (u, w)

/-- the freshly started network fits the topology (hypothesis of `converges_within_rounds`) ... -/
theorem exStart_ok : NetOK exGraph (Net.start exIds) :=
  start_ok exGraph exIds (by decide) exGraph_valid

theorem exConverged : ∃ net, NetOK exGraph net ∧ IsFixedPoint exGraph net :=
  ⟨_, converges_within_rounds exGraph (Net.start exIds) exStart_ok (List.replicate 16 exRound)
    (fun r hr e he => by rw [List.eq_of_mem_replicate hr] at he; exact he)
    (fun r hr u w ha => by rw [List.eq_of_mem_replicate hr]; exact ha)
    (by simp)⟩

/-- ... 16 fair rounds reach a state meeting the hypotheses of `fixed_point_is_shortest_path` -/
example : ∃ net, NetOK exGraph net ∧ IsFixedPoint exGraph net := exConverged

/-- the tail link 2-3 is lost: hypotheses of `reconverges_after_loss` for the converged example network -/
def exGraph' : Graph := { adj := fun u w => (u, w) ∈ [(0, 1), (1, 0), (1, 2), (2, 1), (0, 2), (2, 0)] }

example : ∃ net, NetOK exGraph net ∧ NbrCover net ∧ (∀ u w, exGraph'.adj u w → exGraph.adj u w) ∧
    (∀ e ∈ [(2, 3), (3, 2)], exGraph.adj e.1 e.2) ∧
    (∀ u w, exGraph.adj u w → ¬ exGraph'.adj u w → (u, w) ∈ [(2, 3), (3, 2)]) := by
  have fit := run_fit exRound exStart_ok (start_cover exIds) (fun e he => he)
  refine ⟨(Net.start exIds).run exRound, fit.1, fit.2, fun u w => ?_, ?_, fun u w => ?_⟩
  · exact (by decide : ∀ e ∈ [(0, 1), (1, 0), (1, 2), (2, 1), (0, 2), (2, 0)], e ∈ exRound) (u, w)
  · show ∀ e ∈ [(2, 3), (3, 2)], (e.1, e.2) ∈ exRound
    decide
  · exact (by decide : ∀ e ∈ exRound, e ∉ [(0, 1), (1, 0), (1, 2), (2, 1), (0, 2), (2, 0)] → e ∈ [(2, 3), (3, 2)]) (u, w)

/-- after the loss router 3 is alone: routers 0..2 withdraw it (16 rounds of counting to infinity) -/
example : let net := ((Net.start exIds).run (exRound ++ exRound ++ exRound)).deads [(2, 3), (3, 2)]
    let net' := net.run (List.replicate 16 [(0, 1), (1, 0), (1, 2), (2, 1), (0, 2), (2, 0)]).flatten
    (net'.advertOf 0).map (·.dest) = [40, 10, 30] ∧ (net'.advertOf 3).map (·.dest) = [20] := by decide +kernel

/-- router 3 (key 20) reaches router 0 (key 40) at cost 2 via router 2 (key 30); router 0 reaches
    router 2 directly although router 1 has the smaller key (cost decides before the key) -/
example : let net := (Net.start exIds).run (exRound ++ exRound ++ exRound)
    (net.best 3 40, net.nextHop 3 40, net.best 0 30, net.nextHop 0 30) = (2, 30, 1, 30) := by decide +kernel

/-! ### the machinery that decides WHEN advertisements travel, under every interleaving

  `Async.lean`: one directed link w → u as a transition system whose steps are the router functions that run
  under `dv.mutex` (advertSyncNotifyNew, advertSyncOnInterest, advertDataFetch's guard, advertDataOnInterest,
  advertDataHandler, ribUpdate(ns), fibUpdate, checkDeadNeighbors) and whose pending tasks are the goroutines
  they spawn.  The scheduler is arbitrary: any pending goroutine may run next, any packet in flight may be
  delivered, duplicated or lost, the RIB of w may change again at any moment.  These theorems replace the
  hypothesis "the schedule is fair" of `converges_within_rounds` by facts about the code that produces it. -/

/-- The task structure the model assumes is the one of the current source: which router methods take `dv.mutex`,
    which goroutines they spawn and what those call, where `advertSyncSeq` is incremented — re-extracted from
    dv/dv/*.go by `dvgen` (go/ast) on every run. A propagation pass that is no longer spawned per change, a
    handler that stops spawning the fetch or the update, a method that drops the mutex: this stops checking. -/
theorem async_model_matches_source_structure : Ndn.Gen.C18Async.facts = Async.expectedFacts := by decide +kernel

open Async in
/-- For EVERY history of steps from start-up (any interleaving of goroutines, any
    loss, duplication, reordering, time-outs, dead sweeps): whenever nothing is pending — no spawned goroutine
    waits, no packet is in flight — and u has heard w's current sequence number, u's RIB was computed from w's
    CURRENT advertisement (not an older one), and w's FIB from w's current RIB.  A change of w's RIB that is
    never announced, an advertisement fetched too early and never re-fetched, a stale reply overwriting a newer
    one: each would falsify this. -/
theorem quiescent_link_is_synced (s0 : Nat) (h0 : 1 ≤ s0) (steps : List Step) :
    let st := run (init s0) steps
    Quiescent st → Heard st → st.applied = some st.ver ∧ st.fibVer = st.ver := by
  exact fun q hd => quiescent_heard (inv_run (inv_init s0) steps) q hd

open Async in
/-- two RIB changes whose propagation goroutines interleave with a fetch that was answered between them -/
def Async.exBurst : St := run (init 5) [.change, .runFib, .change, .runNotify, .runSend, .deliverSync 0 false, .runFetch 0,
  .serve 0 true, .runFib, .deliverData 0 false, .runNotify, .runSend, .serve 0 false, .deliverData 0 false,
  .deliverSync 0 false, .runFetch 0, .serve 0 false, .runRib, .deliverData 0 false, .runRib, .runRib]

open Async in
example : Quiescent exBurst ∧ Heard exBurst ∧ exBurst.ver = 2 ∧ exBurst.applied = some 2 := by decide

open Async in
/-- From ANY reachable state, once w has sent one more heartbeat (its periodic Sync
    Interest), then — as long as no Sync Interest is lost and u does not declare w dead afterwards; advertisement
    Interests and Data may still be lost, duplicated and time out, goroutines may interleave in any way, w's RIB
    may keep changing — every quiescent state that follows has u on w's current advertisement. -/
theorem synced_after_heartbeat (s0 : Nat) (h0 : 1 ≤ s0) (pre post : List Step)
    (nf : ∀ s ∈ post, s.fault = false) :
    let st := run (run (init s0) pre) (.heartbeat :: post)
    Quiescent st → Heard st ∧ st.applied = some st.ver ∧ st.fibVer = st.ver := by
  intro st q
  have hi : Inv (step (run (init s0) pre) .heartbeat) := inv_step (inv_run (inv_init s0) pre) _
  have ha : Announced st := announced_run hi (announced_heartbeat _) post nf
  have hd := announced_quiescent ha q
  exact ⟨hd, quiescent_heard (inv_run hi post) q hd⟩

open Async in
/-- the announcement of a change is lost; after the heartbeat the fetch times out once and its Data is lost once -/
def Async.exLossy : St := run (run (init 5) [.change, .runFib, .runNotify, .runSend, .dropSync 0])
  (.heartbeat :: [.deliverSync 0 false, .runFetch 0, .timeoutReq 0, .runFetch 0, .serve 0 false, .loseData 0,
    .runFetch 0, .serve 0 false, .deliverData 0 false, .runRib])

open Async in
example : Quiescent exLossy ∧ exLossy.applied = some 1 := by decide

open Async in
/-- A run in which the routers and a loss-free network only do what is pending (`drains`) takes at most
    `work st` steps (so bursts of changes cannot keep the link busy for ever), and as long as the state is not quiescent there is a step to take: left alone, the link
    always reaches a quiescent state. -/
theorem pending_work_drains (st : St) :
    (∀ steps, drains st steps = true → steps.length + work (run st steps) ≤ work st) ∧
    (¬ Quiescent st → ∃ s : Step, s.internal = true ∧ s.enabled st = true) := by
  refine ⟨?_, busy_has_step st⟩
  intro steps
  induction steps generalizing st with
  | nil => intro _; simp [run]
  | cons s t ih =>
    intro hd
    simp only [drains, Bool.and_eq_true] at hd
    obtain ⟨⟨hi, he⟩, ht⟩ := hd
    have := ih (step st s) ht
    have := work_decreases st s hi he
    simp only [run, List.foldl_cons, List.length_cons] at *
    omega

open Async in
example : drains (run (init 5) [.change, .change]) [.runFib, .runFib, .runNotify, .runNotify, .runSend, .runSend] = true ∧
    work (run (init 5) [.change, .change]) = 18 := by decide

open Async in
/-- One advertiser, n listeners, every global history (steps of the advertiser happen
    on all links together — a Sync Interest is multicast, each copy fares on its own —, steps of a listener or of a
    channel on one link): every link is a run of the single-link system (`grun_proj`), all links agree on the
    advertiser's state (`coupled_grun`), hence whenever link k is quiescent and its listener has heard the current
    number, listener k has applied the advertiser's CURRENT advertisement — the same version for every such k. -/
theorem star_quiescent_links_are_synced (n s0 : Nat) (h0 : 1 ≤ s0) (steps : List GStep) :
    let gs := grun (ginit n s0) steps
    (∀ s ∈ gs, ∀ t ∈ gs, s.ver = t.ver ∧ s.seq = t.seq) ∧
    ∀ st ∈ gs, Quiescent st → Heard st → st.applied = some st.ver ∧ st.fibVer = st.ver := by
  intro gs
  constructor
  · intro s hs t ht
    have := coupled_grun (gs := ginit n s0) (fun s hs t ht => by
      rw [List.eq_of_mem_replicate hs, List.eq_of_mem_replicate ht]) steps s hs t ht
    simp only [St.w, WPart.mk.injEq] at this
    exact ⟨this.1, this.2.1⟩
  · intro st hst q hd
    obtain ⟨l, rfl⟩ := mem_grun_ginit hst
    exact quiescent_heard (inv_run (inv_init s0) l) q hd

open Async in
example : let gs := grun (ginit 2 5) [.adv .change, .adv .runFib, .adv .runNotify, .adv .runSend,
      .link 0 (.deliverSync 0 false), .link 1 (.dropSync 0), .link 0 (.runFetch 0), .link 0 (.serve 0 false),
      .link 0 (.deliverData 0 false), .link 0 .runRib, .adv .heartbeat, .link 0 (.deliverSync 0 false),
      .link 1 (.deliverSync 0 false), .link 1 (.runFetch 0), .link 1 (.serve 0 false), .link 1 (.deliverData 0 false),
      .link 1 .runRib]
    gs.map (·.applied) = [some 1, some 1] ∧ gs.all (fun st => decide (Quiescent st)) = true := by decide

/-! ### from quiescent links to shortest paths

  `Net.SyncedLink net u w` is the routing-table content of the state `quiescent_link_is_synced` establishes for a
  link: the costs u holds via w are the ones `ribUpdate` derives from the advertisement w serves now. -/

/-- a network is a fixed point of all exchanges exactly when every link is synced -/
theorem fixed_point_iff_all_links_synced (g : Graph) (net : Net) (ok : NetOK g net) :
    IsFixedPoint g net ↔ ∀ u w, g.adj u w → net.SyncedLink u w :=
  ⟨fun fp => sh_iff_synced.1 (fp_sh ok fp), fun s => fp_of_sh ok.wf (sh_iff_synced.2 s)⟩

/-- In a network that fits the topology and in which on every link the
    neighbour has applied the advertiser's current advertisement (what `quiescent_link_is_synced` /
    `synced_after_heartbeat` give for every link once nothing is pending anywhere), every router holds, for every
    router at hop distance k < 16, cost k with a next hop on a shortest path (smallest key among those), and
    advertises no unreachable router — no fairness assumption on the schedule is left. -/
theorem quiescent_network_is_shortest_path (g : Graph) (net : Net) (ok : NetOK g net)
    (synced : ∀ u w, g.adj u w → net.SyncedLink u w) :
    (∀ u v k, u < net.length → v < net.length → IsDist g u v k → k < 16 →
      net.best u (net.idOf v) = k ∧
      (1 ≤ k → ∃ w, g.adj u w ∧ net.nextHop u (net.idOf v) = net.idOf w ∧ IsDist g w v (k - 1) ∧
        ∀ w', g.adj u w' → IsDist g w' v (k - 1) → net.idOf w ≤ net.idOf w')) ∧
    (∀ u v, v < net.length → (∀ k, ¬ Reach g k u v) → ∀ a ∈ net.advertOf u, a.dest ≠ net.idOf v) := by
  have sh := sh_iff_synced.2 synced
  exact ⟨fun u v k hu hv hd hk => sh_shortest_path ok sh hu hv hd (show k < inf from hk),
    fun u v hv hun => sh_unreachable ok sh hv hun⟩

/-- 16 fair rounds end in a fixed point, that is, with every link synced -/
example : ∃ net, NetOK exGraph net ∧ ∀ u w, exGraph.adj u w → net.SyncedLink u w := by
  obtain ⟨net, ok, fp⟩ := exConverged
  exact ⟨net, ok, (fixed_point_iff_all_links_synced exGraph net ok).1 fp⟩

end Ndn.C18
