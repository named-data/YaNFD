/-
  C18 — the RIB operations in terms of the abstract cost function (`cget` on a cost map, `cstL` on an entry list,
  `Rib.cst` on a RIB) and the invariants that hold whenever the router mutex is released.
-/
import NdnVerif.C18.LemmasRefresh
import NdnVerif.C05.Assoc
namespace Ndn.C18

theorem inf_pos : 0 < inf := by decide

/-! `aget` / `aset` / `aerase` are the association-list functions of C05/Assoc at `Nat × Nat`. -/

theorem aget_eq (c : Costs) (k : Nat) : aget c k = C05.afind c k :=
  C05.afind_unique (fun _ => rfl) (fun _ _ _ _ => rfl) c k

theorem aset_eq (c : Costs) (k v : Nat) : aset c k v = C05.aset c k v :=
  C05.aset_unique (fun _ _ => rfl) (fun _ _ _ _ _ => rfl) c k v

theorem aerase_eq (c : Costs) (k : Nat) : aerase c k = C05.aerase c k :=
  C05.aerase_unique (fun _ => rfl) (fun _ _ _ _ => rfl) c k

theorem aget_aset (c : Costs) (k v k' : Nat) :
    aget (aset c k v) k' = if k' = k then some v else aget c k' := by
  rw [aget_eq, aset_eq, aget_eq]; exact C05.afind_aset' ..

theorem aget_aerase (c : Costs) (k k' : Nat) :
    aget (aerase c k) k' = if k' = k then none else aget c k' := by
  rw [aget_eq, aerase_eq, aget_eq]; exact C05.afind_aerase' ..

theorem mem_aset {c : Costs} {k v h x : Nat} (hm : (h, x) ∈ aset c k v) :
    (h = k ∧ x = v) ∨ (h, x) ∈ c :=
  C05.mem_aset (aset_eq .. ▸ hm)

theorem nodup_aset {c : Costs} (nd : (c.map (·.1)).Nodup) (k v : Nat) :
    ((aset c k v).map (·.1)).Nodup :=
  aset_eq .. ▸ C05.keysNodup_aset nd k v

theorem aget_of_mem {c : Costs} (nd : (c.map (·.1)).Nodup) {h k : Nat} (hm : (h, k) ∈ c) :
    aget c h = some k :=
  (aget_eq ..).trans (C05.mem_afind nd hm)

theorem mem_of_aget {c : Costs} {h k : Nat} (hg : aget c h = some k) : (h, k) ∈ c :=
  C05.afind_some_mem ((aget_eq ..).symm.trans hg)


def cget (c : Costs) (h : Nat) : Nat := (aget c h).getD inf

def findE : List Entry → Nat → Option Entry
  | [], _ => none
  | e :: t, d => if e.dest = d then some e else findE t d

def costsL (es : List Entry) (d : Nat) : Costs :=
  match findE es d with
  | some e => e.costs
  | none => []

def cstL (es : List Entry) (d h : Nat) : Nat := cget (costsL es d) h

def Rib.costsOf (r : Rib) (d : Nat) : Costs := costsL r.entries d

/-- cost to destination `d` via next hop `h` (infinity when there is no such item) -/
def Rib.cst (r : Rib) (d h : Nat) : Nat := cstL r.entries d h

theorem cget_nil (h : Nat) : cget [] h = inf := rfl

theorem cget_aset (c : Costs) (k v h : Nat) : cget (aset c k v) h = if h = k then v else cget c h := by
  unfold cget; rw [aget_aset]; split <;> rfl

theorem cget_aerase (c : Costs) (k h : Nat) : cget (aerase c k) h = if h = k then inf else cget c h := by
  unfold cget; rw [aget_aerase]; split <;> rfl

theorem cget_of_mem {c : Costs} (nd : (c.map (·.1)).Nodup) {h k : Nat} (hm : (h, k) ∈ c) : cget c h = k := by
  unfold cget; rw [aget_of_mem nd hm]; rfl

theorem cget_mem_or_inf (c : Costs) (h : Nat) : (h, cget c h) ∈ c ∨ cget c h = inf := by
  unfold cget
  cases hg : aget c h with
  | none => exact Or.inr rfl
  | some k => exact Or.inl (mem_of_aget hg)

theorem cget_le_inf {c : Costs} (le : ∀ h k, (h, k) ∈ c → k ≤ inf) (h : Nat) : cget c h ≤ inf :=
  (cget_mem_or_inf c h).elim (le h _) Nat.le_of_eq

theorem Top2.low1_le_cget {b : Best} {c : Costs} (t : Top2 b c) (h : Nat) : b.low1 ≤ cget c h := by
  rcases cget_mem_or_inf c h with hm | e
  · by_cases f : cget c h < inf
    · exact (t.min1 h _ hm f).le
    · exact Nat.le_trans t.le1 (Nat.le_of_not_lt f)
  · exact e ▸ t.le1

theorem Top2.nh1_le {b : Best} {c : Costs} (t : Top2 b c) {h : Nat} (e : cget c h = b.low1) (f : b.low1 < inf) :
    b.nh1 ≤ h := by
  rcases cget_mem_or_inf c h with hm | e'
  · have := t.min1 h _ hm (e ▸ f)
    unfold lexLe at this; omega
  · omega

theorem findE_cons (e : Entry) (t : List Entry) (d : Nat) :
    findE (e :: t) d = if e.dest = d then some e else findE t d := rfl

theorem findE_none_of_not_mem {es : List Entry} {d : Nat} (h : d ∉ es.map (·.dest)) : findE es d = none := by
  induction es with
  | nil => rfl
  | cons e t ih =>
    rw [List.map_cons, List.mem_cons, not_or] at h
    unfold findE
    rw [if_neg (Ne.symm h.1)]; exact ih h.2

theorem findE_mem {es : List Entry} {d : Nat} {e : Entry} (h : findE es d = some e) : e ∈ es ∧ e.dest = d := by
  induction es with
  | nil => cases h
  | cons x t ih =>
    unfold findE at h
    split at h
    · next hx => cases h; exact ⟨List.mem_cons_self .., hx⟩
    · exact ⟨List.mem_cons_of_mem _ (ih h).1, (ih h).2⟩

theorem findE_of_mem {es : List Entry} (nd : (es.map (·.dest)).Nodup) {e : Entry} (h : e ∈ es) :
    findE es e.dest = some e := by
  induction es with
  | nil => cases h
  | cons x t ih =>
    rw [List.map_cons, List.nodup_cons] at nd
    unfold findE
    rcases List.mem_cons.1 h with rfl | h'
    · exact if_pos rfl
    · rw [if_neg fun e' => nd.1 (by rw [e']; exact List.mem_map.2 ⟨e, h', rfl⟩)]
      exact ih nd.2 h'

theorem cstL_cons (e : Entry) (t : List Entry) (d h : Nat) :
    cstL (e :: t) d h = if e.dest = d then cget e.costs h else cstL t d h := by
  by_cases he : e.dest = d <;> simp only [cstL, costsL, findE, he, if_true, if_false]

theorem cstL_map {f : Entry → Entry} (hd : ∀ e, (f e).dest = e.dest) {g : Nat → Nat} (hg : g inf = inf) {h : Nat}
    (hc : ∀ e, cget (f e).costs h = g (cget e.costs h)) (es : List Entry) (d : Nat) :
    cstL (es.map f) d h = g (cstL es d h) := by
  induction es with
  | nil => exact hg.symm
  | cons e t ih => rw [List.map_cons, cstL_cons, cstL_cons, hd, ih, hc]; split <;> rfl

theorem dests_map {f : Entry → Entry} (hd : ∀ e, (f e).dest = e.dest) (es : List Entry) :
    (es.map f).map (·.dest) = es.map (·.dest) := by
  rw [List.map_map]; exact List.map_congr_left fun e _ => hd e

structure EOk (e : Entry) : Prop where
  nd : (e.costs.map (·.1)).Nodup
  le : ∀ h k, (h, k) ∈ e.costs → k ≤ inf

def DirtyOrFresh (e : Entry) : Prop := e.dirty = true ∨ e.best = refreshOf e.costs

theorem EOk.congr {e e' : Entry} (ok : EOk e) (hc : e'.costs = e.costs) : EOk e' :=
  ⟨hc ▸ ok.nd, hc ▸ ok.le⟩

theorem EOk.aset {e e' : Entry} (ok : EOk e) {k v : Nat} (hv : v ≤ inf) (hc : e'.costs = aset e.costs k v) :
    EOk e' :=
  ⟨hc ▸ nodup_aset ok.nd k v, hc ▸ fun h x hm => (mem_aset hm).elim (fun e => e.2 ▸ hv) (ok.le h x)⟩

theorem EOk.aerase {e e' : Entry} (ok : EOk e) {k : Nat} (hc : e'.costs = aerase e.costs k) : EOk e' := by
  rw [aerase_eq] at hc
  exact ⟨hc ▸ C05.keysNodup_aerase ok.nd k, hc ▸ fun h x hm => ok.le h x (List.mem_filter.1 hm).1⟩

theorem refresh_dest (e : Entry) : e.refresh.1.dest = e.dest := rfl
theorem refresh_costs (e : Entry) : e.refresh.1.costs = e.costs := rfl
theorem refresh_best (e : Entry) : e.refresh.1.best = refreshOf e.costs := rfl

theorem set_cases (e : Entry) (nh cost : Nat) :
    ((e.set nh cost).1 = e ∧ aget e.costs nh = some cost) ∨
    (e.set nh cost).1 = (Entry.refresh { e with costs := aset e.costs nh cost }).1 := by
  unfold Entry.set; split
  · next known hk =>
    split
    · next heq => exact Or.inl ⟨rfl, heq ▸ hk⟩
    · exact Or.inr rfl
  · exact Or.inr rfl

theorem set_dest (e : Entry) (nh cost : Nat) : (e.set nh cost).1.dest = e.dest := by
  rcases set_cases e nh cost with ⟨h, _⟩ | h <;> rw [h] <;> rfl

theorem set_cget (e : Entry) (nh cost h : Nat) :
    cget (e.set nh cost).1.costs h = if h = nh then cost else cget e.costs h := by
  rcases set_cases e nh cost with ⟨e1, hk⟩ | e1 <;> rw [e1]
  · split
    · next hh => unfold cget; rw [hh, hk]; rfl
    · rfl
  · exact cget_aset ..

theorem set_ok {e : Entry} (ok : EOk e) (nh cost : Nat) (hc : cost ≤ inf) : EOk (e.set nh cost).1 := by
  rcases set_cases e nh cost with ⟨h, _⟩ | h <;> rw [h]
  · exact ok
  · exact ok.aset hc rfl

theorem set_df {e : Entry} (df : DirtyOrFresh e) (nh cost : Nat) : DirtyOrFresh (e.set nh cost).1 := by
  rcases set_cases e nh cost with ⟨h, _⟩ | h <;> rw [h]
  · exact df
  · exact Or.inr rfl

/-- while the mutex is held: distinct destinations, well-formed cost maps, every entry dirty or fresh -/
structure Pre (es : List Entry) : Prop where
  nd : (es.map (·.dest)).Nodup
  ok : ∀ e ∈ es, EOk e
  df : ∀ e ∈ es, DirtyOrFresh e

/-- when the mutex is released: additionally every selection is up to date and finite -/
structure Post (es : List Entry) : Prop where
  nd : (es.map (·.dest)).Nodup
  ok : ∀ e ∈ es, EOk e
  fresh : ∀ e ∈ es, e.best = refreshOf e.costs
  finite : ∀ e ∈ es, e.best.low1 < inf

theorem Post.pre {es : List Entry} (p : Post es) : Pre es :=
  ⟨p.nd, p.ok, fun e he => Or.inr (p.fresh e he)⟩

theorem Post.top2 {es : List Entry} (p : Post es) {e : Entry} (he : e ∈ es) : Top2 e.best e.costs := by
  rw [p.fresh e he]; exact refreshOf_top2 e.costs (p.ok e he).nd

theorem pre_nil : Pre [] := ⟨List.nodup_nil, fun _ h => (nomatch h), fun _ h => (nomatch h)⟩

theorem pre_cons {e : Entry} {t : List Entry} :
    Pre (e :: t) ↔ e.dest ∉ t.map (·.dest) ∧ EOk e ∧ DirtyOrFresh e ∧ Pre t := by
  constructor
  · intro p
    have nd := List.nodup_cons.1 p.nd
    exact ⟨nd.1, p.ok e (List.mem_cons_self ..), p.df e (List.mem_cons_self ..), nd.2,
      fun x hx => p.ok x (List.mem_cons_of_mem _ hx), fun x hx => p.df x (List.mem_cons_of_mem _ hx)⟩
  · intro ⟨hn, ok, df, p⟩
    exact ⟨List.nodup_cons.2 ⟨hn, p.nd⟩, List.forall_mem_cons.2 ⟨ok, p.ok⟩, List.forall_mem_cons.2 ⟨df, p.df⟩⟩

theorem pre_map {f : Entry → Entry} (hd : ∀ e, (f e).dest = e.dest) (hok : ∀ e, EOk e → EOk (f e))
    (hdf : ∀ e, DirtyOrFresh e → DirtyOrFresh (f e)) {es : List Entry} (p : Pre es) : Pre (es.map f) :=
  ⟨dests_map hd es ▸ p.nd, List.forall_mem_map.2 fun e he => hok e (p.ok e he),
    List.forall_mem_map.2 fun e he => hdf e (p.df e he)⟩

theorem pre_cst_map_reset {f : Entry → Entry} {w : Nat} (hd : ∀ e, (f e).dest = e.dest) (hok : ∀ e, EOk e → EOk (f e))
    (hdf : ∀ e, DirtyOrFresh e → DirtyOrFresh (f e)) (hc : ∀ e h, cget (f e).costs h = if h = w then inf else cget e.costs h)
    {es : List Entry} (p : Pre es) :
    Pre (es.map f) ∧ ∀ d h, cstL (es.map f) d h = if h = w then inf else cstL es d h :=
  ⟨pre_map hd hok hdf p, fun d h =>
    cstL_map hd (g := fun x => if h = w then inf else x) (ite_self _) (fun e => hc e h) es d⟩

theorem dirtyReset_pre_cst {r : Rib} (p : Pre r.entries) (w : Nat) :
    Pre (r.dirtyReset w).entries ∧ ∀ d h, (r.dirtyReset w).cst d h = if h = w then inf else r.cst d h :=
  pre_cst_map_reset (f := fun e => { e with costs := aset e.costs w inf, dirty := true }) (fun _ => rfl)
    (fun _ ok => ok.aset (Nat.le_refl _) rfl) (fun _ _ => Or.inl rfl) (fun e h => cget_aset e.costs w inf h) p

/-- what `RemoveNextHop` does to one entry -/
def removeNhEntry (w : Nat) (e : Entry) : Entry :=
  match aget e.costs w with
  | some _ => (Entry.refresh { e with costs := aerase e.costs w }).1
  | none => e

theorem removeNh_eq_map (es : List Entry) (w : Nat) : (removeNhEntries es w).1 = es.map (removeNhEntry w) := by
  induction es with
  | nil => rfl
  | cons e t ih =>
    rw [List.map_cons, ← ih]
    unfold removeNhEntry
    cases hg : aget e.costs w <;> simp only [removeNhEntries, hg]

theorem removeNh_pre_cst {es : List Entry} (p : Pre es) (w : Nat) :
    Pre (removeNhEntries es w).1 ∧
    ∀ d h, cstL (removeNhEntries es w).1 d h = if h = w then inf else cstL es d h := by
  rw [removeNh_eq_map]
  refine pre_cst_map_reset (fun e => ?_) (fun e ok => ?_) (fun e df => ?_) (fun e h => ?_) p <;>
    unfold removeNhEntry <;> split
  · rfl
  · rfl
  · exact ok.aerase rfl
  · exact ok
  · exact Or.inr rfl
  · exact df
  · exact cget_aerase ..
  · -- no item for `w`: its cost is infinity already
    next hn =>
    split
    · next hh => unfold cget; rw [hh, hn]; rfl
    · rfl

theorem setEntries_cons (e : Entry) (t : List Entry) (dest nh cost : Nat) :
    (setEntries (e :: t) dest nh cost).1 =
      if e.dest = dest then (e.set nh cost).1 :: t else e :: (setEntries t dest nh cost).1 := by
  simp only [setEntries]; split <;> rfl

theorem setEntries_dests (es : List Entry) (dest nh cost : Nat) {x : Nat}
    (hx : x ∈ (setEntries es dest nh cost).1.map (·.dest)) : x = dest ∨ x ∈ es.map (·.dest) := by
  induction es with
  | nil =>
    have hx' : x ∈ [((Entry.fresh dest).set nh cost).1.dest] := hx
    rw [set_dest] at hx'
    exact Or.inl (List.mem_singleton.1 hx')
  | cons e t ih =>
    rw [setEntries_cons] at hx
    split at hx
    · rw [List.map_cons, set_dest] at hx
      exact Or.inr hx
    · rcases List.mem_cons.1 hx with h | h
      · exact Or.inr (h ▸ List.mem_cons_self ..)
      · exact (ih h).imp_right (List.mem_cons_of_mem _)

theorem setEntries_pre {es : List Entry} (p : Pre es) (dest nh cost : Nat) (hc : cost ≤ inf) :
    Pre (setEntries es dest nh cost).1 := by
  induction es with
  | nil =>
    -- a new entry: `Set` on the empty map stores the item and refreshes
    have ok0 : EOk (Entry.fresh dest) := ⟨List.nodup_nil, fun _ _ h => (nomatch h)⟩
    exact pre_cons.2 ⟨fun h => (nomatch h), set_ok ok0 nh cost hc, Or.inr rfl, pre_nil⟩
  | cons e t ih =>
    obtain ⟨hn, ok, df, pt⟩ := pre_cons.1 p
    rw [setEntries_cons]
    split
    · exact pre_cons.2 ⟨set_dest e nh cost ▸ hn, set_ok ok nh cost hc, set_df df nh cost, pt⟩
    · next he =>
      exact pre_cons.2 ⟨fun hm => (setEntries_dests t dest nh cost hm).elim he hn, ok, df, ih pt⟩

theorem setEntries_cst (es : List Entry) (dest nh cost d h : Nat) :
    cstL (setEntries es dest nh cost).1 d h = if d = dest ∧ h = nh then cost else cstL es d h := by
  induction es with
  | nil =>
    show cstL [((Entry.fresh dest).set nh cost).1] d h = _
    rw [cstL_cons, set_dest, set_cget]
    show (if dest = d then (if h = nh then cost else inf) else inf) = if d = dest ∧ h = nh then cost else inf
    by_cases hd : d = dest
    · subst hd; simp
    · simp [hd, Ne.symm hd]
  | cons e t ih =>
    rw [setEntries_cons]
    by_cases he : e.dest = dest
    · rw [if_pos he, cstL_cons, cstL_cons, set_dest, set_cget, he]
      by_cases hd : d = dest
      · subst hd; simp
      · simp [hd, Ne.symm hd]
    · rw [if_neg he, cstL_cons, cstL_cons, ih]
      by_cases hd : e.dest = d
      · simp [hd, show ¬ d = dest from fun x => he (hd.trans x)]
      · simp [hd]

/-- the cost installed for destination `d` by the advertisement entries (later entries win) -/
def advNewFrom (self : Nat) (m0 : Nat) (adv : List AdvEntry) (d : Nat) : Nat :=
  adv.foldl (fun m a => if a.dest = d ∧ advCost self a < inf then advCost self a else m) m0

theorem advNewFrom_cons (self m0 : Nat) (a : AdvEntry) (t : List AdvEntry) (d : Nat) :
    advNewFrom self m0 (a :: t) d =
      advNewFrom self (if a.dest = d ∧ advCost self a < inf then advCost self a else m0) t d := rfl

theorem fold_pre_cst (self w : Nat) (adv : List AdvEntry) : ∀ (r : Rib) (fl : Bool), Pre r.entries →
    Pre (adv.foldl (ribUpdateStep self w) (r, fl)).1.entries ∧
    ∀ d h, (adv.foldl (ribUpdateStep self w) (r, fl)).1.cst d h =
      if h = w then advNewFrom self (r.cst d w) adv d else r.cst d h := by
  induction adv with
  | nil =>
    refine fun r fl p => ⟨p, fun d h => ?_⟩
    split
    · next hh => rw [hh]; rfl
    · rfl
  | cons a t ih =>
    intro r fl p
    have hstep : ribUpdateStep self w (r, fl) a =
        if advCost self a ≥ inf then (r, fl)
        else ((r.set a.dest w (advCost self a)).1, (r.set a.dest w (advCost self a)).2 || fl) := rfl
    rw [List.foldl_cons, hstep]
    by_cases hc : advCost self a ≥ inf
    · rw [if_pos hc]
      refine ⟨(ih r fl p).1, fun d h => ?_⟩
      rw [advNewFrom_cons, if_neg (c := a.dest = d ∧ advCost self a < inf) fun hh => Nat.not_le_of_lt hh.2 hc]
      exact (ih r fl p).2 d h
    · have hlt : advCost self a < inf := Nat.lt_of_not_le hc
      rw [if_neg hc]
      obtain ⟨p', c'⟩ := ih (r.set a.dest w (advCost self a)).1 ((r.set a.dest w (advCost self a)).2 || fl)
        (setEntries_pre p a.dest w _ (Nat.le_of_lt hlt))
      have hs : ∀ d h, (r.set a.dest w (advCost self a)).1.cst d h =
          if d = a.dest ∧ h = w then advCost self a else r.cst d h :=
        setEntries_cst r.entries a.dest w (advCost self a)
      refine ⟨p', fun d h => ?_⟩
      rw [c', hs, hs, advNewFrom_cons]
      by_cases hh : h = w
      · by_cases hd : a.dest = d
        · simp [hh, hd, hlt]
        · simp [hh, hd, Ne.symm hd]
      · simp [hh]

/-- the entry as `Prune` sees it after the optional refresh -/
def pruneEntry (e : Entry) : Entry := if e.dirty then e.refresh.1 else e

theorem pruneEntry_dest (e : Entry) : (pruneEntry e).dest = e.dest := by
  unfold pruneEntry; split <;> rfl

theorem pruneEntry_costs (e : Entry) : (pruneEntry e).costs = e.costs := by
  unfold pruneEntry; split <;> rfl

theorem pruneEntry_best {e : Entry} (df : DirtyOrFresh e) : (pruneEntry e).best = refreshOf e.costs := by
  unfold pruneEntry; split
  · rfl
  · next hd => exact df.resolve_left hd

theorem pruneEntries_eq (es : List Entry) :
    (pruneEntries es).1 = (es.map pruneEntry).filter fun e => e.best.low1 ≠ inf := by
  induction es with
  | nil => rfl
  | cons e t ih =>
    rw [List.map_cons, List.filter_cons, ← ih]
    simp only [pruneEntries, pruneEntry]
    by_cases hd : e.dirty = true
    · simp only [hd, if_true]
      by_cases hi : e.refresh.1.best.low1 = inf <;> simp [hi]
    · simp only [hd]
      by_cases hi : e.best.low1 = inf <;> simp [hi]

theorem cstL_filter {es : List Entry} (nd : (es.map (·.dest)).Nodup) {q : Entry → Bool}
    (hq : ∀ e ∈ es, q e = false → ∀ h, cget e.costs h = inf) (d h : Nat) :
    cstL (es.filter q) d h = cstL es d h := by
  induction es with
  | nil => rfl
  | cons e t ih =>
    rw [List.map_cons, List.nodup_cons] at nd
    have iht := ih nd.2 (fun x hx => hq x (List.mem_cons_of_mem _ hx))
    rw [List.filter_cons, cstL_cons]
    cases hqe : q e
    · rw [if_neg (by simp), iht]
      split
      · next hd =>
        unfold cstL costsL
        rw [findE_none_of_not_mem (hd ▸ nd.1), hq e (List.mem_cons_self ..) hqe h]; rfl
      · rfl
    · rw [if_pos rfl, cstL_cons, iht]

theorem pruneEntries_post {es : List Entry} (p : Pre es) :
    Post (pruneEntries es).1 ∧ ∀ d h, cstL (pruneEntries es).1 d h = cstL es d h := by
  have top := fun e he => refreshOf_top2 e.costs (p.ok e he).nd
  have pm : Pre (es.map pruneEntry) :=
    pre_map pruneEntry_dest (fun e ok => ok.congr (pruneEntry_costs e)) (fun e df => Or.inr (by
      rw [pruneEntry_best df, pruneEntry_costs])) p
  have fresh : ∀ x ∈ es.map pruneEntry, x.best = refreshOf x.costs :=
    List.forall_mem_map.2 fun e he => by rw [pruneEntry_best (p.df e he), pruneEntry_costs]
  rw [pruneEntries_eq]
  constructor
  · refine ⟨pm.nd.sublist ((List.filter_sublist ..).map _), fun x hx => pm.ok x (List.mem_filter.1 hx).1,
      fun x hx => fresh x (List.mem_filter.1 hx).1, fun x hx => ?_⟩
    obtain ⟨hm, hne⟩ := List.mem_filter.1 hx
    obtain ⟨e, he, rfl⟩ := List.mem_map.1 hm
    have le := (top e he).le1
    rw [← pruneEntry_best (p.df e he)] at le
    exact Nat.lt_of_le_of_ne le (by simpa using hne)
  · intro d h
    rw [cstL_filter pm.nd, cstL_map pruneEntry_dest (g := id) rfl (fun e => by rw [pruneEntry_costs]; rfl)]; rfl
    refine List.forall_mem_map.2 fun e he hq h => ?_
    have hinf : (refreshOf e.costs).low1 = inf := by
      rw [← pruneEntry_best (p.df e he)]; simpa using hq
    rw [pruneEntry_costs]
    exact Nat.le_antisymm (cget_le_inf (p.ok e he).le h) (hinf ▸ (top e he).low1_le_cget h)

def Rib.WF (r : Rib) : Prop := Post r.entries

theorem ribUpdate_wf_cst (self : Nat) {r : Rib} (wf : r.WF) (w : Nat) (adv : List AdvEntry) :
    (ribUpdate self r w adv).1.WF ∧
    ∀ d h, (ribUpdate self r w adv).1.cst d h = if h = w then advNewFrom self inf adv d else r.cst d h := by
  unfold ribUpdate
  obtain ⟨p1, c1⟩ := dirtyReset_pre_cst wf.pre w
  obtain ⟨p2, c2⟩ := fold_pre_cst self w adv (r.dirtyReset w) false p1
  obtain ⟨p3, c3⟩ := pruneEntries_post p2
  refine ⟨p3, fun d h => ?_⟩
  show cstL (pruneEntries _).1 d h = _
  rw [c3]
  show Rib.cst _ d h = _
  rw [c2, c1, c1, if_pos rfl]
  split <;> rfl

theorem ribDead_wf_cst {r : Rib} (wf : r.WF) (w : Nat) :
    (ribDead r w).1.WF ∧ ∀ d h, (ribDead r w).1.cst d h = if h = w then inf else r.cst d h := by
  unfold ribDead
  obtain ⟨p1, c1⟩ := removeNh_pre_cst wf.pre w
  obtain ⟨p2, c2⟩ := pruneEntries_post p1
  refine ⟨p2, fun d h => ?_⟩
  show cstL (pruneEntries _).1 d h = _
  rw [c2]; exact c1 d h

theorem start_wf_cst (id : Nat) :
    (Router.start id).rib.WF ∧ ∀ d h, (Router.start id).rib.cst d h = if d = id ∧ h = id then 0 else inf := by
  constructor
  · have p := setEntries_pre pre_nil id id 0 (Nat.zero_le _)
    exact ⟨p.nd, p.ok, fun e he => by cases List.mem_singleton.1 he; rfl,
      fun e he => by cases List.mem_singleton.1 he; exact inf_pos⟩
  · exact fun d h => setEntries_cst [] id id 0 d h

end Ndn.C18
