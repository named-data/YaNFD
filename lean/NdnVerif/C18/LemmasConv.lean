/-
  C18 — convergence.  Poison reverse through OtherCost is split horizon, so the cost `net.K u d (net.idOf w)`
  converges to the length of the shortest NON-BACKTRACKING walk u → w → … → d (capped at infinity).  After t fair rounds
     `LBent` at level t: every finite cost below t is witnessed by such a walk,
     `UBent` at level t: every such walk of length ≤ t bounds the cost from above;
  both are invariant under exchanges and advance by one per fair round (`RoundInv`), so after 16 = infinity rounds
  every cost equals its split-horizon value: a fixed point.  At the end: a freshly started network fits every topology.
-/
import NdnVerif.C18.LemmasSP
namespace Ndn.C18

variable {g : Graph} {net net' : Net}

theorem wit_congr (hl : net'.length = net.length)
    (hid : ∀ x, net'.idOf x = net.idOf x) {u d h k : Nat} (w : Wit g net u d h k) : Wit g net' u d h k := by
  rcases w with ⟨a, b, c⟩ | ⟨w, v, ha, hh, hv, hd, hr⟩
  · exact Or.inl ⟨by rw [hid]; exact a, by rw [hid]; exact b, c⟩
  · exact Or.inr ⟨w, v, ha, by rw [hid]; exact hh, by rw [hl]; exact hv, by rw [hid]; exact hd, hr⟩

/-- a column update at `u` for the next hop `w` leaves a state that fits every graph `g'` that lies inside `g`, keeps the
    other links of `g`, and keeps the link `(u, w)` if the new column holds a finite cost -/
theorem ColUpdate.fits {g' : Graph} {u w : Nat} {v : Nat → Nat}
    (c : ColUpdate net net' u (net.idOf w) v) (ok : NetOK g net) (hv : u < net.length ∧ w < net.length ∧ u ≠ w)
    (sub : ∀ a b, g'.adj a b → g.adj a b) (keep : ∀ a b, g.adj a b → ¬ (a = u ∧ b = w) → g'.adj a b)
    (new : ∀ d, v d < inf → g'.adj u w) : NetOK g' net' := by
  refine ⟨c.wf, fun a b hab => c.len ▸ ok.adjValid a b (sub a b hab), fun a b hal hbl => ?_, fun a hal => ?_,
    fun a d h hlt => ?_⟩
  · rw [c.idOf, c.idOf]; rw [c.len] at hal hbl; exact ok.idInj a b hal hbl
  · have hn : ¬ (a = u ∧ net.idOf a = net.idOf w) := fun ⟨e1, e2⟩ => hv.2.2 (ok.idInj u w hv.1 hv.2.1 (e1 ▸ e2))
    rw [c.idOf, c.K, if_neg hn]
    exact ok.self a (c.len ▸ hal)
  · rw [c.K] at hlt
    rw [c.idOf]
    by_cases hc : a = u ∧ h = net.idOf w
    · rw [if_pos hc] at hlt
      exact Or.inr ⟨w, hc.1 ▸ new d hlt, by rw [c.idOf]; exact hc.2⟩
    · rw [if_neg hc] at hlt
      exact (ok.loc a d h hlt).imp_right fun ⟨w', ha', hh⟩ =>
        ⟨w', keep a w' ha' fun e => hc ⟨e.1, e.2 ▸ hh⟩, by rw [c.idOf]; exact hh⟩

theorem ok_fetch {g : Graph} {net net' : Net} {u w face : Nat} {fl : Bool} (ok : NetOK g net)
    (ha : g.adj u w) (hf : net.fetch u w face = some (net', fl)) : NetOK g net' :=
  (fetch_sem ok.wf hf).fits ok (ok.adjValid u w ha) (fun _ _ h => h) (fun _ _ h _ => h) fun _ _ => ha

/-- the invariant while a round is being processed: level `t` everywhere, level `t+1` on the links `S`
    already exchanged in this round (newest first) -/
structure RoundInv (g : Graph) (net : Net) (t : Nat) (S : List Exchange) : Prop where
  ok : NetOK g net
  lb : ∀ u d h, LBent g net t u d h
  ub : ∀ u w d, g.adj u w → UBent g net t u w d
  lbS : ∀ e ∈ S, ∀ d, LBent g net (t + 1) e.1 d (net.idOf e.2)
  ubS : ∀ e ∈ S, ∀ d, g.adj e.1 e.2 → UBent g net (t + 1) e.1 e.2 d

theorem round_step {g : Graph} {net net' : Net} {t : Nat} {S : List Exchange} {u w face : Nat} {fl : Bool}
    (inv : RoundInv g net t S) (ha : g.adj u w) (hf : net.fetch u w face = some (net', fl)) :
    RoundInv g net' t ((u, w) :: S) := by
  have c := fetch_sem inv.ok.wf hf
  have hwl := (inv.ok.adjValid u w ha).2.1
  have hK := c.K; have hl := c.len; have hid := c.idOf
  -- after the exchange an entry satisfies a level up to t+1 if it is a freshly installed one or satisfied it before
  have lbAll : ∀ {tt x d h}, tt ≤ t + 1 → (¬ (x = u ∧ h = net.idOf w) → LBent g net tt x d h) →
      LBent g net' tt x d h := by
    intro tt x d h htt old k hk hfin hlt
    rw [hK] at hk
    by_cases hc : x = u ∧ h = net.idOf w
    · rw [if_pos hc] at hk; rw [hc.1, hc.2]
      exact wit_congr hl hid (new_lb inv.ok inv.lb ha d k hk hfin (Nat.lt_of_lt_of_le hlt htt))
    · rw [if_neg hc] at hk
      exact wit_congr hl hid (old hc k hk hfin hlt)
  have ubAll : ∀ {tt x y d}, tt ≤ t + 1 → g.adj x y → (¬ (x = u ∧ y = w) → UBent g net tt x y d) →
      UBent g net' tt x y d := by
    intro tt x y d htt hxy old k v hkt hfin hvl hdv hr
    rw [hid, hK]
    rw [hl] at hvl; rw [hid] at hdv
    by_cases hc : x = u ∧ net.idOf y = net.idOf w
    · rw [if_pos hc]
      cases hc.1; cases inv.ok.idInj _ w (inv.ok.adjValid u _ hxy).2.1 hwl hc.2
      exact new_ub inv.ok inv.ub ha d k v (Nat.le_trans hkt htt) hfin hvl hdv hr
    · rw [if_neg hc]
      exact old (fun e => hc ⟨e.1, by rw [e.2]⟩) k v hkt hfin hvl hdv hr
  have inS : ∀ {e : Exchange}, e ∈ (u, w) :: S → ¬ (e.1 = u ∧ e.2 = w) → e ∈ S := fun he hc =>
    (List.mem_cons.1 he).resolve_left fun e' => hc (by rw [e']; exact ⟨rfl, rfl⟩)
  exact ⟨ok_fetch inv.ok ha hf, fun x d h => lbAll (Nat.le_succ t) fun _ => inv.lb x d h,
    fun x y d hxy => ubAll (Nat.le_succ t) hxy fun _ => inv.ub x y d hxy,
    fun e he d => by rw [hid]; exact lbAll (Nat.le_refl _) fun hc => inv.lbS e (inS he fun e' => hc ⟨e'.1, by rw [e'.2]⟩) d,
    fun e he d hadj => ubAll (Nat.le_refl _) hadj fun hc => inv.ubS e (inS he hc) d hadj⟩

theorem run_cons_along (ok : NetOK g net) {u w : Nat} (ha : g.adj u w) (t : List Exchange) :
    ∃ net' fl, net.fetch u w (w + 1) = some (net', fl) ∧ net.run ((u, w) :: t) = net'.run t := by
  obtain ⟨hul, hwl, _⟩ := ok.adjValid u w ha
  obtain ⟨net', fl, hf⟩ := fetch_some hul hwl (w + 1)
  exact ⟨net', fl, hf, by simp only [Net.run, hf]⟩

theorem round_run {t : Nat} (r : List Exchange) : ∀ {net : Net} {S : List Exchange},
    RoundInv g net t S → Along g r → RoundInv g (net.run r) t (r.reverse ++ S) := by
  induction r with
  | nil => intro net S inv _; exact inv
  | cons e r ih =>
    intro net S inv hal
    obtain ⟨u, w⟩ := e
    have ha : g.adj u w := hal (u, w) (List.mem_cons_self ..)
    obtain ⟨net', fl, hf, e⟩ := run_cons_along inv.ok ha r
    rw [e, List.reverse_cons, List.append_assoc]
    exact ih (round_step inv ha hf) (fun x hx => hal x (List.mem_cons_of_mem _ hx))

theorem round_end {g : Graph} {net : Net} {t : Nat} {S : List Exchange} (inv : RoundInv g net t S)
    (hcov : ∀ u w, g.adj u w → (u, w) ∈ S) : RoundInv g net (t + 1) [] := by
  refine ⟨inv.ok, fun u d h k hk hfin hlt => ?_, fun u w d ha => inv.ubS (u, w) (hcov u w ha) d ha,
    fun e he => (nomatch he), fun e he => (nomatch he)⟩
  rcases inv.ok.loc u d h (hk ▸ hfin) with ⟨hh, hd⟩ | ⟨w, ha, hh⟩
  · exact wit_self inv.ok hk hfin hh hd
  · subst hh
    exact inv.lbS (u, w) (hcov u w ha) d k hk hfin hlt

theorem netRun_append (net : Net) (a b : List Exchange) : net.run (a ++ b) = (net.run a).run b := by
  induction a generalizing net with
  | nil => rfl
  | cons e a ih =>
    obtain ⟨u, w⟩ := e
    simp only [List.cons_append, Net.run]
    cases net.fetch u w (w + 1) with
    | none => exact ih net
    | some p => exact ih p.1

theorem rounds_run (rounds : List (List Exchange)) : ∀ {net : Net} {t : Nat},
    RoundInv g net t [] → (∀ r ∈ rounds, Along g r) → (∀ r ∈ rounds, Covers g r) →
    RoundInv g (net.run rounds.flatten) (t + rounds.length) [] := by
  induction rounds with
  | nil => intro net t inv _ _; exact inv
  | cons r rs ih =>
    intro net t inv hal hcov
    have h1 := round_run r inv (hal r (List.mem_cons_self ..))
    have h2 := round_end h1 fun u w ha =>
      List.mem_append_left _ (List.mem_reverse.2 (hcov r (List.mem_cons_self ..) u w ha))
    have h3 := ih h2 (fun x hx => hal x (List.mem_cons_of_mem _ hx)) (fun x hx => hcov x (List.mem_cons_of_mem _ hx))
    rw [List.flatten_cons, netRun_append, List.length_cons, ← Nat.add_assoc, Nat.add_right_comm]
    exact h3

theorem roundInv_zero (ok : NetOK g net) : RoundInv g net 0 [] :=
  ⟨ok, fun _ _ _ k _ _ hlt => absurd hlt (Nat.not_lt_zero k),
    fun _ _ _ _ k _ hk _ _ _ hr => absurd hr.pos (by omega), fun _ he => (nomatch he), fun _ he => (nomatch he)⟩

theorem sh_of_level {t : Nat} (inv : RoundInv g net t []) (ht : inf ≤ t) : SH g net := by
  intro u w ha d
  have ok := inv.ok
  obtain ⟨hul, hwl, hne⟩ := ok.adjValid u w ha
  -- a witness of a cost via `w` is a non-backtracking walk through `w`
  have nb : ∀ {k}, Wit g net u d (net.idOf w) k → ∃ v, v < net.length ∧ net.idOf v = d ∧ NBReach g k u w v := by
    rintro k (⟨hh, _, _⟩ | ⟨w', v, ha', hh, hv, hdv, hr⟩)
    · exact absurd (ok.idInj u w hul hwl hh.symm) hne
    · cases ok.idInj w' w (ok.adjValid u w' ha').2.1 hwl hh.symm
      exact ⟨v, hv, hdv, hr⟩
  show net.K u d (net.idOf w) = net.shVal w d (net.idOf u)
  apply Nat.le_antisymm
  · by_cases hm : net.shVal w d (net.idOf u) < inf
    · obtain ⟨v, hv, hdv, hr⟩ := nb (new_lb ok inv.lb ha d _ rfl hm (by omega))
      exact inv.ub u w d ha _ v (by omega) hm hv hdv hr
    · exact Nat.le_trans (K_le_inf ok.wf u d _) (Nat.le_of_not_lt hm)
  · by_cases hK : net.K u d (net.idOf w) < inf
    · obtain ⟨v, hv, hdv, hr⟩ := nb (inv.lb u d (net.idOf w) _ rfl hK (by omega))
      exact new_ub ok (t := t) inv.ub ha d _ v (by omega) hK hv hdv hr
    · exact Nat.le_trans (capInf_le_inf _) (Nat.le_of_not_lt hK)

theorem fp_of_sh (wf : net.AllWF) (sh : SH g net) : IsFixedPoint g net :=
  fun u w ha _ _ _ hf d h => synced_fetch_noop wf (sh u w ha) hf u d h

theorem converges {g : Graph} {net : Net} (ok : NetOK g net)
    (rounds : List (List Exchange)) (hal : ∀ r ∈ rounds, Along g r) (hcov : ∀ r ∈ rounds, Covers g r)
    (hn : 16 ≤ rounds.length) :
    NetOK g (net.run rounds.flatten) ∧ IsFixedPoint g (net.run rounds.flatten) := by
  have inv := rounds_run rounds (roundInv_zero ok) hal hcov
  -- `inf` meets the literal 16 by unfolding
  have hinf : inf ≤ 0 + rounds.length := Nat.le_trans (show inf ≤ rounds.length from hn) (Nat.le_add_left ..)
  exact ⟨inv.ok, fp_of_sh inv.ok.wf (sh_of_level inv hinf)⟩

theorem start_K (ids : List Nat) (u d h : Nat) :
    Net.K (ids.map Router.start) u d h =
      match ids[u]? with
      | some id => if d = id ∧ h = id then 0 else inf
      | none => inf := by
  unfold Net.K Net.costs
  rw [List.getElem?_map]
  cases hu : ids[u]? with
  | none => rfl
  | some id => exact (start_wf_cst id).2 d h

theorem start_idOf (ids : List Nat) (u : Nat) : Net.idOf (ids.map Router.start) u = (ids[u]?).getD 0 := by
  unfold Net.idOf
  rw [List.getElem?_map]
  cases ids[u]? <;> rfl

theorem start_allWF (ids : List Nat) : Net.AllWF (ids.map Router.start) := fun r hr => by
  obtain ⟨id, _, rfl⟩ := List.mem_map.1 hr
  exact (start_wf_cst id).1

theorem start_ok (g : Graph) (ids : List Nat) (nd : ids.Nodup)
    (hadj : ∀ u w, g.adj u w → u < ids.length ∧ w < ids.length ∧ u ≠ w) :
    NetOK g (ids.map Router.start) := by
  constructor
  · exact start_allWF ids
  · intro u w ha; simpa using hadj u w ha
  · intro u v hu hv he
    simp only [List.length_map] at hu hv
    rw [start_idOf, start_idOf, List.getElem?_eq_getElem hu, List.getElem?_eq_getElem hv] at he
    exact (List.getElem_inj nd).mp he
  · intro u hu
    simp only [List.length_map] at hu
    rw [start_K, start_idOf, List.getElem?_eq_getElem hu]
    exact if_pos ⟨rfl, rfl⟩
  · intro u d h hlt
    rw [start_K] at hlt
    rw [start_idOf]
    cases hu : ids[u]? with
    | none => rw [hu] at hlt; exact absurd hlt (Nat.lt_irrefl _)
    | some id =>
      simp only [hu] at hlt
      by_cases hc : d = id ∧ h = id
      · exact Or.inl ⟨hc.2, hc.1⟩
      · rw [if_neg hc] at hlt; exact absurd hlt (Nat.lt_irrefl _)

end Ndn.C18
