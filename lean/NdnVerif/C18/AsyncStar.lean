/-
  C18 — one advertiser, any number of listeners: the task-level model of `Async.lean` for a router w and ALL its
  neighbours u_0 .. u_{n-1} at once.  The state is one link state per listener; the advertiser's part of it
  (RIB version, `advertSyncSeq`, pending propagation / send goroutines) is SHARED: a step of the advertiser
  (`change`, `runFib`, `runNotify`, `runSend`, `heartbeat`) happens on every link at the same time — in particular a
  Sync Interest is multicast: `runSend` / `heartbeat` put one copy into every link's channel, and each copy fares on
  its own (delivered, duplicated, lost).  A step of a listener or of one link's channel happens on that link only.
-/
import NdnVerif.C18.LemmasAsync
namespace Ndn.C18.Async

/-- the advertiser's share of a link state -/
structure WPart where
  ver : Nat
  seq : Nat
  seqVer : Nat
  fibVer : Nat
  grpFib : Nat
  grpNotify : Nat
  sendPending : Nat
deriving DecidableEq, Repr

def St.w (st : St) : WPart :=
  ⟨st.ver, st.seq, st.seqVer, st.fibVer, st.grpFib, st.grpNotify, st.sendPending⟩

def Step.ofAdvertiser : Step → Bool
  | .change | .runFib | .runNotify | .runSend | .heartbeat => true
  | _ => false

inductive GStep where
  /-- a step of the advertiser (must satisfy `ofAdvertiser`; others are ignored) -/
  | adv (a : Step)
  /-- a step of listener `k` / of the channel between w and listener `k` (must NOT be an advertiser step) -/
  | link (k : Nat) (a : Step)

def modifyAt (l : List St) (k : Nat) (f : St → St) : List St :=
  match l, k with
  | [], _ => []
  | x :: t, 0 => f x :: t
  | x :: t, k + 1 => x :: modifyAt t k f

/-- ill-formed global steps are no-ops: every list of `GStep`s is a history -/
def gstep (gs : List St) : GStep → List St
  | .adv a => if a.ofAdvertiser then gs.map (step · a) else gs
  | .link k a => if a.ofAdvertiser then gs else modifyAt gs k (step · a)

def grun (gs : List St) (steps : List GStep) : List St := steps.foldl gstep gs

/-- what link `k` sees of a global step -/
def GStep.proj (k : Nat) : GStep → List Step
  | .adv a => if a.ofAdvertiser then [a] else []
  | .link j a => if a.ofAdvertiser then [] else if j = k then [a] else []

theorem modifyAt_eq_modify (l : List St) (k : Nat) (f : St → St) : modifyAt l k f = l.modify k f := by
  induction l generalizing k with
  | nil => cases k <;> rfl
  | cons x t ih =>
    cases k with
    | zero => rfl
    | succ k => exact congrArg (x :: ·) (ih k)

theorem modifyAt_getElem? (l : List St) (k j : Nat) (f : St → St) :
    (modifyAt l k f)[j]? = if j = k then l[j]?.map f else l[j]? := by
  rw [modifyAt_eq_modify, List.getElem?_modify]
  by_cases h : j = k
  · rw [if_pos h, h]; cases l[k]? <;> simp
  · rw [if_neg h]; cases l[j]? <;> simp [Ne.symm h]

theorem gstep_proj (gs : List St) (g : GStep) (k : Nat) :
    (gstep gs g)[k]? = gs[k]?.map (fun st => run st (g.proj k)) := by
  cases g with
  | adv a =>
    simp only [gstep, GStep.proj]
    split
    · simp [run]
    · simp [run]
  | link j a =>
    simp only [gstep, GStep.proj]
    split
    · simp [run]
    · rw [modifyAt_getElem?]
      by_cases h : j = k
      · subst h; simp [run]
      · have : ¬ k = j := fun e => h e.symm
        simp [run, h, this]

/-- Link `k` of any run of the star is a run of the single-link system. -/
theorem grun_proj (gs : List St) (steps : List GStep) (k : Nat) :
    (grun gs steps)[k]? = gs[k]?.map (fun st => run st (steps.flatMap (GStep.proj k))) := by
  induction steps generalizing gs with
  | nil => simp [grun, run]
  | cons g t ih =>
    show (grun (gstep gs g) t)[k]? = _
    rw [ih, gstep_proj]
    cases gs[k]? with
    | none => rfl
    | some st => simp [List.flatMap_cons, run, List.foldl_append]

/-- the advertiser's own transition system: its share of a link state after a step, from its share before -/
def wstep (w : WPart) : Step → WPart
  | .change => { w with ver := w.ver + 1, grpFib := w.grpFib + 1 }
  | .runFib => if w.grpFib = 0 then w else
      { w with grpFib := w.grpFib - 1, grpNotify := w.grpNotify + 1, fibVer := w.ver }
  | .runNotify => if w.grpNotify = 0 then w else
      { w with grpNotify := w.grpNotify - 1, seq := w.seq + 1, seqVer := w.ver, sendPending := w.sendPending + 1 }
  | .runSend => if w.sendPending = 0 then w else { w with sendPending := w.sendPending - 1 }
  | _ => w

theorem onSync_w (st : St) (s : Nat) : (onSync st s).w = st.w := by
  unfold onSync; split <;> rfl

/-- every step of a link acts on the advertiser's share as the advertiser's own system does: steps of the
    listener and of the channel leave it alone -/
theorem step_w (st : St) (a : Step) : (step st a).w = wstep st.w a := by
  cases a with
  | change | heartbeat | dropSync _ | dead => rfl
  | runFib | runNotify | runSend => exact apply_ite St.w _ _ _
  | deliverSync i keep =>
    simp only [step]; split
    · rfl
    · rw [onSync_w]; cases keep <;> rfl
  | runFetch i =>
    simp only [step]; split
    · rfl
    · split <;> rfl
  | deliverData i keep =>
    simp only [step]; split
    · rfl
    · split <;> cases keep <;> rfl
  | serve _ _ | timeoutReq _ | loseData _ | runRib => simp only [step]; split <;> rfl

theorem step_w_adv {s t : St} (h : s.w = t.w) (a : Step) : (step s a).w = (step t a).w := by
  rw [step_w, step_w, h]

theorem step_w_link (st : St) (a : Step) (ha : a.ofAdvertiser = false) : (step st a).w = st.w := by
  rw [step_w]
  cases a with
  | change | runFib | runNotify | runSend | heartbeat => cases ha
  | _ => rfl

def Coupled (gs : List St) : Prop := ∀ s ∈ gs, ∀ t ∈ gs, s.w = t.w

theorem proj_w {s t : St} (h : s.w = t.w) (g : GStep) (j k : Nat) :
    (run s (g.proj j)).w = (run t (g.proj k)).w := by
  cases g with
  | adv a =>
    simp only [GStep.proj]
    by_cases ha : a.ofAdvertiser = true
    · rw [if_pos ha]; exact step_w_adv h a
    · rw [if_neg ha]; exact h
  | link i a =>
    simp only [GStep.proj]
    by_cases ha : a.ofAdvertiser = true
    · simp only [if_pos ha]; exact h
    · have e : ∀ (x : St) (n : Nat), (run x (if i = n then [a] else [])).w = x.w := fun x n => by
        split
        · exact step_w_link x a (Bool.not_eq_true _ ▸ ha)
        · rfl
      simp only [if_neg ha, e]; exact h

theorem coupled_gstep {gs : List St} (c : Coupled gs) (g : GStep) : Coupled (gstep gs g) := by
  intro s hs t ht
  obtain ⟨j, hj⟩ := List.mem_iff_getElem?.1 hs
  obtain ⟨k, hk⟩ := List.mem_iff_getElem?.1 ht
  rw [gstep_proj] at hj hk
  obtain ⟨s0, hs0, rfl⟩ := Option.map_eq_some_iff.1 hj
  obtain ⟨t0, ht0, rfl⟩ := Option.map_eq_some_iff.1 hk
  exact proj_w (c s0 (List.mem_of_getElem? hs0) t0 (List.mem_of_getElem? ht0)) g j k

theorem coupled_grun {gs : List St} (c : Coupled gs) (steps : List GStep) : Coupled (grun gs steps) :=
  List.foldlRecOn steps _ c fun _ c g _ => coupled_gstep c g

/-- the star right after start-up: n listeners, advertiser booted with sequence number `s0` -/
def ginit (n s0 : Nat) : List St := List.replicate n (init s0)

theorem mem_grun_ginit {n s0 : Nat} {steps : List GStep} {st : St} (h : st ∈ grun (ginit n s0) steps) :
    ∃ l, st = run (init s0) l := by
  obtain ⟨k, hk⟩ := List.mem_iff_getElem?.1 h
  rw [grun_proj] at hk
  obtain ⟨i0, hi, rfl⟩ := Option.map_eq_some_iff.1 hk
  exact ⟨_, by rw [List.eq_of_mem_replicate (List.mem_of_getElem? hi)]⟩

end Ndn.C18.Async
