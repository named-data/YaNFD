/-
  C18 — under the split-horizon recurrence `SH` (every link synced; a fixed point satisfies it) every finite cost is
  witnessed by a walk and every hop distance below infinity is attained: the tables hold the shortest paths.
-/
import NdnVerif.C18.LemmasSynced
namespace Ndn.C18

variable {g : Graph} {net : Net}

/-- the split-horizon recurrence (what one exchange over link u→w leaves at u for the next hop w) on every link:
    `Net.shVal`, and word for word `Net.SyncedLink` on every link -/
def SH (g : Graph) (net : Net) : Prop :=
  ∀ u w, g.adj u w → ∀ d, net.K u d (net.idOf w) = capInf (minExcl (net.costs w d) (net.idOf u) + 1)

theorem sh_iff_synced : SH g net ↔ ∀ u w, g.adj u w → net.SyncedLink u w := Iff.rfl

theorem fp_sh (ok : NetOK g net) (fp : IsFixedPoint g net) : SH g net := by
  intro u w ha d
  obtain ⟨hu, hw, huw⟩ := ok.adjValid u w ha
  obtain ⟨net', fl, hf⟩ := fetch_some hu hw 0
  have c := fetch_sem ok.wf hf
  have s' := fetch_makes_synced ok.wf huw hf d
  rwa [c.idOf, c.idOf, c.costs w (Ne.symm huw), fp u w ha 0 net' fl hf] at s'

theorem lt_length_of_K_lt {u d h : Nat} (hlt : net.K u d h < inf) : u < net.length := by
  apply Nat.lt_of_not_le; intro hle
  unfold Net.K Net.costs at hlt
  rw [List.getElem?_eq_none hle] at hlt
  exact Nat.lt_irrefl _ hlt

/-- non-backtracking walk of `k` links from `u`, first hop `w`, to `v` -/
inductive NBReach (g : Graph) : Nat → Nat → Nat → Nat → Prop
  | one {u v : Nat} : g.adj u v → NBReach g 1 u v v
  | step {k u w x v : Nat} : g.adj u w → NBReach g k w x v → x ≠ u → NBReach g (k + 1) u w v

theorem NBReach.pos {k u w v : Nat} (h : NBReach g k u w v) : 1 ≤ k := by
  cases h <;> omega

theorem NBReach.adj {k u w v : Nat} (h : NBReach g k u w v) : g.adj u w := by
  cases h with
  | one ha => exact ha
  | step ha _ _ => exact ha

theorem NBReach.reach {k u w v : Nat} (h : NBReach g k u w v) :
    ∃ j, k = j + 1 ∧ Reach g j w v := by
  induction h with
  | one _ => exact ⟨0, rfl, Reach.zero _⟩
  | step _ hr _ ih =>
    obtain ⟨j, rfl, hr'⟩ := ih
    exact ⟨j + 1, rfl, Reach.step hr.adj hr'⟩

/-- the finite cost `k` of entry (u, d, h) is witnessed: the own entry at cost 0, or a non-backtracking walk of `k` links -/
def Wit (g : Graph) (net : Net) (u d h k : Nat) : Prop :=
  (h = net.idOf u ∧ d = net.idOf u ∧ k = 0) ∨
  ∃ w v, g.adj u w ∧ h = net.idOf w ∧ v < net.length ∧ net.idOf v = d ∧ NBReach g k u w v

def LBent (g : Graph) (net : Net) (t u d h : Nat) : Prop :=
  ∀ k, net.K u d h = k → k < inf → k < t → Wit g net u d h k

theorem wit_self (ok : NetOK g net) {u d h k : Nat} (hk : net.K u d h = k) (hfin : k < inf)
    (hh : h = net.idOf u) (hd : d = net.idOf u) : Wit g net u d h k := by
  refine Or.inl ⟨hh, hd, ?_⟩
  rw [← hk, hh, hd]
  exact ok.self u (lt_length_of_K_lt (hk ▸ hfin))

/-- lower bound of a freshly installed cost: witnessed below `t+1` when the neighbour's costs are
    witnessed below `t` -/
theorem new_lb (ok : NetOK g net) {t : Nat}
    (lb : ∀ u d h, LBent g net t u d h) {u w : Nat} (ha : g.adj u w) (d k : Nat)
    (hk : net.shVal w d (net.idOf u) = k) (hfin : k < inf) (hlt : k < t + 1) :
    Wit g net u d (net.idOf w) k := by
  obtain ⟨_, hwl, _⟩ := ok.adjValid u w ha
  obtain ⟨h', hne', hK⟩ := sh_attained ok.wf (hk ▸ hfin)
  rw [hk] at hK
  subst hK
  rcases lb w d h' _ rfl (by omega) (by omega) with ⟨_, hd, hz⟩ | ⟨x, v, _, hh, hv, hdv, hr⟩
  · exact Or.inr ⟨w, w, ha, rfl, hwl, hd.symm, hz ▸ NBReach.one ha⟩
  · exact Or.inr ⟨w, v, ha, rfl, hv, hdv, NBReach.step ha hr fun e => hne' (e ▸ hh)⟩

theorem lb_of_sh (ok : NetOK g net) (sh : SH g net) :
    ∀ t u d h, LBent g net t u d h := by
  intro t
  induction t with
  | zero => exact fun u d h k _ _ hlt => absurd hlt (Nat.not_lt_zero k)
  | succ t ih =>
    intro u d h k hk hfin hlt
    rcases ok.loc u d h (hk ▸ hfin) with ⟨hh, hd⟩ | ⟨w, ha, hh⟩
    · exact wit_self ok hk hfin hh hd
    · subst hh
      exact new_lb ok ih ha d k ((sh u w ha d).symm.trans hk) hfin hlt

def UBent (g : Graph) (net : Net) (t u w d : Nat) : Prop :=
  ∀ k v, k ≤ t → k < inf → v < net.length → net.idOf v = d → NBReach g k u w v →
    net.K u d (net.idOf w) ≤ k

theorem new_ub (ok : NetOK g net) {t : Nat}
    (ub : ∀ u w d, g.adj u w → UBent g net t u w d) {u w : Nat} (ha : g.adj u w) (d k v : Nat)
    (hkt : k ≤ t + 1) (hfin : k < inf) (hvl : v < net.length) (hdv : net.idOf v = d)
    (hr : NBReach g k u w v) :
    net.shVal w d (net.idOf u) ≤ k := by
  obtain ⟨hul, hwl, hne⟩ := ok.adjValid u w ha
  cases hr with
  | one _ =>
    have := sh_le net w d (net.idOf u) (h := net.idOf w) fun e => hne (ok.idInj u w hul hwl e.symm)
    rw [← hdv, ok.self w hwl] at this
    exact hdv ▸ this
  | step hadj hr' hxu =>
    rename_i k' x
    have hax := hr'.adj
    have hK := ub w x d hax k' v (by omega) (by omega) hvl hdv hr'
    have := sh_le net w d (net.idOf u) (h := net.idOf x) fun e =>
      hxu (ok.idInj x u (ok.adjValid w x hax).2.1 hul e)
    omega

theorem ub_of_sh (ok : NetOK g net) (sh : SH g net) : ∀ t u w d, g.adj u w → UBent g net t u w d := by
  intro t
  induction t with
  | zero => exact fun _ _ _ _ k _ hk _ _ _ hr => absurd hr.pos (by omega)
  | succ t ih =>
    intro u w d ha k v hkt hfin hvl hdv hr
    rw [show net.K u d (net.idOf w) = net.shVal w d (net.idOf u) from sh u w ha d]
    exact new_ub ok ih ha d k v hkt hfin hvl hdv hr

theorem Wit.to (ok : NetOK g net) {u v h k : Nat} (hul : u < net.length) (hvl : v < net.length)
    (wit : Wit g net u (net.idOf v) h k) :
    (h = net.idOf u ∧ v = u ∧ k = 0) ∨ ∃ w, g.adj u w ∧ h = net.idOf w ∧ NBReach g k u w v := by
  rcases wit with ⟨hh, hd, hz⟩ | ⟨w, v', ha, hh, hvl', hvd', hr⟩
  · exact Or.inl ⟨hh, ok.idInj v u hvl hul hd, hz⟩
  · cases ok.idInj v' v hvl' hvl hvd'
    exact Or.inr ⟨w, ha, hh, hr⟩

theorem cost_witnessed (ok : NetOK g net) (sh : SH g net) {u d h : Nat}
    (hfin : net.K u d h < inf) : Wit g net u d h (net.K u d h) :=
  lb_of_sh ok sh (net.K u d h + 1) u d h _ rfl hfin (Nat.lt_succ_self _)

theorem cost_reach (ok : NetOK g net) (sh : SH g net) {u v h : Nat} (hvl : v < net.length)
    (hlt : net.K u (net.idOf v) h < inf) : Reach g (net.K u (net.idOf v) h) u v := by
  rcases (cost_witnessed ok sh hlt).to ok (lt_length_of_K_lt hlt) hvl with ⟨_, hv, hz⟩ | ⟨w, ha, _, hr⟩
  · rw [hz, hv]; exact Reach.zero u
  · obtain ⟨j, hj, hr'⟩ := hr.reach
    exact hj ▸ Reach.step ha hr'

theorem dist_le_cost (ok : NetOK g net) (sh : SH g net)
    {u v k : Nat} (hd : IsDist g u v k) (hvl : v < net.length) (h : Nat) :
    k ≤ net.K u (net.idOf v) h ∨ inf ≤ net.K u (net.idOf v) h := by
  by_cases hfin : net.K u (net.idOf v) h < inf
  · exact Or.inl (Nat.le_of_not_lt fun hlt => hd.2 _ hlt (cost_reach ok sh hvl hfin))
  · exact Or.inr (Nat.le_of_not_lt hfin)

theorem isDist_of_step {u w v k : Nat} (ha : g.adj u w) (hd : IsDist g u v (k + 1))
    (hr : Reach g k w v) : IsDist g w v k :=
  ⟨hr, fun j hj hrj => hd.2 (j + 1) (Nat.succ_lt_succ hj) (Reach.step ha hrj)⟩

/-- a shortest walk does not backtrack -/
theorem nb_of_dist : ∀ {k u w v : Nat}, g.adj u w → IsDist g u v (k + 1) → IsDist g w v k →
    NBReach g (k + 1) u w v := by
  intro k
  induction k with
  | zero => intro u w v ha _ hdw; cases hdw.1; exact NBReach.one ha
  | succ k ih =>
    intro u w v ha hdu hdw
    cases hdw.1 with
    | step hax hr =>
      refine NBReach.step ha (ih hax hdw (isDist_of_step hax hdw hr)) fun e => ?_
      subst e
      exact hdu.2 k (by omega) hr

/-- a neighbour at distance k gives cost exactly k+1 through it: at most, because the walk through it is a shortest
    one and so does not backtrack; at least, because every finite cost is the length of a walk -/
theorem cost_via_neighbor (ok : NetOK g net) (sh : SH g net)
    {u w v k : Nat} (ha : g.adj u w) (hdu : IsDist g u v (k + 1)) (hdw : IsDist g w v k)
    (hvl : v < net.length) (hk : k + 1 < inf) : net.K u (net.idOf v) (net.idOf w) = k + 1 := by
  have hub := ub_of_sh ok sh (k + 1) u w (net.idOf v) ha (k + 1) v (Nat.le_refl _) hk hvl rfl (nb_of_dist ha hdu hdw)
  rcases dist_le_cost ok sh hdu hvl (net.idOf w) with h | h <;> omega

theorem via_neighbor {g : Graph} {net : Net} (ok : NetOK g net) (sh : SH g net)
    {u w v k : Nat} (ha : g.adj u w) (hdu : IsDist g u v (k + 1)) (hdw : IsDist g w v k)
    (hvl : v < net.length) (hk : k + 1 < inf)
    (hw : ∃ h, net.K w (net.idOf v) h = k) : net.K u (net.idOf v) (net.idOf w) = k + 1 :=
  cost_via_neighbor ok sh ha hdu hdw hvl hk

theorem dist_attained (ok : NetOK g net) (sh : SH g net) {k u v : Nat} (hd : IsDist g u v k) (hk : k < inf)
    (hul : u < net.length) (hvl : v < net.length) : ∃ h, net.K u (net.idOf v) h = k := by
  cases hd.1 with
  | zero => exact ⟨net.idOf u, ok.self u hul⟩
  | step ha hr => exact ⟨_, cost_via_neighbor ok sh ha hd (isDist_of_step ha hd hr) hvl hk⟩

theorem best_spec (wf : net.AllWF) (u d : Nat) :
    (∀ h, net.best u d ≤ net.K u d h) ∧
    (net.best u d < inf → net.K u d (net.nextHop u d) = net.best u d ∧
      ∀ h, net.K u d h = net.best u d → net.nextHop u d ≤ h) := by
  unfold Net.best Net.nextHop Net.K Net.costs
  cases hu : net[u]? with
  | none => exact ⟨fun _ => Nat.le_refl _, fun h => absurd h (Nat.lt_irrefl _)⟩
  | some r =>
    have p := wf r (List.mem_of_getElem? hu)
    simp only [Rib.costsOf, costsL]
    cases he : findE r.rib.entries d with
    | none => exact ⟨fun _ => Nat.le_refl _, fun h => absurd h (Nat.lt_irrefl _)⟩
    | some e =>
      have hmem := (findE_mem he).1
      have t := Post.top2 p hmem
      exact ⟨t.low1_le_cget, fun hlt => ⟨cget_of_mem (p.ok e hmem).nd (t.mem1 hlt), fun h hK => t.nh1_le hK hlt⟩⟩

theorem advert_mem {u : Nat} {a : AdvEntry} (wf : net.AllWF) (ha : a ∈ net.advertOf u) :
    a.cost = net.best u a.dest ∧ a.cost < inf := by
  unfold Net.advertOf at ha
  unfold Net.best
  cases hu : net[u]? with
  | none => rw [hu] at ha; cases ha
  | some r =>
    rw [hu] at ha
    obtain ⟨e, he, rfl⟩ := List.mem_map.1 ha
    have p := wf r (List.mem_of_getElem? hu)
    simp only [findE_of_mem p.nd he]
    exact ⟨trivial, p.finite e he⟩

theorem sh_shortest_path (ok : NetOK g net) (sh : SH g net) {u v k : Nat} (hul : u < net.length)
    (hvl : v < net.length) (hd : IsDist g u v k) (hk : k < inf) :
    net.best u (net.idOf v) = k ∧
    (1 ≤ k → ∃ w, g.adj u w ∧ net.nextHop u (net.idOf v) = net.idOf w ∧ IsDist g w v (k - 1) ∧
      ∀ w', g.adj u w' → IsDist g w' v (k - 1) → net.idOf w ≤ net.idOf w') := by
  obtain ⟨h0, hK0⟩ := dist_attained ok sh hd hk hul hvl
  obtain ⟨hmin, hatt⟩ := best_spec ok.wf u (net.idOf v)
  have hb : net.best u (net.idOf v) = k := by
    have h1 := hmin h0
    obtain ⟨hnh, _⟩ := hatt (by omega)
    rcases dist_le_cost ok sh hd hvl (net.nextHop u (net.idOf v)) with h | h <;> omega
  refine ⟨hb, fun h1 => ?_⟩
  obtain ⟨hnh, htie⟩ := hatt (by omega)
  rw [hb] at hnh htie
  rcases (hnh ▸ cost_witnessed ok sh (hnh.symm ▸ hk)).to ok hul hvl with ⟨_, _, hz⟩ | ⟨w, ha, hid, hr⟩
  · omega
  · obtain ⟨j, rfl, hr'⟩ := hr.reach
    have hdw : IsDist g w v j := isDist_of_step ha hd hr'
    refine ⟨w, ha, hid, hdw, fun w' ha' hdw' => ?_⟩
    exact hid ▸ htie _ (cost_via_neighbor ok sh ha' hd hdw' hvl hk)

theorem sh_unreachable (ok : NetOK g net) (sh : SH g net) {u v : Nat} (hvl : v < net.length)
    (hun : ∀ k, ¬ Reach g k u v) : ∀ a ∈ net.advertOf u, a.dest ≠ net.idOf v := by
  intro a ha hdest
  obtain ⟨hc, hfin⟩ := advert_mem ok.wf ha
  obtain ⟨hnh, _⟩ := (best_spec ok.wf u a.dest).2 (hc ▸ hfin)
  rw [hdest] at hnh
  exact hun _ (cost_reach ok sh hvl (hnh ▸ hdest ▸ hc ▸ hfin))

end Ndn.C18
