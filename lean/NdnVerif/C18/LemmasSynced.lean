/-
  C18 — the bridge between the task-level model of the advertisement machinery (`Async.lean`: at quiescence
  every neighbour has applied the advertiser's CURRENT advertisement) and the routing-table model (`Model.lean`,
  `Theory.lean`): that state of one link on the cost tables (`Net.SyncedLink`); an exchange establishes it, and on a
  link in that state an exchange changes nothing.  All links synced ⇔ fixed point is assembled from these two in
  `fp_sh` (LemmasSP), `fp_of_sh` (LemmasConv) and `Props.fixed_point_iff_all_links_synced`.
-/
import NdnVerif.C18.Theory
namespace Ndn.C18

/-- Link u ← w is *synced*: the costs router u holds via next hop w are exactly the ones `ribUpdate` derives from
    the advertisement w serves NOW (split horizon applied) — the Net-level content of "the last `ribUpdate(ns)` u ran
    for w read w's current advertisement" (`Async.St.applied = some ver`). -/
def Net.SyncedLink (net : Net) (u w : Nat) : Prop :=
  ∀ d, net.K u d (net.idOf w) = capInf (minExcl (net.costs w d) (net.idOf u) + 1)

/-- processing w's current advertisement makes the link synced (`ribUpdate` is a function of the advertisement) -/
theorem fetch_makes_synced {net net' : Net} {u w face : Nat} {fl : Bool} (wf : net.AllWF) (huw : u ≠ w)
    (hf : net.fetch u w face = some (net', fl)) : net'.SyncedLink u w := by
  have c := fetch_sem wf hf
  intro d
  -- w's own cost maps are untouched by an exchange at u
  rw [c.idOf, c.idOf, c.K, if_pos ⟨rfl, rfl⟩, c.costs w (Ne.symm huw)]

theorem synced_fetch_noop {net net' : Net} {u w face : Nat} {fl : Bool} (wf : net.AllWF)
    (s : net.SyncedLink u w) (hf : net.fetch u w face = some (net', fl)) :
    ∀ x d h, net'.K x d h = net.K x d h := by
  intro x d h
  rw [(fetch_sem wf hf).K]
  split
  · next hc =>
    obtain ⟨rfl, rfl⟩ := hc
    exact (s d).symm
  · rfl

end Ndn.C18
