/-
  C18 — networks.  The exchange `fetch u w` in terms of the cost function `Net.K`: it replaces the costs of u via w
  by the split-horizon value `net.shVal w d (net.idOf u)` and leaves everything else alone; `dead u w` resets
  them to infinity (`ColUpdate`).
-/
import NdnVerif.C18.LemmasRib
namespace Ndn.C18

variable {net net' : Net}

/-- the advertisement entry of a RIB entry (`Rib.advert` maps it over the entries) -/
def Entry.adv (e : Entry) : AdvEntry := { dest := e.dest, nh := e.best.nh1, cost := e.best.low1, other := e.best.low2 }

theorem advNew_find (self d : Nat) {es : List Entry} (nd : (es.map (·.dest)).Nodup) (m0 : Nat) :
    advNewFrom self m0 (es.map Entry.adv) d =
      match findE es d with
      | some e => if advCost self e.adv < inf then advCost self e.adv else m0
      | none => m0 := by
  induction es generalizing m0 with
  | nil => rfl
  | cons e t ih =>
    rw [List.map_cons, List.nodup_cons] at nd
    rw [List.map_cons, advNewFrom_cons, ih nd.2, findE_cons]
    by_cases he : e.dest = d
    · rw [if_pos he, findE_none_of_not_mem (he ▸ nd.1)]
      simp only [Entry.adv, he, true_and]
    · rw [if_neg he, if_neg (c := e.adv.dest = d ∧ _) fun h => he h.1]

theorem advNew_advert (self d : Nat) {r : Rib} (wf : r.WF) :
    advNewFrom self inf r.advert d = capInf (minExcl (r.costsOf d) self + 1) := by
  show advNewFrom self inf (r.entries.map Entry.adv) d = capInf (minExcl (costsL r.entries d) self + 1)
  rw [advNew_find self d wf.nd]
  unfold costsL
  cases he : findE r.entries d with
  | none => rfl
  | some e => exact advCost_splitHorizon (Post.top2 wf (findE_mem he).1) self e.dest

/-- cost map of router `u` (index) for destination `d` (key) -/
def Net.costs (net : Net) (u d : Nat) : Costs :=
  match net[u]? with
  | some r => r.rib.costsOf d
  | none => []

/-- cost at router `u` (index) to destination `d` (key) via next hop `h` (key); infinity if none -/
def Net.K (net : Net) (u d h : Nat) : Nat := cget (net.costs u d) h

def Net.idOf (net : Net) (u : Nat) : Nat :=
  match net[u]? with
  | some r => r.id
  | none => 0

def Net.AllWF (net : Net) : Prop := ∀ r ∈ net, r.rib.WF

theorem idOf_of_get {u : Nat} {r : Router} (h : net[u]? = some r) : net.idOf u = r.id := by
  unfold Net.idOf; rw [h]

theorem K_of_get {u : Nat} {r : Router} (h : net[u]? = some r) (d x : Nat) :
    net.K u d x = r.rib.cst d x := by
  unfold Net.K Net.costs; rw [h]; rfl

theorem costs_ok (wf : net.AllWF) (u d : Nat) :
    ((net.costs u d).map (·.1)).Nodup ∧ ∀ h k, (h, k) ∈ net.costs u d → k ≤ inf := by
  have nil : ((([] : Costs)).map (·.1)).Nodup ∧ ∀ h k, (h, k) ∈ ([] : Costs) → k ≤ inf :=
    ⟨List.nodup_nil, fun _ _ h => nomatch h⟩
  unfold Net.costs
  cases hu : net[u]? with
  | none => exact nil
  | some r =>
    show ((costsL r.rib.entries d).map (·.1)).Nodup ∧ ∀ h k, (h, k) ∈ costsL r.rib.entries d → k ≤ inf
    unfold costsL
    cases he : findE r.rib.entries d with
    | none => exact nil
    | some e =>
      have ok := (wf r (List.mem_of_getElem? hu)).ok e (findE_mem he).1
      exact ⟨ok.nd, ok.le⟩

theorem K_le_inf (wf : net.AllWF) (u d h : Nat) : net.K u d h ≤ inf :=
  cget_le_inf (costs_ok wf u d).2 h

/-- the split-horizon value an exchange installs at the router with key `x` from `w`'s advertisement -/
abbrev Net.shVal (net : Net) (w d x : Nat) : Nat := capInf (minExcl (net.costs w d) x + 1)

theorem sh_le (net : Net) (w d x : Nat) {h : Nat} (hne : h ≠ x) : net.shVal w d x ≤ net.K w d h + 1 := by
  refine Nat.le_trans (capInf_le _) (Nat.succ_le_succ ?_)
  unfold Net.K
  rcases cget_mem_or_inf (net.costs w d) h with hm | e
  · exact minExcl_le _ x hm hne
  · rw [e]; exact minExcl_le_inf _ x

theorem sh_attained (wf : net.AllWF) {w d x : Nat} (hlt : net.shVal w d x < inf) :
    ∃ h, h ≠ x ∧ net.K w d h + 1 = net.shVal w d x := by
  obtain ⟨e, hm⟩ := capInf_lt hlt
  obtain ⟨h, hmem, hne⟩ := minExcl_attained (net.costs w d) x (by omega)
  exact ⟨h, hne, by unfold Net.shVal Net.K; rw [e, cget_of_mem (costs_ok wf w d).1 hmem]⟩

theorem setAt_eq_set (net : Net) (u : Nat) (r : Router) : net.setAt u r = net.set u r := by
  induction net generalizing u with
  | nil => rfl
  | cons a t ih =>
    cases u with
    | zero => rfl
    | succ u => exact congrArg (a :: ·) (ih u)

theorem getElem?_setAt {u : Nat} {ru : Router} (hu : net[u]? = some ru) (r : Router) (x : Nat) :
    (net.setAt u r)[x]? = if x = u then some r else net[x]? := by
  rw [setAt_eq_set, List.getElem?_set, if_pos (List.getElem?_eq_some_iff.1 hu).1]
  by_cases h : x = u
  · rw [if_pos h, if_pos h.symm]
  · rw [if_neg h, if_neg (Ne.symm h)]

/-- `net'` is `net` with the costs of router `u` via next hop `h0` replaced by `v` -/
structure ColUpdate (net net' : Net) (u h0 : Nat) (v : Nat → Nat) : Prop where
  wf : net'.AllWF
  len : net'.length = net.length
  idOf : ∀ x, net'.idOf x = net.idOf x
  K : ∀ x d h, net'.K x d h = if x = u ∧ h = h0 then v d else net.K x d h
  costs : ∀ x, x ≠ u → ∀ d, net'.costs x d = net.costs x d

theorem colUpdate_setAt (wf : net.AllWF) {u : Nat} {ru : Router} (hu : net[u]? = some ru)
    {rib' : Rib} (nbrs' : List (Nat × Nat)) (wf' : rib'.WF) {h0 : Nat} {v : Nat → Nat}
    (hc : ∀ d h, rib'.cst d h = if h = h0 then v d else ru.rib.cst d h) :
    ColUpdate net (net.setAt u { ru with rib := rib', nbrs := nbrs' }) u h0 v := by
  have get := getElem?_setAt hu { ru with rib := rib', nbrs := nbrs' }
  refine ⟨fun r hr => ?_, by rw [setAt_eq_set, List.length_set], fun x => ?_, fun x d h => ?_, fun x hx d => ?_⟩
  · rw [setAt_eq_set] at hr
    rcases List.mem_or_eq_of_mem_set hr with hr | rfl
    · exact wf r hr
    · exact wf'
  · by_cases hx : x = u
    · rw [hx, idOf_of_get (by rw [get, if_pos rfl]), idOf_of_get hu]
    · unfold Net.idOf; rw [get, if_neg hx]
  · by_cases hx : x = u
    · rw [hx, K_of_get (by rw [get, if_pos rfl]), K_of_get hu, hc]; simp only [true_and]
    · unfold Net.K Net.costs; rw [get, if_neg hx, if_neg fun h => hx h.1]
  · unfold Net.costs; rw [get, if_neg hx]

theorem of_fetch_eq_some {u w face : Nat} {fl : Bool} (hf : net.fetch u w face = some (net', fl)) :
    ∃ ru rw, net[u]? = some ru ∧ net[w]? = some rw ∧
      net' = net.setAt u { ru with rib := (ribUpdate ru.id ru.rib rw.id rw.rib.advert).1, nbrs := aset ru.nbrs rw.id face } := by
  unfold Net.fetch Net.get? at hf
  split at hf
  · next ru rw hu hw => cases hf; exact ⟨ru, rw, hu, hw, rfl⟩
  · cases hf

theorem of_dead_eq_some {u w : Nat} {fl : Bool} (hf : net.dead u w = some (net', fl)) :
    ∃ ru rw, net[u]? = some ru ∧ net[w]? = some rw ∧
      net' = net.setAt u { ru with rib := (ribDead ru.rib rw.id).1, nbrs := aerase ru.nbrs rw.id } := by
  unfold Net.dead Net.get? at hf
  split at hf
  · next ru rw hu hw =>
    split at hf
    · cases hf
    · cases hf; exact ⟨ru, rw, hu, hw, rfl⟩
  · cases hf

theorem fetch_some {u w : Nat} (hu : u < net.length) (hw : w < net.length) (face : Nat) :
    ∃ net' fl, net.fetch u w face = some (net', fl) := by
  unfold Net.fetch Net.get?
  rw [List.getElem?_eq_getElem hu, List.getElem?_eq_getElem hw]
  exact ⟨_, _, rfl⟩

theorem fetch_sem {u w face : Nat} {fl : Bool} (wf : net.AllWF)
    (hf : net.fetch u w face = some (net', fl)) :
    ColUpdate net net' u (net.idOf w) fun d => net.shVal w d (net.idOf u) := by
  obtain ⟨ru, rw, hu, hw, rfl⟩ := of_fetch_eq_some hf
  obtain ⟨wf', hc⟩ := ribUpdate_wf_cst ru.id (wf ru (List.mem_of_getElem? hu)) rw.id rw.rib.advert
  rw [idOf_of_get hw, idOf_of_get hu]
  refine colUpdate_setAt wf hu _ wf' fun d h => ?_
  rw [hc, advNew_advert ru.id d (wf rw (List.mem_of_getElem? hw))]
  unfold Net.shVal Net.costs; rw [hw]

theorem dead_sem {u w : Nat} {fl : Bool} (wf : net.AllWF)
    (hf : net.dead u w = some (net', fl)) : ColUpdate net net' u (net.idOf w) fun _ => inf := by
  obtain ⟨ru, rw, hu, hw, rfl⟩ := of_dead_eq_some hf
  rw [idOf_of_get hw]
  exact colUpdate_setAt wf hu _ (ribDead_wf_cst (wf ru (List.mem_of_getElem? hu)) rw.id).1
    (ribDead_wf_cst (wf ru (List.mem_of_getElem? hu)) rw.id).2

end Ndn.C18
