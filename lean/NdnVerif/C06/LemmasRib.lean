/-
  Structural invariant of the RIB tree model — an instance of the name tree of `C05/NameTree.lean` (prefix-closed node
  set, fill, in-place update, pruning).
-/
import NdnVerif.C06.Model
import NdnVerif.C05.NameTree
namespace Ndn.C06
open Ndn.C05 Ndn.C05.NameTree

def RouteKeysNodup (rs : List Route) : Prop := (rs.map fun r => (r.face, r.origin)).Nodup

structure RibInv (r : Rib) : Prop where
  root : ahas r.nodes [] = true
  pc : ∀ p k, ahas r.nodes p = true → ahas r.nodes (p.take k) = true
  keys : KeysNodup r.nodes
  nm1 : ∀ key nd x, afind r.nodes key = some nd → nd.name = some x → x = key
  nm2 : ∀ key nd, afind r.nodes key = some nd → nd.routes ≠ [] → nd.name.isSome = true
  rk : ∀ key nd, afind r.nodes key = some nd → RouteKeysNodup nd.routes

theorem Rib.routesAt_eq (r : Rib) : r.routesAt = valAt RNode.routes [] r.nodes := by
  funext n; unfold Rib.routesAt valAt; cases afind r.nodes n <;> rfl

theorem Rib.routesAt_of_afind {r : Rib} {n : Name} {nd : RNode} (h : afind r.nodes n = some nd) :
    r.routesAt n = nd.routes := by
  rw [Rib.routesAt, h]

theorem Rib.routesAt_of_none {r : Rib} {n : Name} (h : afind r.nodes n = none) : r.routesAt n = [] := by
  rw [Rib.routesAt, h]

theorem routesAt_of_not_has (r : Rib) (n : Name) (h : ahas r.nodes n = false) : r.routesAt n = [] := by
  rw [Rib.routesAt_eq]; exact valAt_of_not_has _ _ h

theorem descendLen_eq (nodes : List (Name × RNode)) (pre rest : Name) :
    C06.descendLen nodes pre rest = descend nodes pre rest := by
  induction rest generalizing pre with
  | nil => rfl
  | cons c r ih => simp only [C06.descendLen, descend, ih]

theorem hasChild_eq : @C06.hasChild = @hasKid RNode := rfl

theorem pruneUp_eq (nodes : List (Name × RNode)) (name : Name) (k : Nat) :
    C06.pruneUp nodes name k = prune (fun nd => nd.routes.isEmpty) nodes name k := by
  induction k generalizing nodes with
  | zero => rfl
  | succ k ih =>
    simp only [C06.pruneUp, NameTree.prune]
    cases afind nodes (List.take (k + 1) name) with
    | none => rfl
    | some nd => simp only [hasChild_eq, ih]

theorem Rib.fill_nodes (r : Rib) (name : Name) : (r.fill name).nodes = NameTree.fill RNode.blank r.nodes name := by
  simp only [Rib.fill, Rib.depthOf, NameTree.fill, newKeys, descendLen_eq, List.map_map]; rfl

def RibQ (key : Name) (nd : RNode) : Prop :=
  (∀ x, nd.name = some x → x = key) ∧ (nd.routes ≠ [] → nd.name.isSome = true) ∧ RouteKeysNodup nd.routes

theorem ribInv_iff (r : Rib) : RibInv r ↔ WF RibQ r.nodes :=
  ⟨fun h => ⟨h.root, h.pc, h.keys, fun k nd hf => ⟨fun x => h.nm1 k nd x hf, h.nm2 k nd hf, h.rk k nd hf⟩⟩,
   fun h => ⟨h.root, h.pc, h.keys, fun k nd x hf => (h.pt k nd hf).1 x, fun k nd hf => (h.pt k nd hf).2.1,
     fun k nd hf => (h.pt k nd hf).2.2⟩⟩

theorem ribQ_blank (key : Name) : RibQ key RNode.blank := ⟨nofun, fun h => absurd rfl h, List.nodup_nil⟩

theorem Rib.findExact_eq {r : Rib} (hi : RibInv r) (name : Name) : r.findExact name = afind r.nodes name := by
  unfold Rib.findExact Rib.depthOf
  rw [descendLen_eq]
  exact ((ribInv_iff r).mp hi).findExact_eq name

theorem Rib.inv_fill {r : Rib} (hi : RibInv r) (name : Name) : RibInv (r.fill name) :=
  (ribInv_iff _).mpr (Rib.fill_nodes r name ▸ ((ribInv_iff r).mp hi).fill RNode.blank ribQ_blank name)

theorem Rib.has_fill_self {r : Rib} (hi : RibInv r) (name : Name) : ahas (r.fill name).nodes name = true :=
  Rib.fill_nodes r name ▸ ((ribInv_iff r).mp hi).has_fill_self RNode.blank name

theorem Rib.routesAt_fill (r : Rib) (name n : Name) : (r.fill name).routesAt n = r.routesAt n := by
  rw [Rib.routesAt_eq, Rib.routesAt_eq, Rib.fill_nodes]; exact valAt_fill _ _ _ rfl _ _ _

theorem ribInv_update {r : Rib} (hi : RibInv r) {key : Name} {nd nd' : RNode} (h : afind r.nodes key = some nd)
    (hq : RibQ key nd') : RibInv ⟨aset r.nodes key nd'⟩ :=
  (ribInv_iff _).mpr (((ribInv_iff r).mp hi).aset h hq)

theorem routesAt_aset (nodes : List (Name × RNode)) (key : Name) (nd' : RNode) (n : Name) :
    Rib.routesAt ⟨aset nodes key nd'⟩ n = if key = n then nd'.routes else Rib.routesAt ⟨nodes⟩ n := by
  rw [Rib.routesAt_eq, Rib.routesAt_eq]; exact valAt_aset _ _ _ _ _ _

theorem pruneUp_spec (name : Name) (nodes : List (Name × RNode)) (hi : RibInv ⟨nodes⟩) :
    RibInv ⟨C06.pruneUp nodes name name.length⟩ ∧
      (∀ n, Rib.routesAt ⟨C06.pruneUp nodes name name.length⟩ n = Rib.routesAt ⟨nodes⟩ n) := by
  have hw := (ribInv_iff _).mp hi
  rw [pruneUp_eq]
  refine ⟨(ribInv_iff _).mpr (hw.prune _ _ _ (Nat.le_refl _)), fun n => ?_⟩
  rw [Rib.routesAt_eq, Rib.routesAt_eq]
  exact valAt_prune _ _ _ (fun nd h => List.isEmpty_iff.mp h) nodes name n

end Ndn.C06
