/-
  The effect of the FIB calls made by `updateNexthopsEnc` on the abstract FIB, and the update lemma (recomputing the
  subtree re-establishes FIB = flatten).
-/
import NdnVerif.C06.Lemmas
import NdnVerif.C06.LemmasRib
namespace Ndn.C06
open Ndn.C05

/-- a node that has a name (it was registered at some time) -/
def Rib.named (r : Rib) (p : Name) : Bool :=
  match afind r.nodes p with
  | some nd => nd.name.isSome
  | none => false

theorem walkParents_eq (r : Rib) (name : Name) (k : Nat) : walkParents r name k = inherited r.routesAt name k := by
  induction k with
  | zero => rfl
  | succ k ih => simp only [walkParents, inherited, ih]

/-- the FIB calls for one entry: none for a filler, otherwise one update of `ReplaceNextHopsEnc`, of the entry by its
    flattening -/
theorem recomputeOps_eq {r : Rib} (hi : RibInv r) (p : Name) :
    recomputeOps r p = if r.named p = true then expandUpdate (p, flatten r.routesAt p) else [] := by
  unfold recomputeOps Rib.named
  cases hf : afind r.nodes p with
  | none => rfl
  | some nd =>
    obtain ⟨name, routes⟩ := nd
    cases name with
    | none => rfl
    | some nm =>
      cases hi.nm1 p _ nm hf rfl
      rw [flatten, contributing, ← walkParents_eq, Rib.routesAt_of_afind hf]
      refine Eq.trans ?_ (if_pos rfl).symm
      dsimp only
      cases routes.isEmpty <;> rfl

theorem recomputeOps_nhAt {r : Rib} (hi : RibInv r) (p : Name) (fib : C05.Spec) (q : Name) :
    ((recomputeOps r p).foldl C05.Spec.apply fib).nhAt q =
      if r.named p = true ∧ p = q then flatten r.routesAt p else fib.nhAt q := by
  rw [recomputeOps_eq hi]
  by_cases hn : r.named p = true
  · rw [if_pos hn, Spec.nhAt_expandUpdate_nodup fib (flatten_keysNodup _ _)]
    simp only [hn, true_and]
  · rw [if_neg hn, if_neg fun h => hn h.1]; rfl

/-- steps that each write `v k` at their own key `k` (when `c k`) and nothing else -/
theorem foldl_point_updates {σ α : Type} (view : σ → Name → Hops) (step : σ → α → σ) (key : α → Name) (c : Name → Bool)
    (v : Name → Hops)
    (hstep : ∀ s a x, view (step s a) x = if c (key a) = true ∧ key a = x then v (key a) else view s x) (L : List α) :
    ∀ s x, view (L.foldl step s) x = if c x = true ∧ (∃ a ∈ L, key a = x) then v x else view s x := by
  induction L with
  | nil => exact fun s x => (if_neg fun h => by obtain ⟨_, ⟨_, h, _⟩⟩ := h; cases h).symm
  | cons a t ih =>
    intro s x
    rw [List.foldl_cons, ih, hstep]
    by_cases hc : c x = true
    · by_cases ht : ∃ b ∈ t, key b = x
      · obtain ⟨b, hb, e⟩ := ht
        rw [if_pos ⟨hc, b, hb, e⟩, if_pos ⟨hc, b, List.mem_cons_of_mem _ hb, e⟩]
      · rw [if_neg fun h => ht h.2]
        by_cases ha : key a = x
        · rw [if_pos ⟨ha ▸ hc, ha⟩, if_pos ⟨hc, a, List.mem_cons_self, ha⟩, ha]
        · rw [if_neg fun h => ha h.2, if_neg]
          rintro ⟨_, b, hb, e⟩
          rcases List.mem_cons.mp hb with rfl | hb
          · exact ha e
          · exact ht ⟨b, hb, e⟩
    · have h2 : ¬ (c (key a) = true ∧ key a = x) := fun h => hc (h.2 ▸ h.1)
      rw [if_neg h2, if_neg fun h => hc h.1, if_neg fun h => hc h.1]

theorem updateSubtreeOps_nhAt {r : Rib} (hi : RibInv r) (p : Name) (fib : C05.Spec) (x : Name) :
    ((updateSubtreeOps r p).foldl C05.Spec.apply fib).nhAt x =
      if r.named x = true ∧ x.take p.length = p then flatten r.routesAt x else fib.nhAt x := by
  unfold updateSubtreeOps
  rw [List.foldl_flatMap, foldl_point_updates (fun s : C05.Spec => s.nhAt)
    (fun s (q : Name × RNode) => (recomputeOps r q.1).foldl C05.Spec.apply s) (·.1) r.named (flatten r.routesAt)
    (fun s a x => recomputeOps_nhAt hi a.1 s x)]
  have : ∀ hn : r.named x = true,
      (∃ a ∈ r.nodes.filter fun q => decide (q.1.take p.length = p), a.1 = x) ↔ x.take p.length = p := by
    intro hn
    simp only [List.mem_filter, decide_eq_true_eq]
    constructor
    · rintro ⟨q, ⟨_, h⟩, rfl⟩; exact h
    · intro h
      unfold Rib.named at hn
      cases hf : afind r.nodes x with
      | none => rw [hf] at hn; cases hn
      | some nd => exact ⟨(x, nd), ⟨afind_some_mem hf, h⟩, rfl⟩
  by_cases hn : r.named x = true
  · simp only [hn, true_and, this hn]
  · rw [if_neg fun h => hn h.1, if_neg fun h => hn h.1]

theorem named_of_routes {r : Rib} (hi : RibInv r) (x : Name) (h : r.routesAt x ≠ []) : r.named x = true := by
  unfold Rib.routesAt at h
  unfold Rib.named
  cases hf : afind r.nodes x with
  | none => rw [hf] at h; exact absurd rfl h
  | some nd => rw [hf] at h; exact hi.nm2 x nd hf h

/-- **Update lemma.**  `r0` is the RIB before, `r1` after a change of routes confined to the entry
    `p` (every other entry has the same routes); if the FIB was the flattening of `r0`, then
    after the FIB calls of `updateNexthopsEnc` on `p` in `r1` it is the flattening of `r1`.  `hnew`: a name-less `p` is
    skipped by `updateNexthopsEnc`, so it must not have had routes (and a FIB entry) before. -/
theorem update_lemma {r0 r1 : Rib} (h1 : RibInv r1) (p : Name) (fib : C05.Spec)
    (hfib : ∀ x, fib.nhAt x = flatten r0.routesAt x)
    (hsame : ∀ x, x ≠ p → r1.routesAt x = r0.routesAt x)
    (hnew : r1.named p = false → r0.routesAt p = []) (x : Name) :
    ((updateSubtreeOps r1 p).foldl C05.Spec.apply fib).nhAt x = flatten r1.routesAt x := by
  rw [updateSubtreeOps_nhAt h1]
  by_cases hpre : x.take p.length = p
  · by_cases hn : r1.named x = true
    · rw [if_pos ⟨hn, hpre⟩]
    · rw [if_neg fun h => hn h.1]
      have hr1 : r1.routesAt x = [] := by
        cases hr : r1.routesAt x with
        | nil => rfl
        | cons a t => exact absurd (named_of_routes h1 x (by rw [hr]; exact List.cons_ne_nil _ _)) hn
      rw [hfib, flatten_of_no_routes _ _ hr1]
      apply flatten_of_no_routes
      by_cases hxp : x = p
      · subst hxp; exact hnew (by simpa using hn)
      · rw [← hsame x hxp]; exact hr1
  · simp only [hpre, and_false, if_false]
    rw [hfib]
    apply flatten_congr
    intro j hj
    exact (hsame _ (take_ne_of_not_prefix hpre j hj)).symm

end Ndn.C06
