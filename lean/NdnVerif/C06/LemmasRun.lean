/-
  Every RIB operation preserves "FIB = flatten(RIB routes)" and changes the routes as `routeStep` says (`StepOk`,
  `Rib.apply_spec`); `LemmasHist.lean` shows the same `routeStep` for the specification and folds over histories.
-/
import NdnVerif.C06.LemmasFib
namespace Ndn.C06
open Ndn.C05

theorem sameKey_iff (r : Route) (f o : Nat) : r.sameKey f o = true ↔ (r.face, r.origin) = (f, o) := by
  simp [Route.sameKey]

theorem routeKeys_upsert {rs : List Route} (h : RouteKeysNodup rs) (rt : Route) : RouteKeysNodup (upsertRoute rs rt) := by
  have sub : ∀ (rs : List Route) k, k ∈ (upsertRoute rs rt).map (fun r => (r.face, r.origin)) →
      k ∈ rs.map (fun r => (r.face, r.origin)) ∨ k = (rt.face, rt.origin) := by
    intro rs
    induction rs with
    | nil => exact fun k hk => .inr (List.mem_singleton.mp hk)
    | cons x t ih =>
      intro k hk
      simp only [upsertRoute] at hk
      split at hk
      · rcases List.mem_cons.mp hk with e | hk'
        · exact .inr e
        · exact .inl (List.mem_cons_of_mem _ hk')
      · rcases List.mem_cons.mp hk with e | hk'
        · exact .inl (e ▸ List.mem_cons_self)
        · exact (ih k hk').imp_left (List.mem_cons_of_mem _)
  induction rs with
  | nil => exact List.pairwise_singleton _ _
  | cons x t ih =>
    obtain ⟨h1, h2⟩ := List.nodup_cons.mp h
    simp only [upsertRoute]
    split
    next hk =>
      refine List.nodup_cons.mpr ⟨?_, h2⟩
      show (rt.face, rt.origin) ∉ _
      rw [← (sameKey_iff _ _ _).mp hk]; exact h1
    next hk =>
      refine List.nodup_cons.mpr ⟨fun hm => ?_, ih h2⟩
      rcases sub t _ hm with h' | h'
      · exact h1 h'
      · exact hk ((sameKey_iff _ _ _).mpr h')

theorem routeKeys_filter {rs : List Route} (h : RouteKeysNodup rs) (g : Route → Bool) : RouteKeysNodup (rs.filter g) :=
  (List.filter_sublist.map _).nodup h

theorem removeRoute_eq_filter {rs : List Route} (h : RouteKeysNodup rs) (f o : Nat) :
    removeRoute rs f o = rs.filter fun r => !r.sameKey f o := by
  induction rs with
  | nil => rfl
  | cons x t ih =>
    obtain ⟨h1, h2⟩ := List.nodup_cons.mp h
    by_cases hk : x.sameKey f o = true
    · simp only [removeRoute, hk, if_true, List.filter_cons, Bool.not_true, Bool.false_eq_true, if_false]
      refine (List.filter_eq_self.mpr fun q hq => ?_).symm
      cases hq' : q.sameKey f o with
      | false => rfl
      | true =>
        refine absurd (List.mem_map.mpr ⟨q, hq, ?_⟩) h1
        exact ((sameKey_iff _ _ _).mp hq').trans ((sameKey_iff _ _ _).mp hk).symm
    · simp only [removeRoute, hk, Bool.false_eq_true, if_false, List.filter_cons, Bool.not_false, if_true, ih h2]

structure Inv (s : St) : Prop where
  rib : RibInv s.rib
  fib : ∀ x, s.fib.nhAt x = flatten s.rib.routesAt x
  fibInv : C05.SpecInv s.fib

/-- the routes at each prefix after `op` -/
def routeStep (R : Name → List Route) : Op → Name → List Route
  | .reg n rt, x => if n = x then upsertRoute (R n) rt else R x
  | .unreg n f o, x => if n = x then (R n).filter (fun q => !q.sameKey f o) else R x
  | .cleanup f, x => (R x).filter (fun q => !(q.face == f))

abbrev StepOk (fib : C05.Spec) (res : Rib × List C05.Op) (R : Name → List Route) : Prop :=
  RibInv res.1 ∧ (∀ x, res.1.routesAt x = R x) ∧
    ∀ x, (res.2.foldl C05.Spec.apply fib).nhAt x = flatten res.1.routesAt x

theorem named_aset (nodes : List (Name × RNode)) (key : Name) (nd' : RNode) :
    Rib.named ⟨aset nodes key nd'⟩ key = nd'.name.isSome := by
  simp only [Rib.named, afind_aset, ↓reduceIte]

/-- write `nd'` over the existing entry `nd` at `p` (an entry that had routes keeps a name) and make the FIB calls of
    `updateNexthopsEnc` there -/
theorem Rib.set_spec {r : Rib} (hi : RibInv r) {p : Name} {nd nd' : RNode} (hnd : afind r.nodes p = some nd)
    (hq : RibQ p nd') (hnm : nd.routes ≠ [] → nd'.name.isSome = true) (fib : C05.Spec)
    (hfib : ∀ x, fib.nhAt x = flatten r.routesAt x) :
    StepOk fib (⟨aset r.nodes p nd'⟩, updateSubtreeOps ⟨aset r.nodes p nd'⟩ p)
      fun x => if p = x then nd'.routes else r.routesAt x := by
  have hi1 : RibInv ⟨aset r.nodes p nd'⟩ := ribInv_update hi hnd hq
  have hroutes := routesAt_aset r.nodes p nd'
  refine ⟨hi1, hroutes, update_lemma hi1 p fib hfib (fun y hy => ?_) fun hn => ?_⟩
  · rw [hroutes y, if_neg fun e => hy e.symm]
  · -- a name-less `p` is skipped by `updateNexthopsEnc`; it had no routes, so no FIB entry either
    rw [named_aset] at hn
    rw [Rib.routesAt_of_afind hnd]
    exact Decidable.byContradiction fun h' => by rw [hnm h'] at hn; cases hn

theorem Rib.reg_spec {r : Rib} (hi : RibInv r) (name : Name) (rt : Route) (fib : C05.Spec)
    (hfib : ∀ x, fib.nhAt x = flatten r.routesAt x) :
    StepOk fib (r.reg name rt) fun x => if name = x then upsertRoute (r.routesAt name) rt else r.routesAt x := by
  have hi1 := Rib.inv_fill hi name
  have hF : (r.fill name).routesAt = r.routesAt := funext (Rib.routesAt_fill r name)
  obtain ⟨nd, hnd⟩ := (ahas_iff _ _).mp (Rib.has_fill_self hi name)
  have hnamed : (nd.named name).name.isSome = true := by simp only [RNode.named]; cases nd.name <;> rfl
  have hq : RibQ name { nd.named name with routes := upsertRoute nd.routes rt } := by
    refine ⟨fun x hx => ?_, fun _ => hnamed, routeKeys_upsert (hi1.rk name nd hnd) rt⟩
    simp only [RNode.named] at hx
    cases hn : nd.name with
    | none => rw [hn] at hx; exact (Option.some.inj hx).symm
    | some y => rw [hn] at hx; exact Option.some.inj hx ▸ hi1.nm1 name nd y hnd hn
  have hr2 : (r.reg name rt).1 = ⟨aset (r.fill name).nodes name { nd.named name with routes := upsertRoute nd.routes rt }⟩ := by
    simp only [Rib.reg, amodify, hnd]
  show StepOk fib ((r.reg name rt).1, updateSubtreeOps (r.reg name rt).1 name) _
  rw [hr2, ← hF, Rib.routesAt_of_afind hnd]
  exact Rib.set_spec hi1 hnd hq (fun _ => hnamed) fib (hF ▸ hfib)

/-- shared by `RemoveRouteEnc` and the per-entry part of `CleanUpFace`: keep the routes of an existing entry that `g`
    holds of, make the FIB calls of `updateNexthopsEnc`, prune -/
theorem Rib.filter_spec {r : Rib} (hi : RibInv r) {p : Name} {nd : RNode} (hnd : afind r.nodes p = some nd)
    (g : Route → Bool) (fib : C05.Spec) (hfib : ∀ x, fib.nhAt x = flatten r.routesAt x) :
    let r1 : Rib := ⟨aset r.nodes p { nd with routes := nd.routes.filter g }⟩
    StepOk fib (⟨C06.pruneUp r1.nodes p p.length⟩, updateSubtreeOps r1 p)
      fun x => if p = x then (r.routesAt p).filter g else r.routesAt x := by
  intro r1
  obtain ⟨a, b, c⟩ := Rib.set_spec hi hnd (nd' := { nd with routes := nd.routes.filter g })
    ⟨fun x => hi.nm1 p nd x hnd, fun h => hi.nm2 p nd hnd fun e => h (by rw [e]; rfl), routeKeys_filter (hi.rk p nd hnd) g⟩
    (hi.nm2 p nd hnd) fib hfib
  obtain ⟨g1, g2⟩ := pruneUp_spec p _ a
  rw [Rib.routesAt_of_afind hnd]
  exact ⟨g1, fun x => (g2 x).trans (b x), fun x => (c x).trans (congrFun (congrArg flatten (funext g2)) x).symm⟩

/-- nothing to remove at `p`: no entry, or no route that `g` rejects -/
theorem Rib.unchanged_spec {r : Rib} (hi : RibInv r) (p : Name) (g : Route → Bool) (fib : C05.Spec)
    (hfib : ∀ x, fib.nhAt x = flatten r.routesAt x) (hsame : (r.routesAt p).filter g = r.routesAt p) :
    StepOk fib (r, []) fun x => if p = x then (r.routesAt p).filter g else r.routesAt x :=
  ⟨hi, fun x => by dsimp only; rw [hsame, ite_apply_eq], hfib⟩

theorem Rib.unreg_spec {r : Rib} (hi : RibInv r) (name : Name) (f o : Nat) (fib : C05.Spec)
    (hfib : ∀ x, fib.nhAt x = flatten r.routesAt x) :
    StepOk fib (r.unreg name f o) fun x =>
      if name = x then (r.routesAt name).filter (fun q => !q.sameKey f o) else r.routesAt x := by
  unfold Rib.unreg
  rw [Rib.findExact_eq hi]
  cases hnd : afind r.nodes name with
  | none => exact Rib.unchanged_spec hi name _ fib hfib (by rw [Rib.routesAt_of_none hnd]; rfl)
  | some nd =>
    dsimp only
    rw [removeRoute_eq_filter (hi.rk name nd hnd)]
    exact Rib.filter_spec hi hnd _ fib hfib

theorem Rib.cleanNode_spec {r : Rib} (hi : RibInv r) (face : Nat) (p : Name) (fib : C05.Spec)
    (hfib : ∀ x, fib.nhAt x = flatten r.routesAt x) :
    StepOk fib (r.cleanNode face p) fun x =>
      if p = x then (r.routesAt p).filter (fun q => !(q.face == face)) else r.routesAt x := by
  unfold Rib.cleanNode
  cases hnd : afind r.nodes p with
  | none => exact Rib.unchanged_spec hi p _ fib hfib (by rw [Rib.routesAt_of_none hnd]; rfl)
  | some nd =>
    dsimp only
    by_cases hany : (nd.routes.any fun x => x.face == face) = true
    · rw [if_pos hany]; exact Rib.filter_spec hi hnd _ fib hfib
    · rw [if_neg hany]
      refine Rib.unchanged_spec hi p _ fib hfib ?_
      rw [Rib.routesAt_of_afind hnd, List.filter_eq_self]
      intro q hq
      have := List.any_eq_false.mp (Bool.eq_false_iff.mpr hany) q hq
      simp only [this, Bool.not_false]

/-- every entry ends up without the routes of the face, or was not visited and is as it was: whatever the order, and
    however often an entry is visited -/
theorem Rib.cleanupOrd_spec (face : Nat) (ord : List Name) : ∀ {r : Rib} (_ : RibInv r) (fib : C05.Spec)
    (_ : ∀ x, fib.nhAt x = flatten r.routesAt x),
    RibInv (r.cleanupOrd face ord).1 ∧
    (∀ x, (r.cleanupOrd face ord).1.routesAt x = (r.routesAt x).filter (fun q => !(q.face == face)) ∨
          x ∉ ord ∧ (r.cleanupOrd face ord).1.routesAt x = r.routesAt x) ∧
    (∀ x, ((r.cleanupOrd face ord).2.foldl C05.Spec.apply fib).nhAt x = flatten (r.cleanupOrd face ord).1.routesAt x) := by
  induction ord with
  | nil => exact fun hi fib hfib => ⟨hi, fun x => .inr ⟨nofun, rfl⟩, hfib⟩
  | cons p t ih =>
    intro r hi fib hfib
    obtain ⟨a1, b1, c1⟩ := Rib.cleanNode_spec hi face p fib hfib
    obtain ⟨a2, b2, c2⟩ := ih a1 _ c1
    rw [show r.cleanupOrd face (p :: t) = (((r.cleanNode face p).1.cleanupOrd face t).1,
      (r.cleanNode face p).2 ++ ((r.cleanNode face p).1.cleanupOrd face t).2) from rfl]
    refine ⟨a2, fun x => ?_, fun x => by rw [List.foldl_append]; exact c2 x⟩
    have h1 := b1 x
    dsimp only at h1
    by_cases hk : p = x
    · -- cleaning `x` once more changes nothing: the filter is idempotent
      subst hk
      rw [if_pos rfl] at h1
      refine .inl ((b2 p).elim (fun h => h.trans ?_) fun h => h.2.trans h1)
      rw [h1, List.filter_filter]; simp only [Bool.and_self]
    · rw [if_neg hk] at h1
      exact (b2 x).imp (fun h => h.trans (congrArg _ h1)) fun h =>
        ⟨fun hc => (List.mem_cons.mp hc).elim (fun e => hk e.symm) h.1, h.2.trans h1⟩

theorem mem_insertByDepth (x y : Name) (l : List Name) : y ∈ insertByDepth x l ↔ y = x ∨ y ∈ l := by
  induction l with
  | nil => exact List.mem_singleton.trans ⟨.inl, fun h => h.resolve_right List.not_mem_nil⟩
  | cons a t ih =>
    simp only [insertByDepth]
    split
    · exact List.mem_cons
    · rw [List.mem_cons, ih, List.mem_cons]; exact or_left_comm

theorem mem_postOrder (r : Rib) (y : Name) : y ∈ r.postOrder ↔ y ∈ r.nodes.map (·.1) := by
  have : ∀ (l acc : List Name), y ∈ l.foldl (fun acc x => insertByDepth x acc) acc ↔ y ∈ l ∨ y ∈ acc := by
    intro l
    induction l with
    | nil => exact fun acc => ⟨.inr, fun h => h.resolve_left List.not_mem_nil⟩
    | cons a t ih =>
      intro acc
      rw [List.foldl_cons, ih, mem_insertByDepth, List.mem_cons]
      exact or_left_comm.trans or_assoc.symm
  exact (this _ []).trans (or_iff_left List.not_mem_nil)

theorem Rib.apply_spec {r : Rib} (hi : RibInv r) (op : Op) (fib : C05.Spec)
    (hfib : ∀ x, fib.nhAt x = flatten r.routesAt x) :
    StepOk fib (r.apply op) (routeStep r.routesAt op) := by
  cases op with
  | reg n rt => exact Rib.reg_spec hi n rt fib hfib
  | unreg n f o => exact Rib.unreg_spec hi n f o fib hfib
  | cleanup f =>
    obtain ⟨a, b, c⟩ := Rib.cleanupOrd_spec f r.postOrder hi fib hfib
    refine ⟨a, fun x => (b x).elim id fun h => h.2.trans ?_, c⟩
    -- an entry that is not visited does not exist
    rw [routeStep, Rib.routesAt_of_none ((afind_eq_none_iff _ _).mpr fun hm => h.1 ((mem_postOrder r x).mpr hm))]; rfl

end Ndn.C06
