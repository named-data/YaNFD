/-
  The specification's route map under each operation (`routeStep` again: `Spec.routesAt_apply`), histories (`run_rel`,
  `runSt_eq`), listings.
-/
import NdnVerif.C06.LemmasRun
namespace Ndn.C06
open Ndn.C05

structure SpecInv6 (s : Spec) : Prop where
  keys : KeysNodup s.routes
  nonempty : ∀ n rs, afind s.routes n = some rs → rs ≠ []

theorem Spec.routesAt_eq (s : Spec) : s.routesAt = valAt id [] s.routes := by
  funext n; unfold Spec.routesAt valAt; cases afind s.routes n <;> rfl

theorem valAt_mapfilter (l : List (Name × List Route)) (hn : KeysNodup l) (g : List Route → List Route) (hg : g [] = [])
    (x : Name) :
    valAt id [] ((l.map fun p => (p.1, g p.2)).filter fun p => !p.2.isEmpty) x = g (valAt id [] l x) := by
  induction l with
  | nil => exact hg.symm
  | cons a t ih =>
    obtain ⟨k, v⟩ := a
    obtain ⟨hn1, hn2⟩ := List.nodup_cons.mp hn
    have htail : k = x → valAt id [] ((t.map fun p => (p.1, g p.2)).filter fun p => !p.2.isEmpty) x = [] := by
      intro e
      rw [ih hn2, valAt_of_none _ _ ((afind_eq_none_iff t x).mpr (e ▸ hn1)), hg]
    simp only [List.map_cons, List.filter_cons]
    by_cases hk : k = x
    · rw [valAt_of_afind id [] (show afind ((k, v) :: t) x = some v from if_pos hk)]
      split
      next he => exact valAt_of_afind id [] (show afind ((k, g v) :: _) x = some (g v) from if_pos hk)
      next he => rw [htail hk]; exact (List.isEmpty_iff.mp (by simpa using he)).symm
    · have hcons : ∀ (w : List Route) (r : List (Name × List Route)), valAt id [] ((k, w) :: r) x = valAt id [] r x :=
        fun w r => by unfold valAt; rw [show afind ((k, w) :: r) x = afind r x from if_neg hk]
      rw [hcons]
      split
      · rw [hcons]; exact ih hn2
      · exact ih hn2

theorem Spec.routesAt_apply {s : Spec} (hi : SpecInv6 s) (op : Op) (x : Name) :
    (s.apply op).routesAt x = routeStep s.routesAt op x := by
  cases op with
  | reg n rt => rw [Spec.routesAt_eq]; exact valAt_aset id [] s.routes n _ x
  | unreg n f o => rw [Spec.routesAt_eq]; exact valAt_set_or_erase s.routes n _ x
  | cleanup f =>
    rw [Spec.routesAt_eq]
    exact valAt_mapfilter s.routes hi.keys (fun rs => rs.filter fun q => !(q.face == f)) rfl x

theorem upsertRoute_ne_nil (rs : List Route) (rt : Route) : upsertRoute rs rt ≠ [] := by
  cases rs with
  | nil => exact List.cons_ne_nil _ _
  | cons a t => simp only [upsertRoute]; split <;> exact List.cons_ne_nil _ _

theorem Spec.inv_apply {s : Spec} (hi : SpecInv6 s) (op : Op) : SpecInv6 (s.apply op) := by
  have hset : ∀ n rs, rs ≠ [] → SpecInv6 ⟨aset s.routes n rs⟩ := fun n rs hne =>
    ⟨keysNodup_aset hi.keys _ _, fun m rs' hf => by
      rw [afind_aset] at hf
      split at hf
      · cases hf; exact hne
      · exact hi.nonempty m rs' hf⟩
  cases op with
  | reg n rt => exact hset n _ (upsertRoute_ne_nil _ _)
  | unreg n f o =>
    simp only [Spec.apply]
    split
    next he =>
      refine ⟨keysNodup_aerase hi.keys _, fun m rs hf => ?_⟩
      rw [afind_aerase] at hf
      split at hf
      · cases hf
      · exact hi.nonempty m rs hf
    next he => exact hset n _ fun e => he (by rw [e]; rfl)
  | cleanup f =>
    refine ⟨?_, fun m rs hf => ?_⟩
    · have h1 : ((s.routes.map fun p => (p.1, p.2.filter fun r => !(r.face == f))).filter fun p => !p.2.isEmpty).Sublist
          (s.routes.map fun p => (p.1, p.2.filter fun r => !(r.face == f))) := List.filter_sublist
      refine (h1.map (·.1)).nodup ?_
      rw [List.map_map]
      exact hi.keys
    · have := (List.mem_filter.mp (afind_some_mem hf)).2
      exact fun e => by rw [e] at this; cases this

def runSt (d : Name) (ops : List Op) : St := ops.foldl St.apply (St.init d)
def runSpec (ops : List Op) : Spec := ops.foldl Spec.apply Spec.init

/-- the RIB and the sequence of all FIB calls it made during the history -/
def runRib (ops : List Op) : Rib × List C05.Op :=
  ops.foldl (fun acc op => ((acc.1.apply op).1, acc.2 ++ (acc.1.apply op).2)) (Rib.init, [])

/-- all calls to `FibStrategyTable` made by the RIB during the history -/
def fibCalls (ops : List Op) : List C05.Op := (runRib ops).2

theorem runSt_eq (d : Name) (ops : List Op) :
    runSt d ops = ⟨(runRib ops).1, C05.runSpec d (fibCalls ops)⟩ :=
  List.foldl_rel (r := fun (s : St) (acc : Rib × List C05.Op) => s = ⟨acc.1, acc.2.foldl C05.Spec.apply (C05.Spec.init d)⟩)
    rfl fun op _ s acc h => by subst h; simp only [St.apply, List.foldl_append]

theorem Rib.inv_init : RibInv Rib.init := (ribInv_iff _).mpr (NameTree.WF.single (ribQ_blank []))

theorem run_rel (d : Name) (ops : List Op) :
    Inv (runSt d ops) ∧ SpecInv6 (runSpec ops) ∧ ∀ x, (runSt d ops).rib.routesAt x = (runSpec ops).routesAt x := by
  refine List.foldl_rel (r := fun (st : St) (s : Spec) => Inv st ∧ SpecInv6 s ∧ ∀ x, st.rib.routesAt x = s.routesAt x)
    ⟨⟨Rib.inv_init, fun x => ?_, C05.Spec.inv_init d⟩, ⟨List.nodup_nil, nofun⟩, fun x => ?_⟩ fun op _ st s => ?_
  · have : (St.init d).rib.routesAt x = [] := by
      rw [Rib.routesAt_eq]; exact (valAt_single ..).trans (ite_self _)
    rw [flatten_of_no_routes _ _ this]; rfl
  · rw [Rib.routesAt_eq]; exact (valAt_single ..).trans (ite_self _)
  · rintro ⟨hi, si, hr⟩
    obtain ⟨a, b, c⟩ := Rib.apply_spec hi.rib op st.fib hi.fib
    refine ⟨⟨a, c, List.foldlRecOn _ _ hi.fibInv fun _ h c _ => C05.Spec.inv_apply h c⟩, Spec.inv_apply si op, fun x => ?_⟩
    rw [show (st.apply op).rib = (st.rib.apply op).1 from rfl, b x, Spec.routesAt_apply si, funext hr]

theorem Rib.mem_list {r : Rib} (hi : RibInv r) (n : Name) (rs : List Route) :
    (n, rs) ∈ r.list ↔ rs ≠ [] ∧ r.routesAt n = rs := by
  rw [Rib.routesAt_eq]
  refine mem_listing_filter hi.keys RNode.routes (fun q => q.2.name.getD []) (fun k nd hf hne => ?_) n rs
  obtain ⟨x, hx⟩ := Option.isSome_iff_exists.mp (hi.nm2 k nd hf hne)
  simp only [hx, Option.getD_some]; exact hi.nm1 k nd x hf hx

theorem Spec.mem_listRib {s : Spec} (hi : SpecInv6 s) (n : Name) (rs : List Route) :
    (n, rs) ∈ s.listRib ↔ rs ≠ [] ∧ s.routesAt n = rs := by
  have := mem_listing_filter hi.keys id (·.1) (fun _ _ _ _ => rfl) n rs
  rw [Spec.routesAt_eq, ← this, show List.map (fun q : Name × List Route => (q.1, id q.2)) = id from funext List.map_id]
  rfl

end Ndn.C06
