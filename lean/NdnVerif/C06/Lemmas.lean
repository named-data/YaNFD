/-
  Facts about the specification's flattening alone: `minCost` is the minimum cost per face (fold invariant `McInv`),
  which routes are inherited (`mem_inherited_iff`), and `flatten` at `p` depends only on the routes at prefixes of `p`
  (`flatten_congr`).
-/
import NdnVerif.C06.Model
import NdnVerif.C05.LemmasCall
namespace Ndn.C06
open Ndn.C05

def mcStep (acc : Hops) (r : Route) : Hops :=
  match afind acc r.face with
  | some c => if r.cost < c then aset acc r.face r.cost else acc
  | none => acc ++ [(r.face, r.cost)]

theorem minCost_eq (rs : List Route) : minCost rs = rs.foldl mcStep [] := rfl

def IsMin (seen : List Route) (f c : Nat) : Prop :=
  (∃ r ∈ seen, r.face = f ∧ r.cost = c) ∧ ∀ r ∈ seen, r.face = f → c ≤ r.cost

def Best (seen : List Route) (f : Nat) : Option Nat → Prop
  | none => ∀ r ∈ seen, r.face ≠ f
  | some c => IsMin seen f c

/-- fold invariant of `minCost`: `acc` after the routes `seen` -/
def McInv (acc : Hops) (seen : List Route) : Prop := KeysNodup acc ∧ ∀ f, Best seen f (afind acc f)

theorem isMin_snoc (seen : List Route) (r : Route) (f c : Nat) :
    IsMin (seen ++ [r]) f c ↔ ((∃ r' ∈ seen, r'.face = f ∧ r'.cost = c) ∨ (r.face = f ∧ r.cost = c)) ∧
      (∀ r' ∈ seen, r'.face = f → c ≤ r'.cost) ∧ (r.face = f → c ≤ r.cost) := by
  simp only [IsMin, List.mem_append, List.mem_singleton, or_and_right, exists_or, exists_eq_left, or_imp, forall_and,
    forall_eq]

theorem best_snoc_ne {seen : List Route} {r : Route} {f : Nat} (hne : r.face ≠ f) {o : Option Nat}
    (h : Best seen f o) : Best (seen ++ [r]) f o := by
  cases o with
  | none =>
    intro r' hr'
    rcases List.mem_append.mp hr' with h1 | h1
    · exact h r' h1
    · rw [List.mem_singleton.mp h1]; exact hne
  | some c => exact (isMin_snoc ..).mpr ⟨.inl h.1, h.2, fun e => absurd e hne⟩

/-- the cost `mcStep` keeps for a face whose entry is `o` when a route of cost `c` arrives -/
def keepMin (o : Option Nat) (c : Nat) : Nat :=
  match o with
  | some c0 => if c < c0 then c else c0
  | none => c

theorem best_snoc_self {seen : List Route} {r : Route} {o : Option Nat} (h : Best seen r.face o) :
    Best (seen ++ [r]) r.face (some (keepMin o r.cost)) := by
  refine (isMin_snoc ..).mpr ?_
  cases o with
  | none => exact ⟨.inr ⟨rfl, rfl⟩, fun r' hr' e => absurd e (h r' hr'), fun _ => Nat.le_refl _⟩
  | some c =>
    obtain ⟨h1, h2⟩ := h
    by_cases hlt : r.cost < c
    · rw [show keepMin (some c) r.cost = r.cost from if_pos hlt]
      exact ⟨.inr ⟨rfl, rfl⟩, fun r' hr' e => Nat.le_trans (Nat.le_of_lt hlt) (h2 r' hr' e), fun _ => Nat.le_refl _⟩
    · rw [show keepMin (some c) r.cost = c from if_neg hlt]
      exact ⟨.inl h1, h2, fun _ => Nat.le_of_not_lt hlt⟩

theorem afind_mcStep (acc : Hops) (r : Route) (f : Nat) :
    afind (mcStep acc r) f = if r.face = f then some (keepMin (afind acc r.face) r.cost) else afind acc f := by
  unfold mcStep
  cases hc : afind acc r.face with
  | some c =>
    simp only [keepMin]
    by_cases hlt : r.cost < c
    · rw [if_pos hlt, if_pos hlt, afind_aset]
    · rw [if_neg hlt, if_neg hlt]
      split
      next e => rw [← e, hc]
      next => rfl
  | none =>
    simp only [keepMin]
    rw [afind_append]
    by_cases e : r.face = f
    · rw [if_pos e, ← e, hc]; exact if_pos rfl
    · rw [if_neg e]
      cases afind acc f with
      | some v => rfl
      | none => exact if_neg e

theorem mcInv_step {acc : Hops} {seen : List Route} (h : McInv acc seen) (r : Route) :
    McInv (mcStep acc r) (seen ++ [r]) := by
  refine ⟨?_, fun f => ?_⟩
  · unfold mcStep
    cases hc : afind acc r.face with
    | some c => simp only []; split; exact keysNodup_aset h.1 _ _; exact h.1
    | none => exact keysNodup_concat h.1 hc _
  · rw [afind_mcStep]
    split
    next e => exact e ▸ best_snoc_self (h.2 r.face)
    next e => exact best_snoc_ne e (h.2 f)

theorem mcInv_fold (rs : List Route) : ∀ (acc : Hops) (seen : List Route), McInv acc seen → McInv (rs.foldl mcStep acc) (seen ++ rs) := by
  induction rs with
  | nil => intro acc seen h; rwa [List.append_nil]
  | cons r t ih =>
    intro acc seen h
    have := ih (mcStep acc r) (seen ++ [r]) (mcInv_step h r)
    rwa [List.append_assoc] at this

theorem minCost_inv (rs : List Route) : McInv (minCost rs) rs :=
  mcInv_fold rs [] [] ⟨List.nodup_nil, fun _ => nofun⟩

theorem minCost_ne_nil {rs : List Route} (h : rs ≠ []) : minCost rs ≠ [] := by
  cases rs with
  | nil => exact absurd rfl h
  | cons r t =>
    intro e
    have := (minCost_inv (r :: t)).2 r.face
    rw [e] at this
    exact this r List.mem_cons_self rfl

theorem inherited_congr (R R' : Name → List Route) (name : Name) (k : Nat)
    (h : ∀ j, j < k → R (name.take j) = R' (name.take j)) : inherited R name k = inherited R' name k := by
  induction k with
  | zero => rfl
  | succ k ih =>
    simp only [inherited]
    rw [h k (by omega), ih (fun j hj => h j (by omega))]

theorem mem_inherited_iff (R : Name → List Route) (name : Name) (k : Nat) (rt : Route) :
    rt ∈ inherited R name k ↔ ∃ j, j < k ∧ rt ∈ R (name.take j) ∧ rt.childInherit = true ∧
      ∀ i, j < i → i < k → (R (name.take i)).any Route.capture = false := by
  induction k with
  | zero => exact ⟨nofun, fun ⟨_, h, _⟩ => absurd h (Nat.not_lt_zero _)⟩
  | succ k ih =>
    simp only [inherited, List.mem_append, List.mem_filter]
    constructor
    · rintro (h | h)
      · exact ⟨k, Nat.lt_succ_self _, h.1, h.2, fun i h1 h2 => absurd (Nat.le_of_lt_succ h2) (Nat.not_le.mpr h1)⟩
      · cases hk : (R (List.take k name)).any Route.capture with
        | true => rw [hk, if_pos rfl] at h; cases h
        | false =>
          rw [hk, if_neg Bool.false_ne_true] at h
          obtain ⟨j, h1, h2, h3, h4⟩ := ih.mp h
          refine ⟨j, Nat.lt_succ_of_lt h1, h2, h3, fun i a b => ?_⟩
          rcases Nat.lt_or_eq_of_le (Nat.le_of_lt_succ b) with hik | hik
          · exact h4 i a hik
          · exact hik ▸ hk
    · rintro ⟨j, h1, h2, h3, h4⟩
      rcases Nat.lt_or_eq_of_le (Nat.le_of_lt_succ h1) with hjk | hjk
      · right
        rw [h4 k hjk (Nat.lt_succ_self _), if_neg Bool.false_ne_true]
        exact ih.mpr ⟨j, hjk, h2, h3, fun i a b => h4 i a (Nat.lt_succ_of_lt b)⟩
      · exact .inl ⟨hjk ▸ h2, h3⟩

theorem mem_contributing {R : Name → List Route} {p : Name} {rt : Route} (h : rt ∈ contributing R p) :
    ∃ j, j ≤ p.length ∧ rt ∈ R (p.take j) := by
  simp only [contributing, List.mem_append] at h
  rcases h with h | h
  · exact ⟨p.length, Nat.le_refl _, by rwa [List.take_length]⟩
  · split at h
    · cases h
    · obtain ⟨j, h1, h2, _⟩ := (mem_inherited_iff ..).mp h
      exact ⟨j, Nat.le_of_lt h1, h2⟩

theorem flatten_congr (R R' : Name → List Route) (p : Name)
    (h : ∀ j, j ≤ p.length → R (p.take j) = R' (p.take j)) : flatten R p = flatten R' p := by
  have hp : R p = R' p := by have := h p.length (Nat.le_refl _); simpa using this
  unfold flatten contributing
  rw [hp, inherited_congr R R' p p.length (fun j hj => h j (by omega))]

theorem flatten_of_no_routes (R : Name → List Route) (p : Name) (h : R p = []) : flatten R p = [] := by
  simp [flatten, h]

theorem flatten_ne_nil (R : Name → List Route) (p : Name) (h : R p ≠ []) : flatten R p ≠ [] := by
  unfold flatten
  have : (R p).isEmpty = false := by cases hr : R p with
    | nil => exact absurd hr h
    | cons _ _ => rfl
  simp only [this, Bool.false_eq_true, if_false]
  apply minCost_ne_nil
  unfold contributing
  intro e
  have := List.append_eq_nil_iff.mp e
  exact h this.1

theorem flatten_keysNodup (R : Name → List Route) (p : Name) : KeysNodup (flatten R p) := by
  unfold flatten
  split
  · exact List.nodup_nil
  · exact (minCost_inv _).1

theorem take_ne_of_not_prefix {p x : Name} (h : x.take p.length ≠ p) (j : Nat) (hj : j ≤ x.length) : x.take j ≠ p := by
  intro e
  apply h
  have : p.length = j := by rw [← e, List.length_take]; omega
  rw [this]; exact e

end Ndn.C06
