/-
  Minimality of a name tree under `fill` / `prune`: the node set is exactly the prefix closure of the
  live names.  Shared by the PIT-CS tree (C07/C08) and the FIB-tree / RIB node-set models of C08.
-/
import NdnVerif.C07.LemmasTree
namespace Ndn.C07

def OnPath (L : List Name) (x : Name) : Prop := ∃ m, m ∈ L ∧ x ∈ prefixes m

def Minimal (nodes L : List Name) : Prop := ∀ x, x ∈ nodes ↔ OnPath L x

theorem onPath_prefix {L : List Name} {x y : Name} (hy : OnPath L y) (hx : x ∈ prefixes y) : OnPath L x :=
  hy.imp fun _ h => ⟨h.1, prefixes_trans h.2 hx⟩

/-- pruning from `y` leaves nothing off the live paths, if apart from these the tree held only the path to `y`: the walk
    stops at the root or at a node that is kept or has a child, and such a node is on a live path -/
theorem prune_only (keep : Name → Bool) (L : List Name) (hk : ∀ m, m ≠ [] → keep m = true → m ∈ L) :
    ∀ (k : Nat) (nodes : List Name) (y : Name), y.length + 1 ≤ k →
      (∀ x ∈ nodes, OnPath L x ∨ x ∈ prefixes y) → ∀ x ∈ prune keep k nodes y, OnPath L x := by
  intro k
  induction k with
  | zero => exact fun nodes y hlen => absurd hlen (Nat.not_succ_le_zero _)
  | succ k ih =>
    intro nodes y hlen hn
    rw [prune]
    by_cases hc : y ≠ [] ∧ (children nodes y).isEmpty = true ∧ keep y = false
    · rw [if_pos hc]
      have hpos := List.length_pos_iff.mpr hc.1
      refine ih _ _ (by rw [List.length_dropLast, Nat.sub_add_cancel hpos]; exact Nat.le_of_succ_le_succ hlen) fun x hx => ?_
      obtain ⟨hxn, hxy⟩ := mem_rem.mp hx
      exact (hn x hxn).imp_right fun h => ((mem_prefixes_dropLast hc.1).mp h).resolve_right hxy
    · rw [if_neg hc]
      intro x hx
      refine (hn x hx).elim id fun hxy => onPath_prefix ?_ hxy
      have hy : y ≠ [] := fun e => nomatch e ▸ hxy
      cases hkeep : keep y with
      | true => exact ⟨y, hk y hy hkeep, self_mem_prefixes hy⟩
      | false =>
        cases hch : children nodes y with
        | nil => exact absurd ⟨hy, by rw [hch]; rfl, hkeep⟩ hc
        | cons c _ =>
          -- a child of `y` is not on the path to `y`
          obtain ⟨hcn, hcc⟩ := mem_children.mp (hch ▸ List.mem_cons_self : c ∈ children nodes y)
          obtain ⟨hcne, rfl⟩ := isChild_iff.mp hcc
          exact onPath_prefix ((hn c hcn).resolve_right (not_mem_prefixes_dropLast hcne))
            ((mem_prefixes_dropLast hcne).mpr (Or.inl (self_mem_prefixes hy)))

theorem prune_exact (keep : Name → Bool) (L : List Name) (hk : ∀ m, m ≠ [] → (keep m = true ↔ m ∈ L)) :
    ∀ (k : Nat) (nodes : List Name) (y : Name), y.length + 1 ≤ k →
      (∀ x, x ∈ nodes ↔ OnPath L x ∨ x ∈ prefixes y) → Minimal (prune keep k nodes y) L :=
  fun k nodes y hlen hn x =>
    ⟨prune_only keep L (fun m hm => (hk m hm).mp) k nodes y hlen (fun x => (hn x).mp) x,
      fun ⟨m, hm, hp⟩ => prune_keeps keep k nodes y L (fun m hm hne => (hk m hne).mpr hm)
        (fun m hm p hp => (hn p).mpr (.inl ⟨m, hm, hp⟩)) m hm x hp⟩

theorem minimal_congr {nodes L L' : List Name} (h : Minimal nodes L) (hl : ∀ m, m ∈ L ↔ m ∈ L') : Minimal nodes L' :=
  fun x => (h x).trans (exists_congr fun m => and_congr_left fun _ => hl m)

theorem minimal_path {nodes L : List Name} (h : Minimal nodes L) {n : Name} (hn : n ∈ nodes) :
    ∀ p ∈ prefixes n, p ∈ nodes :=
  fun p hp => (h p).mpr (onPath_prefix ((h n).mp hn) hp)

theorem fill_minimal {nodes L L' : List Name} (h : Minimal nodes L) (n : Name)
    (hl : ∀ m, m ∈ L' ↔ m ∈ L ∨ m = n) : Minimal (fill nodes n) L' := by
  intro x
  rw [mem_fill, h x]
  constructor
  · rintro (⟨m, hm, hp⟩ | hp)
    · exact ⟨m, (hl m).mpr (Or.inl hm), hp⟩
    · exact ⟨n, (hl n).mpr (Or.inr rfl), hp⟩
  · rintro ⟨m, hm, hp⟩
    rcases (hl m).mp hm with hm | rfl
    · exact Or.inl ⟨m, hm, hp⟩
    · exact Or.inr hp

theorem prune_minimal' {keep : Name → Bool} {nodes L L' : List Name} {n : Name} (h : Minimal nodes L)
    (hpath : ∀ p ∈ prefixes n, p ∈ nodes)
    (h1 : ∀ m, m ∈ L → m ∈ L' ∨ m = n) (h2 : ∀ m, m ∈ L' → m ∈ L)
    (hk : ∀ m, m ≠ [] → (keep m = true ↔ m ∈ L')) :
    Minimal (prune keep (n.length + 1) nodes n) L' := by
  refine prune_exact keep L' hk _ _ _ (Nat.le_refl _) fun x => ?_
  rw [h x]
  constructor
  · rintro ⟨m, hm, hp⟩
    rcases h1 m hm with hm | rfl
    · exact Or.inl ⟨m, hm, hp⟩
    · exact Or.inr hp
  · rintro (⟨m, hm, hp⟩ | hp)
    · exact ⟨m, h2 m hm, hp⟩
    · exact (h x).mp (hpath x hp)

theorem prune_minimal {keep : Name → Bool} {nodes L L' : List Name} {n : Name} (h : Minimal nodes L)
    (hl : ∀ m, m ∈ L ↔ m ∈ L' ∨ m = n) (hk : ∀ m, m ≠ [] → (keep m = true ↔ m ∈ L')) :
    Minimal (prune keep (n.length + 1) nodes n) L' :=
  prune_minimal' h (fun p hp => (h p).mpr ⟨n, (hl n).mpr (Or.inr rfl), hp⟩) (fun m => (hl m).mp)
    (fun m hm => (hl m).mpr (Or.inl hm)) hk

/-- `fill_minimal` / `prune_minimal'` for live names given by Bool predicates (`live` before, `live'` after, which is
    also what `prune` keeps): the form the FIB-tree and RIB models of C08 need -/
theorem fill_live {live live' : Name → Bool} {nodes L L' : List Name} {n : Name}
    (hL : ∀ m, m ∈ L ↔ live m = true) (hL' : ∀ m, m ∈ L' ↔ live' m = true) (h : Minimal nodes L)
    (hsame : ∀ m, m ≠ n → live' m = live m) (hlive : live' n = true) : Minimal (fill nodes n) L' := by
  refine fill_minimal h n fun m => ?_
  rw [hL', hL]
  by_cases e : m = n
  · rw [e]; exact ⟨fun _ => Or.inr rfl, fun _ => hlive⟩
  · rw [hsame m e]; exact ⟨Or.inl, fun h => h.resolve_right e⟩

theorem prune_live {live live' : Name → Bool} {nodes L L' : List Name} {n : Name}
    (hL : ∀ m, m ∈ L ↔ live m = true) (hL' : ∀ m, m ∈ L' ↔ live' m = true) (h : Minimal nodes L)
    (hpath : ∀ p ∈ prefixes n, p ∈ nodes)
    (hsame : ∀ m, m ≠ n → live' m = live m) (hless : live' n = true → live n = true) :
    Minimal (prune live' (n.length + 1) nodes n) L' := by
  refine prune_minimal' h hpath (fun m hm => ?_) (fun m hm => ?_) fun m _ => (hL' m).symm
  · by_cases e : m = n
    · exact Or.inr e
    · exact Or.inl ((hL' m).mpr (hsame m e ▸ (hL m).mp hm))
  · rw [hL] ; rw [hL'] at hm
    by_cases e : m = n
    · exact e ▸ hless (e ▸ hm)
    · exact hsame m e ▸ hm

end Ndn.C07
