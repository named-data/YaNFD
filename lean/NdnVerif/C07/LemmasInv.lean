/-
  The invariant of the Content-Store model and its preservation.
  `InvQ q s` is the invariant stated for an explicit LRU queue `q` (during `EvictEntries` the
  victims leave the map one by one while `s.queue` is only cut afterwards); `Inv s = InvQ s.queue s`.
-/
import NdnVerif.C07.LemmasTree
import NdnVerif.C07.Spec
namespace Ndn.C07

/-- an event that inserts, refreshes or exact-hits no name -/
def Ev.quiet : Ev → Bool
  | Ev.evict _ => true
  | Ev.cap _ => true
  | _ => false

theorem age_quiet {e : Ev} (h : e.quiet = true) (hs : List Ev) (x : Name) : age (e :: hs) x = age hs x + 1 := by
  cases e <;> first | rfl | cases h

theorem age_quiets {l : List Ev} (hl : ∀ e ∈ l, Ev.quiet e = true) (hs : List Ev) (x : Name) :
    age (l ++ hs) x = age hs x + l.length := by
  induction l with
  | nil => rfl
  | cons e t ih =>
    rw [List.cons_append, age_quiet (hl e List.mem_cons_self), ih fun e h => hl e (List.mem_cons_of_mem _ h)]
    rfl

theorem lastInsert_quiet_or_hit {e : Ev} (h : e.quiet = true ∨ ∃ m, e = Ev.hit m) (hs : List Ev) (x : Name) :
    lastInsert (e :: hs) x = lastInsert hs x := by
  rcases h with h | ⟨m, rfl⟩
  · cases e <;> first | rfl | cases h
  · rfl

structure InvQ (q : List Name) (s : St) : Prop where
  qnodup : q.Nodup
  knodup : s.cs.keys.Nodup
  qmem : ∀ n, n ∈ q ↔ n ∈ s.cs.keys
  ncs : s.nCs = s.cs.length
  hist : ∀ n e, s.cs.get? n = some e → ∃ f t0, lastInsert s.hist n = some (e.wire, f, t0) ∧ e.stale = t0 + f
  lru : q.Pairwise (fun a b => age s.hist b < age s.hist a)
  reach : ∀ n, n ∈ s.cs.keys → ∀ p ∈ prefixes n, p ∈ s.nodes
  cached : ∀ n, cachedH s.hist n = true ↔ n ∈ s.cs.keys

abbrev Inv (s : St) : Prop := InvQ s.queue s

theorem inv_init (k : Nat) : Inv (init k) :=
  ⟨List.nodup_nil, List.nodup_nil, fun _ => Iff.rfl, rfl, fun _ _ h => (nomatch h), List.Pairwise.nil,
    fun _ h => absurd h List.not_mem_nil, fun _ => ⟨fun h => (nomatch h), fun h => absurd h List.not_mem_nil⟩⟩

theorem Inv.qlen {s : St} (h : Inv s) : s.queue.length = s.cs.length := by
  have := ((List.perm_ext_iff_of_nodup h.qnodup h.knodup).mpr h.qmem).length_eq
  rwa [CsMap.keys, List.length_map] at this

theorem InvQ.setNodes {q : List Name} {s : St} (h : InvQ q s) (nodes : List Name)
    (hr : ∀ n, n ∈ s.cs.keys → ∀ p ∈ prefixes n, p ∈ nodes) : InvQ q { s with nodes := nodes } :=
  ⟨h.qnodup, h.knodup, h.qmem, h.ncs, h.hist, h.lru, hr, h.cached⟩

theorem touch_pairwise {q : List Name} {hs : List Ev} {e : Ev} {n : Name}
    (hq : q.Pairwise (fun a b => age hs b < age hs a)) (he : ∀ x, touches e x = decide (n = x)) :
    (rem n q ++ [n]).Pairwise (fun a b => age (e :: hs) b < age (e :: hs) a) := by
  have hage : ∀ x ∈ rem n q, age (e :: hs) x = age hs x + 1 := fun x hx => by
    rw [age, he, if_neg (by rw [decide_eq_false (Ne.symm (mem_rem.mp hx).2)]; exact Bool.false_ne_true)]
  refine List.pairwise_append.mpr ⟨?_, List.pairwise_singleton _ _, fun a ha b hb => ?_⟩
  · refine ((hq.sublist List.filter_sublist).imp_of_mem fun {a b} ha hb hab => ?_)
    rw [hage a ha, hage b hb]; exact Nat.succ_lt_succ hab
  · rw [List.mem_singleton.mp hb, hage a ha, age, he, if_pos (decide_eq_true rfl)]
    exact Nat.succ_pos _

theorem quiet_pairwise {q : List Name} {hs : List Ev} {e : Ev} (he : e.quiet = true)
    (hq : q.Pairwise (fun a b => age hs b < age hs a)) :
    q.Pairwise (fun a b => age (e :: hs) b < age (e :: hs) a) :=
  hq.imp fun hab => by rw [age_quiet he, age_quiet he]; exact Nat.succ_lt_succ hab

theorem Inv.touch {s : St} (h : Inv s) {n : Name} (hk : n ∈ s.cs.keys) {e : Ev} (cs : CsMap)
    (he : ∀ x, touches e x = decide (n = x)) (hkeys : cs.keys = s.cs.keys)
    (hh : ∀ x v, cs.get? x = some v → ∃ f t0, lastInsert (e :: s.hist) x = some (v.wire, f, t0) ∧ v.stale = t0 + f)
    (hc : ∀ x, cachedH (e :: s.hist) x = true ↔ x ∈ s.cs.keys) :
    Inv { s with cs := cs, queue := rem n s.queue ++ [n], hist := e :: s.hist } :=
  ⟨touch_nodup h.qnodup, hkeys ▸ h.knodup,
    fun x => (mem_touch ((h.qmem n).mpr hk)).trans ((h.qmem x).trans (hkeys ▸ Iff.rfl)),
    h.ncs.trans (by have := congrArg List.length hkeys; rwa [CsMap.keys, CsMap.keys, List.length_map, List.length_map, eq_comm] at this), hh, touch_pairwise h.lru he, hkeys ▸ h.reach, fun x => (hc x).trans (hkeys ▸ Iff.rfl)⟩

theorem eraseCs_inv (pit : Name → Bool) {v : Name} {q : List Name} {s : St} (h : InvQ (v :: q) s) :
    InvQ q (eraseCs pit s v) := by
  have hv : v ∈ s.cs.keys := (h.qmem v).mp List.mem_cons_self
  obtain ⟨hvq, hq⟩ := List.nodup_cons.mp h.qnodup
  rw [eraseCs, if_pos (has_iff.mpr hv)]
  refine ⟨hq, keys_del _ _ ▸ rem_nodup h.knodup, fun n => ?_, ?_, fun n e he => ?_,
    quiet_pairwise rfl (List.Pairwise.of_cons h.lru), fun n hn p hp => ?_, fun n => ?_⟩
  · rw [mem_keys_del, ← h.qmem n, List.mem_cons]
    exact ⟨fun hn => ⟨Or.inr hn, fun e => hvq (e ▸ hn)⟩, fun ⟨hn, hne⟩ => hn.resolve_left hne⟩
  · have := length_del h.knodup hv
    show s.nCs - 1 = (s.cs.del v).length
    rw [h.ncs, ← this]; rfl
  · rw [get?_del] at he
    split at he
    · cases he
    · exact h.hist n e he
  · refine prune_keeps _ _ _ _ (s.cs.del v).keys (fun m hm _ => ?_) (fun m hm => h.reach m (mem_keys_del.mp hm).1) n hn p hp
    rw [has_iff.mpr hm]; rfl
  · show cachedH (Ev.evict v :: s.hist) n = true ↔ _
    rw [cachedH, mem_keys_del, ← h.cached n]
    split
    · rename_i hvn; exact ⟨fun hf => (nomatch hf), fun hf => absurd hvn.symm hf.2⟩
    · rename_i hvn; exact ⟨fun hc => ⟨hc, fun e => hvn e.symm⟩, fun hc => hc.1⟩

theorem fold_eraseCs_frame (pit : Name → Bool) (vs : List Name) (s : St) :
    (vs.foldl (eraseCs pit) s).cap = s.cap ∧ (vs.foldl (eraseCs pit) s).now = s.now ∧
    ∃ l, (∀ e ∈ l, Ev.quiet e = true) ∧ (vs.foldl (eraseCs pit) s).hist = l ++ s.hist := by
  induction vs generalizing s with
  | nil => exact ⟨rfl, rfl, [], fun _ h => absurd h List.not_mem_nil, rfl⟩
  | cons v t ih =>
    obtain ⟨h1, h2, l, hl, h3⟩ := ih (eraseCs pit s v)
    have hstep : (eraseCs pit s v).cap = s.cap ∧ (eraseCs pit s v).now = s.now ∧
        ∃ l', (∀ e ∈ l', Ev.quiet e = true) ∧ (eraseCs pit s v).hist = l' ++ s.hist := by
      unfold eraseCs
      split
      · exact ⟨rfl, rfl, [Ev.evict v], fun e he => List.mem_singleton.mp he ▸ rfl, rfl⟩
      · exact ⟨rfl, rfl, [], fun _ h => absurd h List.not_mem_nil, rfl⟩
    obtain ⟨g1, g2, l', hl', g3⟩ := hstep
    refine ⟨h1.trans g1, h2.trans g2, l ++ l', fun e he => (List.mem_append.mp he).elim (hl e) (hl' e), ?_⟩
    rw [List.foldl_cons, h3, g3, List.append_assoc]

theorem fold_eraseCs_inv (pit : Name → Bool) (vs rest : List Name) (s : St) (h : InvQ (vs ++ rest) s) :
    InvQ rest (vs.foldl (eraseCs pit) s) := by
  induction vs generalizing s with
  | nil => exact h
  | cons v t ih => exact ih _ (eraseCs_inv pit h)

theorem evict_inv (pit : Name → Bool) {s : St} (h : Inv s) : Inv (evict pit s) := by
  have := fold_eraseCs_inv pit (s.queue.take (s.queue.length - s.cap)) (s.queue.drop (s.queue.length - s.cap)) s
    ((List.take_append_drop _ _).symm ▸ h)
  exact ⟨this.qnodup, this.knodup, this.qmem, this.ncs, this.hist, this.lru, this.reach, this.cached⟩

/-- `EvictEntries` takes the front of the queue: whatever goes is older than whatever stays -/
theorem evict_lru (pit : Name → Bool) {s : St} (h : Inv s) :
    ∀ v ∈ s.cs.keys, v ∉ (evict pit s).cs.keys → ∀ m ∈ (evict pit s).cs.keys,
      age (evict pit s).hist m < age (evict pit s).hist v := by
  intro v hvk hv' m hm
  have h' := evict_inv pit h
  obtain ⟨_, _, l, hl, hhist⟩ := fold_eraseCs_frame pit (s.queue.take (s.queue.length - s.cap)) s
  have hq' : (evict pit s).queue = s.queue.drop (s.queue.length - s.cap) := rfl
  have hh' : (evict pit s).hist = l ++ s.hist := hhist
  have hmq : m ∈ s.queue.drop (s.queue.length - s.cap) := hq' ▸ (h'.qmem m).mpr hm
  have hvq : v ∈ s.queue.take (s.queue.length - s.cap) := by
    have hvq1 : v ∈ s.queue := (h.qmem v).mpr hvk
    rw [← List.take_append_drop (s.queue.length - s.cap) s.queue] at hvq1
    exact (List.mem_append.mp hvq1).resolve_right fun hv1 => hv' ((h'.qmem v).mp (hq' ▸ hv1))
  have hpw := h.lru
  rw [← List.take_append_drop (s.queue.length - s.cap) s.queue, List.pairwise_append] at hpw
  rw [hh', age_quiets hl, age_quiets hl]
  exact Nat.add_lt_add_right (hpw.2.2 v hvq m hmq) _

/-- the state `InsertData` reaches for a name that is not cached, before `EvictEntries` -/
def pushCs (s : St) (n : Name) (w : Bytes) (f : Nat) : St :=
  { s with nCs := s.nCs + 1, nodes := fill s.nodes n, cs := s.cs ++ [(n, ⟨w, s.now + f⟩)],
           queue := s.queue ++ [n], hist := Ev.ins n w f s.now :: s.hist }

theorem insertData_new {s : St} {n : Name} (hn : s.cs.has n = false) (pit : Name → Bool) (w : Bytes) (f : Nat) :
    insertData pit s n w f = evict pit (pushCs s n w f) := by
  rw [insertData, if_neg (by rw [hn]; exact Bool.false_ne_true)]; rfl

theorem insertData_refresh {s : St} {n : Name} (hn : s.cs.has n = true) (pit : Name → Bool) (w : Bytes) (f : Nat) :
    insertData pit s n w f =
      { s with cs := s.cs.set n ⟨w, s.now + f⟩, queue := rem n s.queue ++ [n], hist := Ev.ins n w f s.now :: s.hist } := by
  rw [insertData, if_pos hn]

theorem pushCs_inv {s : St} (h : Inv s) {n : Name} (hk : n ∉ s.cs.keys) (w : Bytes) (f : Nat) : Inv (pushCs s n w f) := by
  -- the record is replaced by a variable; these equations are all that is used of it
  have hq : (pushCs s n w f).queue = s.queue ++ [n] := rfl
  have hcs : (pushCs s n w f).cs = s.cs ++ [(n, ⟨w, s.now + f⟩)] := rfl
  have hn : (pushCs s n w f).nCs = s.nCs + 1 := rfl
  have hnodes : (pushCs s n w f).nodes = fill s.nodes n := rfl
  have hh : (pushCs s n w f).hist = Ev.ins n w f s.now :: s.hist := rfl
  generalize pushCs s n w f = s' at hq hcs hn hnodes hh
  generalize hev : (⟨w, s.now + f⟩ : Entry) = e at hcs
  have hw : e.wire = w := hev ▸ rfl
  have he : e.stale = s.now + f := hev ▸ rfl
  rw [← hw] at hh
  have hnq : n ∉ s.queue := fun hq' => hk ((h.qmem n).mp hq')
  refine ⟨hq ▸ nodup_snoc h.qnodup hnq, ?_, fun x => ?_, ?_, fun x v hv => ?_, ?_, fun x hx p hp => ?_, fun x => ?_⟩
  · rw [hcs, keys_append]; exact nodup_snoc h.knodup hk
  · rw [hq, hcs, keys_append, List.mem_append, List.mem_append, h.qmem x]
  · rw [hn, hcs, List.length_append, h.ncs]; rfl
  · rw [hcs, get?_append] at hv
    rw [hh, lastInsert]
    cases hg : s.cs.get? x with
    | some v' =>
      simp only [hg] at hv
      rw [if_neg fun (e' : n = x) => hk (e' ▸ get?_some_mem_keys hg), ← Option.some.inj hv]
      exact h.hist x v' hg
    | none =>
      simp only [hg] at hv
      split at hv
      · rename_i hx; rw [if_pos hx, ← Option.some.inj hv]; exact ⟨f, s.now, rfl, he⟩
      · cases hv
  · have := touch_pairwise (e := Ev.ins n e.wire f s.now) h.lru fun _ => rfl
    rwa [rem_of_not_mem hnq, ← hq, ← hh] at this
  · rw [hcs, keys_append, List.mem_append, List.mem_singleton] at hx
    rw [hnodes]
    exact mem_fill.mpr (hx.elim (fun hx => Or.inl (h.reach x hx p hp)) fun e => Or.inr (e ▸ hp))
  · rw [hh, hcs, cachedH, keys_append, List.mem_append, List.mem_singleton, ← h.cached x]
    split
    · rename_i hx; exact ⟨fun _ => Or.inr hx.symm, fun _ => rfl⟩
    · rename_i hx; exact ⟨Or.inl, fun hc => hc.resolve_right fun e => hx e.symm⟩

theorem insertData_inv (pit : Name → Bool) {s : St} (h : Inv s) (n : Name) (w : Bytes) (f : Nat) :
    Inv (insertData pit s n w f) := by
  cases hn : s.cs.has n with
  | false => rw [insertData_new hn]; exact evict_inv pit (pushCs_inv h (has_false_iff.mp hn) w f)
  | true =>
    have hk := has_iff.mp hn
    rw [insertData_refresh hn]
    refine h.touch hk _ (fun _ => rfl) (keys_set _ _ _)
      (fun x e he => ?_) fun x => ?_
    · rw [get?_set] at he
      rw [lastInsert]
      split at he
      · rename_i hx
        obtain ⟨e0, he0⟩ := mem_keys_get? hk
        rw [he0] at he
        rw [if_pos hx.symm, ← Option.some.inj he]
        exact ⟨f, s.now, rfl, rfl⟩
      · rename_i hx
        rw [if_neg fun e' => hx e'.symm]
        exact h.hist x e he
    · rw [cachedH]
      split
      · rename_i hx; exact ⟨fun _ => hx ▸ hk, fun _ => rfl⟩
      · exact h.cached x

theorem fresh_iff {mbf : Bool} {now a : Nat} : (!mbf || decide (now < a)) = true ↔ (mbf = true → now < a) := by
  cases mbf <;> simp

theorem acceptable_iff {s : St} {mbf : Bool} {p : Name} :
    acceptable s mbf p = true ↔ ∃ e, s.cs.get? p = some e ∧ (mbf = true → s.now < e.stale) := by
  unfold acceptable
  cases hg : s.cs.get? p with
  | none => exact ⟨fun h => (nomatch h), fun ⟨_, h, _⟩ => (nomatch h)⟩
  | some e => exact fresh_iff.trans ⟨fun h => ⟨e, rfl, h⟩, fun ⟨_, h, hf⟩ => Option.some.inj h ▸ hf⟩

theorem findData_eq (ord : List Name → List Name) (s : St) (n : Name) (cbp mbf : Bool) :
    findData ord s n cbp mbf = (s, none) ∨
    (cbp = false ∧ acceptable s mbf n = true ∧ findData ord s n cbp mbf =
      ({ s with queue := rem n s.queue ++ [n], hist := Ev.hit n :: s.hist }, ansOf s (some n))) ∨
    (cbp = true ∧ findData ord s n cbp mbf = (s, ansOf s (walk ord s mbf (fuel s) n))) := by
  rw [findData]
  by_cases h1 : nodeAt s n = true
  · rw [if_pos h1]
    cases cbp with
    | false =>
      by_cases h3 : acceptable s mbf n = true
      · exact Or.inr (Or.inl ⟨rfl, h3, by rw [if_pos (show (!false) = true from rfl), if_pos h3]⟩)
      · exact Or.inl (by rw [if_pos (show (!false) = true from rfl), if_neg h3])
    | true => exact Or.inr (Or.inr ⟨rfl, rfl⟩)
  · exact Or.inl (by rw [if_neg h1])

theorem findData_inv (ord : List Name → List Name) {s : St} (h : Inv s) (n : Name) (cbp mbf : Bool) :
    Inv (findData ord s n cbp mbf).1 := by
  rcases findData_eq ord s n cbp mbf with e | ⟨_, ha, e⟩ | ⟨_, e⟩ <;> rw [e]
  · exact h
  · obtain ⟨v, hv, _⟩ := acceptable_iff.mp ha
    exact h.touch (e := Ev.hit n) (get?_some_mem_keys hv) s.cs (fun _ => rfl) rfl h.hist h.cached
  · exact h

theorem findData_frame (ord : List Name → List Name) (s : St) (n : Name) (cbp mbf : Bool) :
    (findData ord s n cbp mbf).1.cs = s.cs ∧ (findData ord s n cbp mbf).1.nodes = s.nodes ∧
    (findData ord s n cbp mbf).1.now = s.now := by
  rcases findData_eq ord s n cbp mbf with e | ⟨_, _, e⟩ | ⟨_, e⟩ <;> rw [e] <;> exact ⟨rfl, rfl, rfl⟩

theorem insertData_now (pit : Name → Bool) (s : St) (n : Name) (w : Bytes) (f : Nat) :
    (insertData pit s n w f).now = s.now := by
  cases hn : s.cs.has n with
  | false => rw [insertData_new hn]; exact (fold_eraseCs_frame pit _ _).2.1
  | true => rw [insertData_refresh hn]

theorem setCap_inv {s : St} (h : Inv s) (k : Nat) : Inv (setCap s k) :=
  ⟨h.qnodup, h.knodup, h.qmem, h.ncs, h.hist, quiet_pairwise rfl h.lru, h.reach, h.cached⟩

theorem step_inv {s : St} (h : Inv s) (op : Op) : Inv (step s op).1 := by
  cases op with
  | ins n w f => exact insertData_inv _ h n w f
  | find n c m ord => exact findData_inv ord h n c m
  | cap k => exact setCap_inv h k
  | mgmt c hf hm =>
    simp only [step, csConfig]
    split
    · exact h
    · cases c with
      | none => exact h
      | some k => exact setCap_inv h k
  | adv d => exact ⟨h.qnodup, h.knodup, h.qmem, h.ncs, h.hist, h.lru, h.reach, h.cached⟩

theorem run_inv {s : St} (h : Inv s) (ops : List Op) : Inv (run s ops) := by
  induction ops generalizing s with
  | nil => exact h
  | cons op t ih => exact ih (step_inv h op)

end Ndn.C07
