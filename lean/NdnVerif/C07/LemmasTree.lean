/-
  The name-tree node set: `prefixes` (the non-empty prefixes of a name), `fill`, `prune`.
-/
import NdnVerif.C07.Lemmas
namespace Ndn.C07

theorem mem_prefixes {p m : Name} : p ∈ prefixes m ↔ p ≠ [] ∧ p <+: m := by
  simp only [prefixes, List.mem_map, List.mem_range]
  constructor
  · rintro ⟨k, hk, rfl⟩
    refine ⟨fun e => ?_, List.take_prefix _ _⟩
    have := congrArg List.length e
    rw [List.length_take, List.length_nil] at this; omega
  · rintro ⟨hne, hp⟩
    have hpos := List.length_pos_iff.mpr hne
    have hle := hp.length_le
    refine ⟨p.length - 1, by omega, ?_⟩
    rw [Nat.sub_add_cancel hpos]
    exact (List.prefix_iff_eq_take.mp hp).symm

theorem self_mem_prefixes {m : Name} (h : m ≠ []) : m ∈ prefixes m := mem_prefixes.mpr ⟨h, List.prefix_refl m⟩

theorem prefixes_ne_nil {p m : Name} (h : p ∈ prefixes m) : p ≠ [] := (mem_prefixes.mp h).1

theorem prefixes_trans {q p m : Name} (hp : p ∈ prefixes m) (hq : q ∈ prefixes p) : q ∈ prefixes m :=
  mem_prefixes.mpr ⟨(mem_prefixes.mp hq).1, (mem_prefixes.mp hq).2.trans (mem_prefixes.mp hp).2⟩

theorem not_mem_prefixes_dropLast {c : Name} (hc : c ≠ []) : c ∉ prefixes c.dropLast := fun h => by
  have h1 := (mem_prefixes.mp h).2.length_le
  have h2 := List.length_pos_iff.mpr hc
  rw [List.length_dropLast] at h1; omega

theorem isChild_iff {p c : Name} : isChild p c = true ↔ c ≠ [] ∧ c.dropLast = p := decide_eq_true_iff

theorem proper_prefix_child {p m : Name} (hp : p ∈ prefixes m) (hne : p ≠ m) :
    ∃ c, c ∈ prefixes m ∧ isChild p c = true := by
  obtain ⟨_, hpm⟩ := mem_prefixes.mp hp
  have hlt : p.length < m.length :=
    Nat.lt_of_le_of_ne hpm.length_le fun e => hne (hpm.eq_of_length e)
  have hlen : (m.take (p.length + 1)).length = p.length + 1 := by
    rw [List.length_take]; exact Nat.min_eq_left hlt
  have hc : m.take (p.length + 1) ≠ [] := fun e => Nat.succ_ne_zero _ (hlen.symm.trans (congrArg List.length e))
  refine ⟨m.take (p.length + 1), mem_prefixes.mpr ⟨hc, List.take_prefix _ _⟩, isChild_iff.mpr ⟨hc, ?_⟩⟩
  rw [List.dropLast_eq_take, hlen, Nat.add_sub_cancel, List.take_take, Nat.min_eq_left (Nat.le_succ _)]
  exact (List.prefix_iff_eq_take.mp hpm).symm

theorem mem_prefixes_dropLast {x y : Name} (hy : y ≠ []) : x ∈ prefixes y ↔ x ∈ prefixes y.dropLast ∨ x = y := by
  rw [mem_prefixes, mem_prefixes]
  -- `y = y.dropLast ++ [y.getLast]`, on the left only
  conv => lhs; rw [← List.dropLast_concat_getLast hy, List.prefix_concat_iff, List.dropLast_concat_getLast hy]
  exact ⟨fun ⟨h1, h2⟩ => h2.elim Or.inr fun h => Or.inl ⟨h1, h⟩, fun h => h.elim (fun h => ⟨h.1, Or.inr h.2⟩) fun e => ⟨e ▸ hy, Or.inl e⟩⟩

theorem mem_children {nodes : List Name} {p c : Name} : c ∈ children nodes p ↔ c ∈ nodes ∧ isChild p c = true :=
  List.mem_filter

theorem all_prefixes_iff {nodes : List Name} {n : Name} :
    (prefixes n).all (fun p => memb p nodes) = true ↔ ∀ p ∈ prefixes n, p ∈ nodes := by
  simp only [List.all_eq_true, memb_iff]

theorem nodeAt_iff {s : St} {n : Name} : nodeAt s n = true ↔ ∀ p ∈ prefixes n, p ∈ s.nodes := all_prefixes_iff

theorem mem_fill {nodes : List Name} {n x : Name} : x ∈ fill nodes n ↔ x ∈ nodes ∨ x ∈ prefixes n := by
  unfold fill
  generalize prefixes n = ps
  induction ps generalizing nodes with
  | nil => exact ⟨Or.inl, fun h => h.elim id fun h => nomatch h⟩
  | cons p t ih => rw [List.foldl_cons, ih, mem_addNew, List.mem_cons, or_assoc]

theorem prune_sub (keep : Name → Bool) (k : Nat) (nodes : List Name) (n x : Name)
    (h : x ∈ prune keep k nodes n) : x ∈ nodes := by
  induction k generalizing nodes n with
  | zero => exact h
  | succ k ih =>
    rw [prune] at h
    split at h
    · exact (mem_rem.mp (ih _ _ h)).1
    · exact h

/-- a node on the path to a kept name passes the test of `prune`: it is that name, or has a child on the path -/
theorem stays_of_on_path {keep : Name → Bool} {nodes : List Name} {y m : Name} (hp : y ∈ prefixes m)
    (hkm : keep m = true) (hn : ∀ c ∈ prefixes m, c ∈ nodes) :
    ¬ ((children nodes y).isEmpty = true ∧ keep y = false) := by
  rintro ⟨hch, hkeep⟩
  by_cases hym : y = m
  · exact Bool.false_ne_true (hkeep.symm.trans (hym ▸ hkm))
  · obtain ⟨c, hc1, hc2⟩ := proper_prefix_child hp hym
    have : c ∈ children nodes y := mem_children.mpr ⟨hn c hc1, hc2⟩
    rw [List.isEmpty_iff.mp hch] at this; cases this

/-- pruning never removes a node on the path to a kept name: the half of `prune_exact` that needs no minimal tree -/
theorem prune_keeps (keep : Name → Bool) (k : Nat) (nodes : List Name) (n : Name) (K : List Name)
    (hk : ∀ m ∈ K, m ≠ [] → keep m = true) (hr : ∀ m ∈ K, ∀ p ∈ prefixes m, p ∈ nodes) :
    ∀ m ∈ K, ∀ p ∈ prefixes m, p ∈ prune keep k nodes n := by
  induction k generalizing nodes n with
  | zero => exact hr
  | succ k ih =>
    rw [prune]
    split
    · rename_i hc
      refine ih _ _ fun m hm p hp => mem_rem.mpr ⟨hr m hm p hp, ?_⟩
      rintro rfl
      exact stays_of_on_path hp (hk m hm fun e => nomatch e ▸ hp) (hr m hm) hc.2
    · exact hr

end Ndn.C07
