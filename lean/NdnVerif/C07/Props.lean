/-
  C07 — property theorems only (helper lemmas: Lemmas.lean, LemmasTree.lean, LemmasInv.lean,
  LemmasFind.lean).  Every theorem is about the model of Model.lean, for EVERY history of operations
  (`run (init cap) ops`, no bound on length, names, capacities or times) and every order in which a
  Go map may enumerate the children of a tree node (`OrdOk`).

  Assumption A-hash: the tables of the model are keyed by names; the code keys them by xxhash64 of
  the names (injective on the names of a run: checked by the harness at run time).
-/
import NdnVerif.C07.LemmasFind
namespace Ndn.C07

/-- every state reached from an empty store of any capacity by any history satisfies the invariant -/
theorem reachable_inv (cap : Nat) (ops : List Op) : Inv (run (init cap) ops) :=
  run_inv (inv_init cap) ops

/-- **cs_find_sound.** A lookup answers only with the bytes most recently inserted under a name
    that equals the Interest name — or extends it when CanBePrefix is set — and, when MustBeFresh is
    set, only while `now < insertion time + freshness period`; for every history and child order. -/
theorem cs_find_sound (cap : Nat) (ops : List Op) (n : Name) (cbp mbf : Bool)
    (ord : List Name → List Name) (ho : OrdOk ord) :
    let s := run (init cap) ops
    csAnswerOk s.hist s.now ⟨n, cbp, mbf⟩ (findData ord s n cbp mbf).2 = true := by
  intro s
  have h : Inv s := reachable_inv cap ops
  have key : ∀ q, acceptable s mbf q = true → nameMatches ⟨n, cbp, mbf⟩ q = true →
      csAnswerOk s.hist s.now ⟨n, cbp, mbf⟩ (ansOf s (some q)) = true := by
    intro q ha hm
    obtain ⟨e, he, hf⟩ := acceptable_iff.mp ha
    obtain ⟨f, t0, h1, h2⟩ := h.hist q e he
    simp only [ansOf, he, Option.map_some, csAnswerOk, h1, hm, decide_true, Bool.true_and]
    exact fresh_iff.mpr fun hm => h2 ▸ hf hm
  rcases findData_eq ord s n cbp mbf with e | ⟨_, ha, e⟩ | ⟨hc, e⟩ <;> rw [e]
  · rfl
  · exact key n ha (Bool.or_eq_true_iff.mpr (Or.inl (decide_eq_true rfl)))
  · cases hw : walk ord s mbf (fuel s) n with
    | none => rfl
    | some q =>
      obtain ⟨ha, hp, _⟩ := walk_spec ho s mbf _ _ _ hw
      refine key q ha (Bool.or_eq_true_iff.mpr (Or.inr ?_))
      rw [Bool.and_eq_true, isPrefix_iff]
      exact ⟨hc, hp⟩

example : csAnswerOk [Ev.ins [⟨8, [97]⟩] [1] 5 0] 3 ⟨[], true, true⟩ (some ([⟨8, [97]⟩], [1])) = true := by decide
example : csAnswerOk [Ev.ins [⟨8, [97]⟩] [1] 5 0] 5 ⟨[], true, true⟩ (some ([⟨8, [97]⟩], [1])) = false := by decide

/-- **cs_capacity_after_insert.** Inserting a packet under a name that is not cached leaves at most
    the currently configured capacity of packets cached, and the reported size is the true size —
    whatever the history, hence also when the capacity was lowered before (`Op.cap`). -/
theorem cs_capacity_after_insert (cap : Nat) (ops : List Op) (n : Name) (w : Bytes) (f : Nat)
    (pit : Name → Bool) :
    let s := run (init cap) ops
    let s' := insertData pit s n w f
    s.cs.has n = false → s'.cs.length ≤ s.cap ∧ s'.cap = s.cap ∧ s'.nCs = s'.cs.length := by
  intro s s' hn
  have h' : Inv s' := insertData_inv pit (reachable_inv cap ops) n w f
  have hs' : s' = evict pit (pushCs s n w f) := insertData_new hn pit w f
  refine ⟨?_, ?_, h'.ncs⟩
  · rw [← h'.qlen, hs']
    show ((pushCs s n w f).queue.drop _).length ≤ s.cap
    rw [List.length_drop]
    show _ - (_ - s.cap) ≤ s.cap
    omega
  · rw [hs']; exact (fold_eraseCs_frame pit _ _).1

example : (insertData (fun _ => false) (run (init 1) [Op.ins [⟨8, [97]⟩] [1] 0]) [⟨8, [98]⟩] [2] 0).cs.length = 1 := by decide
example : (insertData (fun _ => false) (run (init 2) [Op.ins [⟨8, [97]⟩] [1] 0, Op.ins [⟨8, [99]⟩] [1] 0, Op.cap 0]) [⟨8, [98]⟩] [2] 0).cs.length = 0 := by decide

/-- **cs_evicts_lru.** Whatever an insertion evicts was touched (inserted, refreshed or hit by an
    exact-name lookup) less recently than everything that stays cached: `age` = number of events
    since the last touch, so every victim is strictly older than every survivor. -/
theorem cs_evicts_lru (cap : Nat) (ops : List Op) (n : Name) (w : Bytes) (f : Nat) (pit : Name → Bool) :
    let s := run (init cap) ops
    let s' := insertData pit s n w f
    ∀ v, (v ∈ s.cs.keys ∨ v = n) → v ∉ s'.cs.keys → ∀ m ∈ s'.cs.keys, age s'.hist m < age s'.hist v := by
  intro s s' v hv hv' m hm
  have h : Inv s := reachable_inv cap ops
  have h' : Inv s' := insertData_inv pit h n w f
  by_cases hn : s.cs.has n = true
  · -- refresh: nothing leaves the store
    exfalso; apply hv'
    simp only [s', insertData, hn, ↓reduceIte, keys_set]
    rcases hv with hv | rfl
    · exact hv
    · exact has_iff.mp hn
  · have hn' : s.cs.has n = false := Bool.eq_false_iff.mpr hn
    have hs' : s' = evict pit (pushCs s n w f) := insertData_new hn' pit w f
    have hvk : v ∈ (pushCs s n w f).cs.keys := by
      show v ∈ (s.cs ++ [_]).keys
      rw [keys_append, List.mem_append, List.mem_singleton]; exact hv
    rw [hs'] at hv' hm ⊢
    exact evict_lru pit (pushCs_inv h (has_false_iff.mp hn') w f) v hvk hv' m hm

example :
    let s' := insertData (fun _ => false)
      (run (init 2) [Op.ins [⟨8, [97]⟩] [1] 0, Op.ins [⟨8, [98]⟩] [1] 0, Op.find [⟨8, [97]⟩] false false id]) [⟨8, [99]⟩] [2] 0
    s'.cs.keys = [[⟨8, [97]⟩], [⟨8, [99]⟩]] := by decide

/-- **cs_find_exact_complete.** A packet that is cached and unevicted according to the history
    (`cachedH`: inserted, no eviction of it since) and fresh (or MustBeFresh unset) is always found
    by an exact-name lookup, with the bytes of its most recent insertion. -/
theorem cs_find_exact_complete (cap : Nat) (ops : List Op) (n : Name) (mbf : Bool)
    (ord : List Name → List Name) (w : Bytes) (f t0 : Nat) :
    let s := run (init cap) ops
    cachedH s.hist n = true → lastInsert s.hist n = some (w, f, t0) → (mbf = true → s.now < t0 + f) →
    (findData ord s n false mbf).2 = some (n, w) := by
  intro s hc hl hf
  have h : Inv s := reachable_inv cap ops
  have hk : n ∈ s.cs.keys := (h.cached n).mp hc
  obtain ⟨e, he⟩ := mem_keys_get? hk
  obtain ⟨f', t0', h1, h2⟩ := h.hist n e he
  rw [hl] at h1
  simp only [Option.some.injEq, Prod.mk.injEq] at h1
  obtain ⟨hw, hf', ht'⟩ := h1
  subst hw hf' ht'
  have hnode : nodeAt s n = true := nodeAt_iff.mpr (h.reach n hk)
  have hacc : acceptable s mbf n = true := acceptable_iff.mpr ⟨e, he, fun hm => h2 ▸ hf hm⟩
  simp [findData, hnode, hacc, ansOf, he]

example : (findData id (run (init 3) [Op.ins [⟨8, [97]⟩, ⟨8, [98]⟩] [7] 5, Op.adv 4]) [⟨8, [97]⟩, ⟨8, [98]⟩] false true).2
    = some ([⟨8, [97]⟩, ⟨8, [98]⟩], [7]) := by decide

/-- the LRU queue and the map always hold the same names, each once; the reported size is exact -/
theorem cs_size_true (cap : Nat) (ops : List Op) :
    let s := run (init cap) ops
    s.nCs = s.cs.length ∧ s.queue.length = s.cs.length := by
  intro s
  have h : Inv s := reachable_inv cap ops
  exact ⟨h.ncs, h.qlen⟩

end Ndn.C07
