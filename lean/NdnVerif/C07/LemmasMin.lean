/-
  Tree minimality across Content-Store insertions/evictions when the tree is shared with a PIT
  (`P` = names holding PIT entries, recognised by `pit`).  Used by C08.
-/
import NdnVerif.C07.LemmasInv
import NdnVerif.C07.LemmasPrune
namespace Ndn.C07

theorem eraseCs_minimal (pit : Name → Bool) (P : List Name) (hp : ∀ m, pit m = true ↔ m ∈ P)
    {v : Name} {q : List Name} {s : St} (h : InvQ (v :: q) s) (hm : Minimal s.nodes (s.cs.keys ++ P)) :
    Minimal (eraseCs pit s v).nodes ((eraseCs pit s v).cs.keys ++ P) := by
  have hv : v ∈ s.cs.keys := (h.qmem v).mp List.mem_cons_self
  simp only [eraseCs, has_iff.mpr hv, ↓reduceIte]
  refine prune_minimal' hm (h.reach v hv) (fun m hm' => ?_) (fun m hm' => ?_) fun m _ => ?_
  · rcases List.mem_append.mp hm' with h1 | h1
    · exact (Decidable.em (m = v)).elim Or.inr fun e => Or.inl (List.mem_append_left _ (mem_keys_del.mpr ⟨h1, e⟩))
    · exact Or.inl (List.mem_append_right _ h1)
  · rcases List.mem_append.mp hm' with h1 | h1
    · exact List.mem_append_left _ (mem_keys_del.mp h1).1
    · exact List.mem_append_right _ h1
  · rw [Bool.or_eq_true, has_iff, hp m, List.mem_append]

theorem fold_eraseCs_minimal (pit : Name → Bool) (P : List Name) (hp : ∀ m, pit m = true ↔ m ∈ P)
    (vs rest : List Name) (s : St) (h : InvQ (vs ++ rest) s) (hm : Minimal s.nodes (s.cs.keys ++ P)) :
    Minimal (vs.foldl (eraseCs pit) s).nodes ((vs.foldl (eraseCs pit) s).cs.keys ++ P) := by
  induction vs generalizing s with
  | nil => exact hm
  | cons v t ih => exact ih _ (eraseCs_inv pit h) (eraseCs_minimal pit P hp h hm)

theorem insertData_minimal (pit : Name → Bool) (P : List Name) (hp : ∀ m, pit m = true ↔ m ∈ P)
    {s : St} (h : Inv s) (hm : Minimal s.nodes (s.cs.keys ++ P)) (n : Name) (w : Bytes) (f : Nat) :
    Minimal (insertData pit s n w f).nodes ((insertData pit s n w f).cs.keys ++ P) := by
  cases hn : s.cs.has n with
  | true =>
    rw [insertData_refresh hn]
    show Minimal s.nodes ((s.cs.set n _).keys ++ P)
    rw [keys_set]; exact hm
  | false =>
    rw [insertData_new hn]
    have h1 := pushCs_inv h (has_false_iff.mp hn) w f
    have hmin1 : Minimal (pushCs s n w f).nodes ((pushCs s n w f).cs.keys ++ P) := by
      refine fill_minimal hm n fun m => ?_
      show m ∈ (s.cs ++ [_]).keys ++ P ↔ _
      rw [keys_append, List.append_assoc, List.mem_append, List.mem_append, List.mem_append, List.mem_singleton]
      exact ⟨fun h => h.elim (fun h => Or.inl (Or.inl h)) fun h => h.elim Or.inr fun h => Or.inl (Or.inr h),
        fun h => h.elim (fun h => h.elim Or.inl fun h => Or.inr (Or.inr h)) fun h => Or.inr (Or.inl h)⟩
    exact fold_eraseCs_minimal pit P hp ((pushCs s n w f).queue.take _) ((pushCs s n w f).queue.drop _) _
      (by rw [List.take_append_drop]; exact h1) hmin1

end Ndn.C07
