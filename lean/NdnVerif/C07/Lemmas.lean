/-
  Lists of names (`memb`, `rem`) and the association list `CsMap`.
-/
import NdnVerif.C07.Model
import NdnVerif.C05.Assoc
import NdnVerif.Base.Code
namespace Ndn.C07

theorem memb_iff {n : Name} {l : List Name} : memb n l = true ↔ n ∈ l := by
  simp [memb]

theorem memb_false_iff {n : Name} {l : List Name} : memb n l = false ↔ n ∉ l := by
  rw [← memb_iff]; simp

theorem mem_rem {x n : Name} {l : List Name} : x ∈ rem n l ↔ x ∈ l ∧ x ≠ n := by
  simp [rem]

theorem mem_addNew {n x : Name} {l : List Name} : x ∈ (if memb n l then l else l ++ [n]) ↔ x ∈ l ∨ x = n := by
  split
  · rename_i hm
    exact ⟨Or.inl, fun hx => hx.elim id fun e => e ▸ memb_iff.mp hm⟩
  · rw [List.mem_append, List.mem_singleton]

theorem rem_nodup {n : Name} {l : List Name} (h : l.Nodup) : (rem n l).Nodup := by
  unfold rem; exact h.filter _

theorem rem_of_not_mem {n : Name} {l : List Name} (h : n ∉ l) : rem n l = l := by
  unfold rem; apply List.filter_eq_self.mpr; intro a ha; simp; intro e; exact h (e ▸ ha)

theorem nodup_snoc {α : Type} {l : List α} {a : α} (h : l.Nodup) (ha : a ∉ l) : (l ++ [a]).Nodup :=
  (List.perm_append_singleton a l).nodup_iff.mpr (List.nodup_cons.mpr ⟨ha, h⟩)

theorem nodup_addNew {n : Name} {l : List Name} (h : l.Nodup) : (if memb n l then l else l ++ [n]).Nodup := by
  split
  · exact h
  · rename_i hm; exact nodup_snoc h fun hn => hm (memb_iff.mpr hn)

theorem touch_nodup {n : Name} {q : List Name} (hq : q.Nodup) : (rem n q ++ [n]).Nodup :=
  nodup_snoc (rem_nodup hq) fun h => (mem_rem.mp h).2 rfl

theorem mem_touch {n x : Name} {q : List Name} (hn : n ∈ q) : x ∈ rem n q ++ [n] ↔ x ∈ q := by
  rw [List.mem_append, mem_rem, List.mem_singleton]
  exact ⟨fun h => h.elim (fun h => h.1) fun e => e ▸ hn, fun h => (Decidable.em (x = n)).elim Or.inr fun e => Or.inl ⟨h, e⟩⟩

theorem rem_length {n : Name} {l : List Name} (hn : l.Nodup) (hm : n ∈ l) : (rem n l).length + 1 = l.length :=
  length_filter_one hn hm fun x _ => by rw [decide_eq_false_iff_not, Decidable.not_not]

theorem keys_cons (k : Name) (e : Entry) (t : CsMap) : CsMap.keys ((k, e) :: t) = k :: CsMap.keys t := rfl

/-! `CsMap.get?` / `del` are `afind` / `aerase` of C05/Assoc; `set` overwrites an existing key only: `amodify`. -/

theorem get?_eq (m : CsMap) (n : Name) : m.get? n = C05.afind m n :=
  C05.afind_unique (fun _ => rfl) (fun _ _ _ _ => rfl) m n

theorem del_eq (m : CsMap) (n : Name) : m.del n = C05.aerase m n := by
  simp only [CsMap.del, C05.aerase, ne_eq, decide_not]

theorem set_eq (m : CsMap) (n : Name) (e : Entry) : m.set n e = C05.amodify m n fun _ => e := by
  induction m with
  | nil => rfl
  | cons p t ih =>
    obtain ⟨k, v⟩ := p
    rw [CsMap.set, ih, C05.amodify, C05.amodify, C05.afind]
    by_cases hk : k = n
    · rw [if_pos hk, if_pos hk, hk]; exact (if_pos rfl).symm
    · rw [if_neg hk, if_neg hk]
      cases C05.afind t n with
      | none => rfl
      | some w => exact (if_neg hk).symm

theorem has_iff {m : CsMap} {n : Name} : m.has n = true ↔ n ∈ m.keys := by
  have hk := C05.afind_eq_none_iff m n
  rw [CsMap.has, get?_eq]
  cases h : C05.afind m n with
  | none => exact ⟨nofun, fun hm => absurd hm (hk.mp h)⟩
  | some v => exact ⟨fun _ => List.mem_map.mpr ⟨(n, v), C05.afind_some_mem h, rfl⟩, fun _ => rfl⟩

theorem has_false_iff {m : CsMap} {n : Name} : m.has n = false ↔ n ∉ m.keys := by
  rw [← has_iff, Bool.not_eq_true]

theorem get?_some_mem_keys {m : CsMap} {n : Name} {e : Entry} (h : m.get? n = some e) : n ∈ m.keys :=
  has_iff.mp (by rw [CsMap.has, h]; rfl)

theorem mem_keys_get? {m : CsMap} {n : Name} (h : n ∈ m.keys) : ∃ e, m.get? n = some e :=
  Option.isSome_iff_exists.mp (has_iff.mpr h)

theorem keys_set (m : CsMap) (n : Name) (e : Entry) : (m.set n e).keys = m.keys :=
  set_eq m n e ▸ C05.keys_amodify m n _

theorem length_set (m : CsMap) (n : Name) (e : Entry) : (m.set n e).length = m.length := by
  have := congrArg List.length (keys_set m n e)
  rwa [CsMap.keys, CsMap.keys, List.length_map, List.length_map] at this

theorem get?_set (m : CsMap) (n x : Name) (e : Entry) :
    (m.set n e).get? x = if x = n then (m.get? n).map (fun _ => e) else m.get? x := by
  rw [get?_eq, set_eq, get?_eq, get?_eq]; exact C05.afind_amodify' ..

theorem get?_append (m : CsMap) (n x : Name) (e : Entry) :
    (m ++ [(n, e)]).get? x = match m.get? x with | some v => some v | none => if n = x then some e else none := by
  rw [get?_eq, get?_eq, C05.afind_append]; cases C05.afind m x <;> rfl

theorem keys_append (m : CsMap) (n : Name) (e : Entry) : (m ++ [(n, e)]).keys = m.keys ++ [n] :=
  List.map_append

theorem keys_del (m : CsMap) (n : Name) : (m.del n).keys = rem n m.keys := by
  rw [CsMap.del, CsMap.keys, CsMap.keys, rem, List.filter_map]; rfl

theorem mem_keys_del {m : CsMap} {n x : Name} : x ∈ (m.del n).keys ↔ x ∈ m.keys ∧ x ≠ n := by
  rw [keys_del, mem_rem]

theorem get?_del (m : CsMap) (n x : Name) : (m.del n).get? x = if x = n then none else m.get? x := by
  rw [get?_eq, del_eq, get?_eq]; exact C05.afind_aerase' ..

theorem length_del {m : CsMap} {n : Name} (hn : m.keys.Nodup) (hm : n ∈ m.keys) : (m.del n).length + 1 = m.length := by
  have := rem_length hn hm
  rwa [← keys_del, CsMap.keys, CsMap.keys, List.length_map, List.length_map] at this

end Ndn.C07
