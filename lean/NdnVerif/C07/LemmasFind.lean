/-
  The prefix walk.
-/
import NdnVerif.C07.LemmasInv
namespace Ndn.C07

theorem isPrefix_iff {a b : Name} : isPrefix a b = true ↔ a <+: b := by
  rw [isPrefix, decide_eq_true_iff, List.prefix_iff_eq_take]
  exact eq_comm

theorem walk_spec {ord : List Name → List Name} (ho : OrdOk ord) (s : St) (mbf : Bool) :
    ∀ (f : Nat) (p q : Name), walk ord s mbf f p = some q →
      acceptable s mbf q = true ∧ p <+: q ∧ q ∈ walkAll s mbf f p := by
  intro f
  induction f with
  | zero =>
    intro p q h
    rw [walk] at h
    rw [walkAll]
    split at h
    · rename_i ha
      cases h
      exact ⟨ha, List.prefix_refl _, by rw [if_pos ha]; exact List.mem_singleton.mpr rfl⟩
    · cases h
  | succ f ih =>
    intro p q h
    rw [walk] at h
    rw [walkAll]
    split at h
    · rename_i ha
      cases h
      exact ⟨ha, List.prefix_refl _, by rw [if_pos ha]; exact List.mem_singleton.mpr rfl⟩
    · rename_i hna
      obtain ⟨l1, c, l2, hl, hc, _⟩ := List.findSome?_eq_some_iff.mp h
      have hmem : c ∈ children s.nodes p := ho _ _ (hl ▸ List.mem_append_right _ List.mem_cons_self)
      obtain ⟨ha, hpre, hall⟩ := ih c q hc
      have hpc : p <+: c := (isChild_iff.mp (mem_children.mp hmem).2).2 ▸ List.dropLast_prefix c
      exact ⟨ha, hpc.trans hpre,
        by rw [if_neg hna]; exact List.mem_flatMap.mpr ⟨c, hmem, hall⟩⟩

/-- the driver accepts any member of `walkAll` as the answer of a prefix lookup -/
theorem walk_mem_walkAll {ord : List Name → List Name} (ho : OrdOk ord) (s : St) (mbf : Bool) :
    ∀ (f : Nat) (p q : Name), walk ord s mbf f p = some q → q ∈ walkAll s mbf f p :=
  fun f p q h => (walk_spec ho s mbf f p q h).2.2

end Ndn.C07
