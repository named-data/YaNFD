/-
  C10 — property theorems.  Helper lemmas: `LemmasTx`, `LemmasRx`, `LemmasWire`, `LemmasLink`.

  `sendPacket cfg st p` is the model of fw/face/ndnlp-link-service.go `sendPacket` (frames handed to
  `transport.sendFrame`, in order); `rxRun true validL3 store frames` the model of the receiving
  link service (`handleIncomingFrame` / `reassemblePacket`) over a sequence of arriving frames.
  Quantification is over ALL configurations (every flag combination), ALL 64-bit sequence
  counters, ALL packets within the protocol bounds — no enumeration.
-/
import NdnVerif.C10.LemmasLink
import NdnVerif.C11.Props
namespace Ndn.C10

/-- the working tree's TLV type numbers are the NDNLPv2 ones -/
theorem gen_types_agree :
    Ndn.Gen.C10.ttLpPacket = ttLpPacket ∧ Ndn.Gen.C10.ttFragment = ttFragment ∧
    Ndn.Gen.C10.ttSequence = ttSequence ∧ Ndn.Gen.C10.ttFragIndex = ttFragIndex ∧
    Ndn.Gen.C10.ttFragCount = ttFragCount ∧ Ndn.Gen.C10.ttPitToken = ttPitToken ∧
    Ndn.Gen.C10.ttIncomingFaceId = ttIncomingFaceId ∧ Ndn.Gen.C10.ttCongestionMark = ttCongestionMark ∧
    Ndn.Gen.C10.maxNDNPacketSize = specMaxPkt := by
  decide

/-- Every frame is within the MTU as long as header and packet together stay within 2^16 + 3 bytes (so that FragIndex,
    FragCount and the two enclosing lengths have the sizes `overheadOf` counts): no bound on the token, any MTU. -/
theorem frame_le_mtu_of_size (cfg : TxCfg) (st : TxSt) (p : OutPkt)
    (hsz : overheadOf (hdrOf cfg st p) + p.wire.length ≤ 65539) :
    ∀ f ∈ (sendPacketF cfg st p).2.1, (encFrame f).length ≤ cfg.mtu := by
  intro f hf
  rcases sendPacketF_frames cfg st p with ⟨h, hfit⟩ | h | ⟨h, hov⟩ <;> rw [h] at hf
  · cases List.mem_singleton.mp hf; exact hfit
  · cases hf
  · obtain ⟨k, hk, rfl⟩ := mem_frames.mp hf
    -- fragment k has at most `payloadRoom` bytes and at most |wire|, and there are at most |wire| + 1 ≤ 65535 fragments
    have hmem := part_mem hk
    have hcount : (chunks (payloadRoom cfg st p) p.wire).length ≤ 65535 :=
      Nat.le_trans (chunks_length_le_succ _ p.wire) (by have := overheadOf_ge (hdrOf cfg st p); omega)
    have hple : _ ≤ cfg.mtu - _ := chunks_mem_length_le (payloadRoom cfg st p)
      (Nat.sub_pos_of_lt (Nat.lt_of_not_le hov)) p.wire _ hmem
    have h : (encFrame ((msgOf cfg st p).frameAt k)).length ≤ _ :=
      encFrame_length_le ((msgOf cfg st p).frameAt k)
        (fun _ hv => Option.some.inj hv ▸ Nat.le_trans (Nat.le_of_lt hk) hcount) (fun _ hv => Option.some.inj hv ▸ hcount)
        (Nat.le_trans (Nat.add_le_add_left (chunks_mem_length_le_length _ p.wire _ hmem) _) hsz)
    exact Nat.le_trans h (Nat.add_le_of_le_sub' (Nat.le_of_lt (Nat.lt_of_not_le hov)) hple)

/-- **C10, every frame fits the MTU.**  For every configuration (fragmentation / incoming-face
    indication / congestion marking on or off, any threshold), every MTU, every sender state (any
    64-bit sequence counter), every packet of at most 8800 bytes with a PIT token of at most 32
    bytes, any congestion mark, any incoming face id, congested or not: every frame handed to the
    transport is at most MTU bytes long.  (Holds for every MTU; below the header size nothing is
    sent — for MTU ≥ 128 see `sent_when_fragmentation_enabled`.) -/
theorem frame_le_mtu (cfg : TxCfg) (st : TxSt) (p : OutPkt)
    (hsize : p.wire.length ≤ specMaxPkt) (htok : p.token.length ≤ specMaxToken) :
    ∀ fr ∈ (sendPacket cfg st p).2, fr.length ≤ cfg.mtu := by
  intro fr hfr
  obtain ⟨f, hf, rfl⟩ := List.mem_map.mp hfr
  -- 84 + 8800 ≤ 65539
  exact frame_le_mtu_of_size cfg st p
    (Nat.le_trans (Nat.add_le_add (overheadOf_le (h := hdrOf cfg st p) htok) hsize) (by decide)) f hf

example : ∃ fr ∈ (sendPacket { mtu := 128 } {} { wire := [6, 2, 7, 0] }).2, fr.length ≤ 128 :=
  ⟨encFrame { frag := [6, 2, 7, 0] }, by
    rw [sendPacket, sendPacketF_single _ _ _ (by decide)]; simp [wholeOf, hdrOf, headerOf, congestionStep], by decide⟩

/-- **C10, a packet that fits is one frame.**  If the packet wrapped into ONE LpPacket with the
    header fields it has to carry (`Sent.whole`: token, mark, incoming face id, Fragment) is at
    most MTU bytes long, then exactly that one frame is sent — whatever the flags, also with
    fragmentation disabled — and the sequence counter is not touched. -/
theorem fits_single_frame (cfg : TxCfg) (st : TxSt) (p : OutPkt)
    (hfit : (sentOf cfg st p).fitsWhole cfg.mtu = true) :
    (sendPacket cfg st p).2 = [encFrame (sentOf cfg st p).whole] ∧
    (sendPacket cfg st p).1.nextSeq = st.nextSeq := by
  have h := (fitsWhole_iff cfg st p).mp hfit
  rw [sendPacket, sendPacketF_single cfg st p h, wholeOf_eq]
  exact ⟨rfl, rfl⟩

example : (sendPacket { mtu := 128 } {} { wire := [6, 2, 7, 0] }).2 = [encFrame { frag := [6, 2, 7, 0] }] :=
  (fits_single_frame { mtu := 128 } {} { wire := [6, 2, 7, 0] } (by decide)).1

/-- **C10, fragmentation disabled: an oversize packet is dropped, never truncated.**  With
    `IsFragmentationEnabled = false` a packet whose single frame would exceed the MTU produces no
    frame at all (and by `fits_single_frame` one that fits is sent whole): no partial frame ever
    leaves the link service. -/
theorem nofrag_oversize_dropped (cfg : TxCfg) (st : TxSt) (p : OutPkt)
    (hnofrag : cfg.fragEnabled = false) (hover : (sentOf cfg st p).fitsWhole cfg.mtu = false) :
    (sendPacket cfg st p).2 = [] := by
  have h : ¬ (encFrame (wholeOf cfg st p)).length ≤ cfg.mtu := by
    intro hh; rw [(fitsWhole_iff cfg st p).mpr hh] at hover; simp at hover
  rw [sendPacket, sendPacketF_nofrag cfg st p h hnofrag]
  rfl

example : (sendPacket { mtu := 8, fragEnabled := false } {} { wire := [6, 2, 7, 0, 1] }).2 = [] :=
  nofrag_oversize_dropped _ _ _ rfl (by decide)

/-- **C10, nothing is ever truncated (any configuration).**  Whatever is sent carries the whole
    packet: the Fragment payloads of the emitted LpPackets, in order, concatenate to the packet's
    bytes — or nothing is sent at all. -/
theorem never_truncated (cfg : TxCfg) (st : TxSt) (p : OutPkt) :
    (sendPacketF cfg st p).2.1 = [] ∨
    ((sendPacketF cfg st p).2.1.map (·.frag)).flatten = p.wire := by
  rcases sendPacketF_frames cfg st p with ⟨h, _⟩ | h | ⟨h, _⟩
  · right; rw [h]; exact List.append_nil _
  · left; exact h
  · right; rw [h, FMsg.frames_frags]; exact chunks_flatten _ _

example : ((sendPacketF { mtu := 128 } {} { wire := [6, 2, 7, 0] }).2.1.map (·.frag)).flatten = [6, 2, 7, 0] := by
  rw [sendPacketF_single _ _ _ (by decide)]; rfl

/-- **C10, with fragmentation enabled and MTU ≥ 128 every admissible packet is sent**: as one frame
    when it fits, otherwise as at least two numbered fragments (the header overhead never exceeds
    84 bytes, so at least 44 payload bytes fit into every fragment). -/
theorem sent_when_fragmentation_enabled (cfg : TxCfg) (st : TxSt) (p : OutPkt)
    (hmtu : specMinMtu ≤ cfg.mtu) (hfrag : cfg.fragEnabled = true)
    (hsize : p.wire.length ≤ specMaxPkt) (htok : p.token.length ≤ specMaxToken) :
    ((sentOf cfg st p).fitsWhole cfg.mtu = true ∧ (sendPacket cfg st p).2.length = 1) ∨
    ((sentOf cfg st p).fitsWhole cfg.mtu = false ∧ 2 ≤ (sendPacket cfg st p).2.length) := by
  by_cases hfit : (sentOf cfg st p).fitsWhole cfg.mtu = true
  · left; exact ⟨hfit, by rw [(fits_single_frame cfg st p hfit).1]; rfl⟩
  · right
    refine ⟨Bool.not_eq_true _ ▸ hfit, ?_⟩
    have h : ¬ (encFrame (wholeOf cfg st p)).length ≤ cfg.mtu := fun hh => hfit ((fitsWhole_iff cfg st p).mpr hh)
    have hov := not_tiny cfg st p hmtu htok
    -- the packet is longer than one fragment payload, otherwise it would have fitted
    have hbig := room_lt_wire cfg st p hsize htok h hov
    show 2 ≤ ((sendPacketF cfg st p).2.1.map encFrame).length
    rw [List.length_map, sendPacketF_frag_frames cfg st p h hfrag hov, FMsg.frames_length]
    exact chunks_length_ge2 _ (Nat.le_trans (by decide) (payloadRoom_ge cfg st p hmtu htok)) _ hbig

example (w : Bytes) (hw : w.length = 300) : 2 ≤ (sendPacket { mtu := 128 } {} { wire := w }).2.length := by
  rcases sent_when_fragmentation_enabled { mtu := 128 } {} { wire := w }
    (by decide) rfl (by simp [specMaxPkt, hw]) (by simp [specMaxToken]) with ⟨h, _⟩ | ⟨_, h⟩
  · exfalso
    rw [fitsWhole_iff, encFrame_length] at h
    simp [innerLen, wholeOf, hdrOf, headerOf, congestionStep, tokLen, hw] at h
    omega
  · exact h

/-- **C10, reassembly under any interleaving (decoded-frame level).**
    `msgs`: ANY number of fragmented messages in flight — each with 2..maxFragments non-empty
    fragments numbered base+i (mod 2^64), FragIndex i, FragCount n, all frames carrying the message's
    token and mark — whose base sequence numbers are pairwise different (disjoint sequence ranges);
    `singles`: any unfragmented frames.  `arrivals`: ANY permutation of all these frames (any order,
    any interleaving of the messages).  Then the receiving link service, starting with an empty
    store, delivers — as a multiset — exactly one packet per message: the concatenation of its
    fragments in index order, with the message's PIT token and congestion mark, plus the payload
    of every unfragmented frame; nothing else is delivered, nothing is delivered twice, and the
    partial message store is empty again afterwards.  (Induction over the arrival sequence with the
    store invariant `StoreInv`; sequence arithmetic modulo 2^64.) -/
theorem reassemble_any_interleaving_frames (msgs : List FMsg) (singles arrivals : List Frame)
    (validL3 : Bytes → Bool)
    (hwf : ∀ m ∈ msgs, m.WF) (hdisjoint : (msgs.map FMsg.base).Nodup)
    (hvalid : ∀ m ∈ msgs, validL3 m.parts.flatten = true)
    (hsingles : ∀ s ∈ singles, SingleOk validL3 s)
    (harr : arrivals.Perm (msgs.flatMap FMsg.frames ++ singles)) :
    (deliveries (rxRunF true validL3 [] arrivals).2).Perm
        (msgs.map FMsg.delivery ++ singles.map singleDelivery) ∧
    ∀ b, (rxRunF true validL3 [] arrivals).1.find? b = none := by
  have hsingle_notfrag : ∀ s ∈ singles, isFragFrame s = false := fun s hs => by
    rw [isFragFrame, (hsingles s hs).1]; rfl
  have hfragall : ∀ f ∈ msgs.flatMap FMsg.frames, isFragFrame f = true := by
    intro f hf
    obtain ⟨m, _, hfm⟩ := List.mem_flatMap.mp hf
    obtain ⟨k, _, rfl⟩ := mem_frames.mp hfm
    rfl
  have hA : ∀ f ∈ arrivals, Arrival msgs validL3 f := fun f hf =>
    (List.mem_append.mp (harr.mem_iff.mp hf)).imp
      (fun h => (List.mem_flatMap.mp h).imp fun _ h => h) (hsingles f)
  -- every fragment arrives exactly once
  have hN : (arrivals.filter isFragFrame).Nodup := by
    refine (harr.filter isFragFrame).symm.nodup ?_
    rw [List.filter_append, List.filter_eq_self.mpr hfragall,
      List.filter_eq_nil_iff.mpr fun s hs => by rw [hsingle_notfrag s hs]; exact Bool.false_ne_true,
      List.append_nil]
    exact allFrames_nodup msgs hwf hdisjoint
  have hS : (arrivals.filter fun f => !isFragFrame f).Perm singles := by
    refine (harr.filter _).trans ?_
    rw [List.filter_append, List.filter_eq_nil_iff.mpr fun f hf => by rw [hfragall f hf]; exact Bool.false_ne_true,
      List.filter_eq_self.mpr fun s hs => by rw [hsingle_notfrag s hs]; rfl, List.nil_append]
  have hinit : StoreInv msgs [] [] := by
    refine ⟨fun m _ => (if_neg fun h => ?_).symm, fun _ _ => rfl⟩
    obtain ⟨k, _, hk⟩ := (started_iff [] m).mp h.1
    cases hk
  have hD0 : msgs.filter (done []) = [] := List.filter_eq_nil_iff.mpr fun m hm hd => by
    have := (done_iff [] m).mp hd 0 (Nat.lt_of_lt_of_le (by decide) (hwf m hm).two_le)
    cases this
  have hall : ∀ m ∈ msgs, done arrivals.reverse m = true := fun m hm => (done_iff _ m).mpr fun k hk =>
    List.mem_reverse.mpr (harr.mem_iff.mpr (List.mem_append_left _
      (List.mem_flatMap.mpr ⟨m, hm, mem_frames.mpr ⟨k, hk, rfl⟩⟩)))
  obtain ⟨hI, hP⟩ := rxRunF_inv msgs hwf hdisjoint validL3 hvalid arrivals [] [] hinit hA hN
    (fun _ _ _ => List.not_mem_nil)
  rw [hD0, List.map_nil, List.nil_append, List.append_nil, List.filter_eq_self.mpr hall] at hP
  rw [List.append_nil] at hI
  refine ⟨hP.trans ((hS.map singleDelivery).append_left _), fun b => ?_⟩
  by_cases hb : ∃ m ∈ msgs, m.base = b
  · obtain ⟨m, hm, rfl⟩ := hb
    have := hI.1 m hm
    rwa [hall m hm, if_neg (by simp)] at this
  · exact hI.2 b fun m hm h => hb ⟨m, hm, h⟩

/-- non-vacuity: two messages in flight — a 2-fragment one whose numbering wraps around 2^64 and a
    3-fragment one carrying a token — plus an unfragmented frame, arriving in reverse order -/
example :
    let m1 : FMsg := ⟨{}, 18446744073709551615, [[1], [2]]⟩
    let m2 : FMsg := ⟨{ token := [9] }, 5, [[3], [4], [5]]⟩
    let s : Frame := { frag := [7] }
    (deliveries (rxRunF true (fun _ => true) []
        ([m1, m2].flatMap FMsg.frames ++ [s]).reverse).2).Perm
      ([m1, m2].map FMsg.delivery ++ [s].map singleDelivery) := by
  intro m1 m2 s
  refine (reassemble_any_interleaving_frames [m1, m2] [s] _ (fun _ => true) ?_ (by decide) (fun _ _ => rfl)
    ?_ (List.reverse_perm _)).1
  · intro m hm
    simp at hm
    rcases hm with rfl | rfl
    · exact ⟨by decide, by decide, by decide, by decide⟩
    · exact ⟨by decide, by decide, by decide, by decide⟩
  · intro x hx
    simp at hx; subst hx
    exact ⟨rfl, rfl, rfl, by decide, rfl⟩

/-- **C10, end to end: fragmentation and reassembly reproduce every packet exactly.**
    ANY admissible packet `p` (1..8800 bytes, token ≤ 32 bytes, any mark / incoming face id), ANY
    sender configuration with fragmentation enabled and MTU ≥ 128, ANY sender state (64-bit sequence
    counter, also right below 2^64 where the numbering wraps).  The REAL frames are the encoded
    bytes `encFrame`.  At the receiver they arrive in ANY order (`arrF`: any permutation),
    interleaved with the frames of ANY number of other messages in flight whose sequence ranges
    start elsewhere (`others`, base sequence numbers pairwise different and different from p's)
    and with any unfragmented frames (`singles`).  Then the receiving link service delivers — as a
    multiset — `p`'s original bytes exactly once, with its PIT token and the congestion mark
    attached by the sender, and exactly one packet for every other message / single frame; and its
    partial message store is empty afterwards. -/
theorem reassemble_any_interleaving (cfg : TxCfg) (st : TxSt) (p : OutPkt) (validL3 : Bytes → Bool)
    (hp : PktOk p) (hne : 1 ≤ p.wire.length) (hmtu : specMinMtu ≤ cfg.mtu) (hfrag : cfg.fragEnabled = true)
    (hvp : validL3 p.wire = true)
    (others : List FMsg) (singles : List Frame)
    (hothers : ∀ m ∈ others, m.WF ∧ validL3 m.parts.flatten = true ∧ ∀ f ∈ m.frames, f.Encodable)
    (hsingles : ∀ s ∈ singles, SingleOk validL3 s ∧ s.Encodable)
    (hdisjoint : ((msgOf cfg st p :: others).map FMsg.base).Nodup)
    (arrF : List Frame)
    (harr : arrF.Perm ((sendPacketF cfg st p).2.1 ++ (others.flatMap FMsg.frames ++ singles))) :
    (deliveries (rxRun true validL3 [] (arrF.map encFrame)).2).Perm
        (⟨p.wire, p.token, (congestionStep cfg st p).1⟩ ::
          (others.map FMsg.delivery ++ singles.map singleDelivery)) ∧
    ∀ b, (rxRun true validL3 [] (arrF.map encFrame)).1.find? b = none := by
  -- everything that arrives was written by `encFrame`, so the receiver works on the decoded frames
  rw [rxRun_map_encFrame true validL3 arrF [] fun f hf =>
    (List.mem_append.mp (harr.mem_iff.mp hf)).elim (sendPacketF_encodable cfg st p hp f) fun h =>
      (List.mem_append.mp h).elim
        (fun h => let ⟨m, hm, hfm⟩ := List.mem_flatMap.mp h; (hothers m hm).2.2 f hfm) fun h => (hsingles f h).2]
  by_cases hfit : (encFrame (wholeOf cfg st p)).length ≤ cfg.mtu
  · rw [sendPacketF_single cfg st p hfit, List.singleton_append] at harr
    obtain ⟨hP, hS⟩ := reassemble_any_interleaving_frames others (wholeOf cfg st p :: singles) arrF validL3
      (fun m hm => (hothers m hm).1) (List.nodup_cons.mp hdisjoint).2 (fun m hm => (hothers m hm).2.1)
      (fun s hs => (List.mem_cons.mp hs).elim (fun e => e ▸ ⟨rfl, rfl, rfl, List.ne_nil_of_length_pos hne, hvp⟩) fun h => (hsingles s h).1)
      (harr.trans List.perm_middle.symm)
    exact ⟨hP.trans List.perm_middle, hS⟩
  · rw [sendPacketF_frag_frames cfg st p hfit hfrag (not_tiny cfg st p hmtu hp.tok), ← List.append_assoc,
      ← List.flatMap_cons] at harr
    obtain ⟨hP, hS⟩ := reassemble_any_interleaving_frames (msgOf cfg st p :: others) singles arrF validL3
      (fun m hm => (List.mem_cons.mp hm).elim (fun e => e ▸ msgOf_wf cfg st p hp hmtu hfit) fun h => (hothers m h).1) hdisjoint
      (fun m hm => (List.mem_cons.mp hm).elim
        (fun e => e ▸ (show validL3 (chunks _ p.wire).flatten = true from chunks_flatten _ _ ▸ hvp))
        fun h => (hothers m h).2.1)
      (fun s hs => (hsingles s hs).1) harr
    rw [List.map_cons, msgOf_delivery] at hP
    exact ⟨hP, hS⟩

/-- non-vacuity: a 300-byte packet on an MTU-128 face with the sequence counter at 2^64-1 (the
    numbering wraps), no other traffic, fragments arriving in reverse order -/
example (w : Bytes) (hw : w.length = 300) (validL3 : Bytes → Bool) (hv : validL3 w = true) :
    (deliveries (rxRun true validL3 []
        ((sendPacketF { mtu := 128 } { nextSeq := 18446744073709551615 } { wire := w }).2.1.reverse.map encFrame)).2).Perm
      [⟨w, [], none⟩] := by
  have := (reassemble_any_interleaving { mtu := 128 } { nextSeq := 18446744073709551615 } { wire := w } validL3
    ⟨by simp [specMaxPkt, hw], by simp [specMaxToken], by simp, by simp⟩ (by simp [hw]) (by decide) rfl hv
    [] [] (fun _ h => by simp at h) (fun _ h => by simp at h) (by simp)
    (sendPacketF { mtu := 128 } { nextSeq := 18446744073709551615 } { wire := w }).2.1.reverse
    (by simp)).1
  simpa [congestionStep] using this

/-- **C10, "once" per destination thread.**  A delivered packet is queued at most once to any
    forwarding thread: an Interest and a Data with a PIT token go to one thread, a token-less Data to
    each prefix thread once (`hp` is the duplicate-free list of the threads of its prefixes). -/
theorem dispatch_once_per_thread (n : Nat) (wire token : Bytes) (hn : Nat) (hp : List Nat)
    (h : hp.Nodup) : (dispatchThreads n wire token hn hp).Nodup := by
  have ite_nodup : ∀ (c : Prop) [Decidable c] {a b : List Nat}, a.Nodup → b.Nodup → (if c then a else b).Nodup :=
    fun c _ _ _ ha hb => by split <;> assumption
  exact ite_nodup _ (List.pairwise_singleton _ _)
    (ite_nodup _ (ite_nodup _ (List.pairwise_singleton _ _) List.nodup_nil) h)

example : dispatchThreads 4 [6, 2, 7, 0] [] 1 [0, 2] = [0, 2] := by decide
/-- an Interest whose outer type is written in the three-byte form (`fd 00 05`) is an Interest: the thread of its name -/
example : dispatchThreads 4 [0xfd, 0, 5, 2, 7, 0] [] 1 [0, 2] = [1] := by decide

/-- **C10, the sequence ranges of one sender's packets are disjoint.**  Packets sent one after the
    other by one link service (any start value of the 64-bit counter, wrap-around included) get
    pairwise different base sequence numbers as long as fewer than 2^64 fragment frames are
    produced in total — which discharges the `hdisjoint` hypothesis of
    `reassemble_any_interleaving` for traffic coming from one sender (up to three concurrent
    messages in the property's quantifier; here: any number). -/
theorem consecutive_sends_disjoint (cfg : TxCfg) (hmtu : specMinMtu ≤ cfg.mtu) (hfrag : cfg.fragEnabled = true)
    (ps : List OutPkt) (st : TxSt) (hok : ∀ p ∈ ps, PktOk p) (htot : fragTotal cfg st ps < two64) :
    ((msgsOfAll cfg st ps).map FMsg.base).Nodup := by
  induction ps generalizing st with
  | nil => exact List.nodup_nil
  | cons p ps ih =>
    have hp := hok p (List.mem_cons_self ..)
    have hrest : ∀ q ∈ ps, PktOk q := fun q hq => hok q (List.mem_cons_of_mem _ hq)
    rw [fragTotal] at htot
    rw [msgsOfAll]
    by_cases hfit : (encFrame (wholeOf cfg st p)).length ≤ cfg.mtu
    · rw [if_pos hfit]
      exact ih _ hrest (Nat.lt_of_le_of_lt (Nat.le_add_left ..) htot)
    · rw [if_neg hfit] at htot ⊢
      rw [List.singleton_append, List.map_cons, List.nodup_cons]
      refine ⟨?_, ih _ hrest (Nat.lt_of_le_of_lt (Nat.le_add_left ..) htot)⟩
      -- a later message starts `parts.length + d` frames after this one, which is neither 0 nor a multiple of 2^64
      intro hmem
      obtain ⟨m, hm, hb⟩ := List.mem_map.mp hmem
      obtain ⟨d, hd1, hd2⟩ := msgsOfAll_base cfg hmtu hfrag ps _ hrest m hm
      rw [nextSeq_advance cfg hmtu hfrag st p hp, if_neg hfit] at hd1
      have h2 := (msgOf_wf cfg st p hp hmtu hfit).two_le
      have hpos : 2 ≤ (msgOf cfg st p).parts.length + d := Nat.le_trans h2 (Nat.le_add_right ..)
      have hlt : (msgOf cfg st p).parts.length + d < two64 :=
        Nat.lt_of_le_of_lt (Nat.add_le_add_left (Nat.le_trans (Nat.le_add_right ..) hd2) _) htot
      have := add_mod_inj (a := 0) st.nextSeq (by decide) hlt
        (by rw [Nat.zero_add, Nat.add_comm _ st.nextSeq, ← hd1, hb]; rfl)
      exact absurd (this ▸ hpos : 2 ≤ 0) (by decide)

example : ((msgsOfAll { mtu := 128 } { nextSeq := 18446744073709551615 } []).map FMsg.base).Nodup :=
  consecutive_sends_disjoint { mtu := 128 } (by decide) rfl [] _ (fun _ h => by simp at h) (by decide)

/-! ### The link service behind a stream face (the leg `rxs` of the correspondence) -/

/-- **Every frame the link service sends is a block a stream face can carry.**  For every
    configuration with an MTU of at most the maximum packet size, every sender state and every
    packet within the protocol bounds, the frames handed to the transport are admissible blocks in
    the sense of C11: well-formed TLVs (an LpPacket in shortest form) of at most 8800 bytes. -/
theorem sent_frames_are_blocks (cfg : TxCfg) (st : TxSt) (p : OutPkt)
    (hsize : p.wire.length ≤ specMaxPkt) (htok : p.token.length ≤ specMaxToken)
    (hmtu : cfg.mtu ≤ specMaxPkt) :
    Ndn.C11.Admissible (sendPacket cfg st p).2 := by
  intro fr hfr
  have hle := frame_le_mtu cfg st p hsize htok fr hfr
  have h88 : fr.length ≤ 8800 := Nat.le_trans hle hmtu
  refine ⟨?_, by simpa [Ndn.C11.specMaxPkt] using h88⟩
  simp only [sendPacket, List.mem_map] at hfr
  obtain ⟨f, _, rfl⟩ := hfr
  exact Ndn.C11.wellFormed_of_shortest ⟨ttLpPacket, encInner f, by decide, rfl⟩ (Nat.lt_of_le_of_lt h88 (by decide))

/-- **Fragments survive a stream face.**  The frames of ANY sequence of sends (each with its own
    configuration, counter state and packet), concatenated on a TCP / Unix stream and read back in
    ANY chunking — one byte at a time, reads ending inside a type or length field, hundreds of
    kilobytes without a read ever ending on a frame boundary — come out of `readTlvStream` as exactly
    those frames, in order, and the receive loop ends with EOF (no error, no stall). -/
theorem fragments_survive_a_stream_face (sends : List (TxCfg × TxSt × OutPkt))
    (hb : ∀ s ∈ sends, s.2.2.wire.length ≤ specMaxPkt ∧ s.2.2.token.length ≤ specMaxToken ∧ s.1.mtu ≤ specMaxPkt)
    (chunks : List Bytes)
    (hcut : chunks.flatten = (sends.flatMap fun s => (sendPacket s.1 s.2.1 s.2.2).2).flatten) :
    Ndn.C11.run Ndn.C11.init chunks =
      (sends.flatMap fun s => (sendPacket s.1 s.2.1 s.2.2).2, Ndn.C11.Outcome.eof) := by
  apply Ndn.C11.stream_refines_blocks _ _ _ hcut
  intro fr hfr
  simp only [List.mem_flatMap] at hfr
  obtain ⟨s, hs, hfr⟩ := hfr
  obtain ⟨h1, h2, h3⟩ := hb s hs
  exact sent_frames_are_blocks s.1 s.2.1 s.2.2 h1 h2 h3 fr hfr

/-- … and therefore the receiving link service behind a stream face sees what it would see if every
    frame were handed to it directly: reassembly over the framed stream is reassembly over the
    frames (with `reassemble_any_interleaving`: every packet exactly once, byte-identical). -/
theorem stream_face_then_reassembly (sends : List (TxCfg × TxSt × OutPkt))
    (hb : ∀ s ∈ sends, s.2.2.wire.length ≤ specMaxPkt ∧ s.2.2.token.length ≤ specMaxToken ∧ s.1.mtu ≤ specMaxPkt)
    (chunks : List Bytes)
    (hcut : chunks.flatten = (sends.flatMap fun s => (sendPacket s.1 s.2.1 s.2.2).2).flatten)
    (reasm : Bool) (validL3 : Bytes → Bool) (store : Store) :
    rxRun reasm validL3 store (Ndn.C11.run Ndn.C11.init chunks).1 =
      rxRun reasm validL3 store (sends.flatMap fun s => (sendPacket s.1 s.2.1 s.2.2).2) := by
  rw [fragments_survive_a_stream_face sends hb chunks hcut]

/-- non-vacuity: one send at MTU 128, its frame cut into three reads -/
example : ∃ fr, (sendPacket { mtu := 128 } {} { wire := [6, 2, 7, 0] }).2 = [fr] ∧
    Ndn.C11.run Ndn.C11.init [fr.take 1, (fr.drop 1).take 2, fr.drop 3] = ([fr], Ndn.C11.Outcome.eof) := by
  refine ⟨encFrame { frag := [6, 2, 7, 0] },
    (fits_single_frame { mtu := 128 } {} { wire := [6, 2, 7, 0] } (by decide)).1, ?_⟩
  exact (fragments_survive_a_stream_face
    [(({ mtu := 128 } : TxCfg), ({} : TxSt), ({ wire := [6, 2, 7, 0] } : OutPkt))] (by decide) _
    (by decide)).trans (by decide)

end Ndn.C10
