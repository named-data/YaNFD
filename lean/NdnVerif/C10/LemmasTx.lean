/-
  Send side.  The size argument: `encFrame_length` is the exact length of an encoded frame, `overheadOf_eq` evaluates the
  regenerated constants, `encFrame_length_le` compares the two.  `sentOf` is the `Sent` at which the clauses of the Spec
  are read for a call of `sendPacket`; `sendPacketF_single/_nofrag/_tiny/_frag` are its four branches.
-/
import NdnVerif.C10.Model
import NdnVerif.C10.Spec
namespace Ndn.C10

theorem natLen_pos (x : Nat) : 1 ≤ natLen x := Ndn.natLen_pos x

theorem chunks_flatten (e : Nat) (w : Bytes) : (chunks e w).flatten = w := by
  fun_induction chunks e w with
  | case1 w h => exact List.flatten_singleton ..
  | case2 w h ih => rw [List.flatten_cons, ih, List.take_append_drop]

theorem chunks_mem_length_le (e : Nat) (he : 1 ≤ e) (w : Bytes) : ∀ p ∈ chunks e w, p.length ≤ e := by
  fun_induction chunks e w with
  | case1 w h => intro p hp; cases List.mem_singleton.mp hp; exact h.resolve_left (Nat.ne_of_gt he)
  | case2 w h ih =>
    intro p hp
    rcases List.mem_cons.mp hp with rfl | hp
    · exact List.length_take_le e w
    · exact ih p hp

theorem chunks_mem_length_le_length (e : Nat) (w : Bytes) : ∀ p ∈ chunks e w, p.length ≤ w.length := by
  fun_induction chunks e w with
  | case1 w h => intro p hp; cases List.mem_singleton.mp hp; exact Nat.le_refl _
  | case2 w h ih =>
    intro p hp
    rcases List.mem_cons.mp hp with rfl | hp
    · exact List.length_take_le' e w
    · exact Nat.le_trans (ih p hp) (List.length_drop ▸ Nat.sub_le ..)

theorem chunks_mem_ne_nil (e : Nat) (w : Bytes) (hw : w ≠ []) : ∀ p ∈ chunks e w, p ≠ [] := by
  fun_induction chunks e w with
  | case1 w h => intro p hp; cases List.mem_singleton.mp hp; exact hw
  | case2 w h ih =>
    intro p hp
    rcases List.mem_cons.mp hp with rfl | hp
    · exact fun h0 => (List.take_eq_nil_iff.mp h0).elim (h ∘ .inl) hw
    · exact ih (fun h0 => h (.inr (List.drop_eq_nil_iff.mp h0))) p hp

theorem chunks_length_le_succ (e : Nat) (w : Bytes) : (chunks e w).length ≤ w.length + 1 := by
  fun_induction chunks e w with
  | case1 w h => exact Nat.le_add_left ..
  | case2 w h ih => rw [List.length_cons]; rw [List.length_drop] at ih; omega

theorem chunks_length_le (e : Nat) (he : 1 ≤ e) : ∀ (n : Nat) (w : Bytes), w.length ≤ n → w ≠ [] →
    (chunks e w).length ≤ w.length := by
  intro n w hn hw
  clear hn
  fun_induction chunks e w with
  | case1 w h => exact List.length_pos_iff.mpr hw
  | case2 w h ih =>
    have := ih fun h0 => h (.inr (List.drop_eq_nil_iff.mp h0))
    rw [List.length_cons]; rw [List.length_drop] at this; omega

theorem chunks_length_pos (e : Nat) (w : Bytes) : 0 < (chunks e w).length := by
  rw [chunks]; split <;> exact Nat.succ_pos _

theorem chunks_length_ge2 (e : Nat) (he : 1 ≤ e) (w : Bytes) (h : e < w.length) :
    2 ≤ (chunks e w).length := by
  rw [chunks, dif_neg (not_or.mpr ⟨Nat.ne_of_gt he, Nat.not_le.mpr h⟩), List.length_cons]
  exact Nat.succ_le_succ (chunks_length_pos ..)

theorem chunks_length_mul (e : Nat) (w : Bytes) : (chunks e w).length * e ≤ w.length + e := by
  fun_induction chunks e w with
  | case1 w h => rw [List.length_singleton, Nat.one_mul]; exact Nat.le_add_left ..
  | case2 w h ih =>
    rw [List.length_drop] at ih
    rw [List.length_cons, Nat.add_mul, Nat.one_mul]; omega

theorem numberFrom_eq_range (h : Frame) (n : Nat) : ∀ (ps : List Bytes) (s i : Nat),
    numberFrom h n s i ps = (List.range ps.length).map fun k =>
      { h with seq := some ((s + k) % two64), idx := some (i + k), cnt := some n, frag := ps.getD k [] } := by
  intro ps
  induction ps with
  | nil => intro s i; rfl
  | cons p ps ih =>
    intro s i
    rw [numberFrom, List.length_cons, List.range_succ_eq_map, List.map_cons, List.map_map, ih (s + 1) (i + 1)]
    congr 1
    apply List.map_congr_left
    intro k _
    rw [Nat.add_assoc, Nat.add_assoc, Nat.add_comm 1 k]; rfl

theorem tlLen_types : tlLen ttLpPacket = 1 ∧ tlLen ttFragment = 1 ∧ tlLen ttSequence = 1 ∧
    tlLen ttFragIndex = 1 ∧ tlLen ttFragCount = 1 ∧ tlLen ttPitToken = 1 ∧
    tlLen ttIncomingFaceId = 3 ∧ tlLen ttCongestionMark = 3 := by decide

def tokLen (t : Bytes) : Nat := if t = [] then 0 else 1 + tlLen t.length + t.length
def optNatLen (t : Nat) : Option Nat → Nat
  | none => 0
  | some v => tlLen t + 1 + natLen v

def innerLen (f : Frame) : Nat :=
  (if f.seq.isSome then 10 else 0) + optNatLen ttFragIndex f.idx + optNatLen ttFragCount f.cnt +
  tokLen f.token + optNatLen ttIncomingFaceId f.inFace + optNatLen ttCongestionMark f.mark +
  (1 + tlLen f.frag.length + f.frag.length)

theorem optNatLen_some (t v : Nat) : optNatLen t (some v) = tlLen t + 1 + natLen v := rfl
@[simp] theorem optNatLen_none (t : Nat) : optNatLen t none = 0 := rfl

theorem tlv_length (t : Nat) (v : Bytes) : (tlv t v).length = tlLen t + tlLen v.length + v.length := by
  simp only [tlv, List.length_append, encTL_length]

theorem optNat_length (t : Nat) (o : Option Nat) : (optNat t o).length = optNatLen t o := by
  cases o with
  | none => rfl
  | some v =>
    have := natLen_le8 v
    rw [optNat, tlv_length, encNat_length, tlLen_small (x := natLen v) (by omega)]; rfl

theorem encInner_length (f : Frame) : (encInner f).length = innerLen f := by
  obtain ⟨_, _, hseq, _, _, htok, _, _⟩ := tlLen_types
  have h1 : (optFixed8 ttSequence f.seq).length = if f.seq.isSome then 10 else 0 := by
    cases f.seq with
    | none => rfl
    | some v => rw [optFixed8, tlv_length, be_length, hseq]; rfl
  have h2 : (if f.token = [] then [] else tlv ttPitToken f.token).length = tokLen f.token := by
    unfold tokLen
    split
    · rfl
    · rw [tlv_length, htok]
  simp only [encInner, innerLen, List.length_append, optNat_length, h1, h2, tlv_length, tlLen_types]

theorem encFrame_length (f : Frame) : (encFrame f).length = 1 + tlLen (innerLen f) + innerLen f := by
  rw [encFrame, tlv_length, encInner_length, tlLen_types.1]

theorem ite_le (c : Prop) [Decidable c] (n : Nat) : (if c then n else 0) ≤ n := by
  split
  · exact Nat.le_refl _
  · exact Nat.zero_le _

/-- 32 = `specMaxToken`, the longest PIT token of NDNLPv2 -/
theorem tokLen_le {t : Bytes} (h : t.length ≤ 32) : tokLen t ≤ 34 := by
  unfold tokLen
  split
  · exact Nat.zero_le _
  · rw [tlLen_small (Nat.le_trans h (by decide))]; exact Nat.add_le_add_left h 2

theorem optNatLen_le12 {t : Nat} (ht : tlLen t = 3) (o : Option Nat) :
    optNatLen t o ≤ if o.isSome then 12 else 0 := by
  cases o with
  | none => exact Nat.le_refl _
  | some v => rw [optNatLen_some, ht]; exact Nat.add_le_add_left (natLen_le8 v) _

theorem optNatLen_le4 {t : Nat} (ht : tlLen t = 1) {o : Option Nat} (h : ∀ v, o = some v → v ≤ 65535) :
    optNatLen t o ≤ 4 := by
  cases o with
  | none => exact Nat.zero_le _
  | some v => rw [optNatLen_some, ht]; exact Nat.add_le_add_left (natLen_le2 (h v rfl)) _

/-- `innerLen` bounded element by element (Sequence is 10 bytes when present): FragIndex, FragCount, PitToken, IncomingFaceId,
    CongestionMark, the length of the Fragment's length -/
theorem innerLen_le {f : Frame} {a b c d e g : Nat} (hi : optNatLen ttFragIndex f.idx ≤ a)
    (hn : optNatLen ttFragCount f.cnt ≤ b) (ht : tokLen f.token ≤ c) (hf : optNatLen ttIncomingFaceId f.inFace ≤ d)
    (hm : optNatLen ttCongestionMark f.mark ≤ e) (hl : tlLen f.frag.length ≤ g) :
    innerLen f ≤ 10 + a + b + c + d + e + (1 + g + f.frag.length) :=
  Nat.add_le_add (Nat.add_le_add (Nat.add_le_add (Nat.add_le_add (Nat.add_le_add (Nat.add_le_add (ite_le _ 10) hi) hn) ht) hf) hm)
    (Nat.add_le_add_right (Nat.add_le_add_left hl 1) _)

/-- the regenerated constants: LpPacket and Fragment T+L (1+3 each), Sequence (10), FragIndex + FragCount (4+4),
    IncomingFaceId and CongestionMark (3+1+8) -/
theorem overheadOf_eq (h : Frame) : overheadOf h = 4 + 4 + 10 + 8 + tokLen h.token +
    (if h.inFace.isSome then 12 else 0) + (if h.mark.isSome then 12 else 0) := rfl

theorem overheadOf_ge (h : Frame) : 26 ≤ overheadOf h :=
  overheadOf_eq h ▸ Nat.le_add_right_of_le (Nat.le_add_right_of_le (Nat.le_add_right 26 _))

/-- 84 = 4 + 4 + 10 + 8 + 34 (a 32-byte token) + 12 + 12 -/
theorem overheadOf_le {h : Frame} (htok : h.token.length ≤ 32) : overheadOf h ≤ 84 := by
  have htk := tokLen_le htok
  have a := ite_le h.inFace.isSome 12
  have b := ite_le h.mark.isSome 12
  rw [overheadOf_eq]; omega

/-- `overheadOf` is the size of the header when FragIndex and FragCount take two bytes and the two enclosing lengths
    (LpPacket, Fragment) three: true as long as the whole frame stays within 2^16 + 3 bytes.  The token enters `overheadOf`
    with its exact size, so nothing is asked of it. -/
theorem encFrame_length_le (f : Frame) (hi : ∀ v, f.idx = some v → v ≤ 65535)
    (hn : ∀ v, f.cnt = some v → v ≤ 65535) (hsz : overheadOf f + f.frag.length ≤ 65539) :
    (encFrame f).length ≤ overheadOf f + f.frag.length := by
  rw [overheadOf_eq] at hsz ⊢
  -- FragIndex and FragCount take four bytes each, the token what it takes, IncomingFaceId and CongestionMark at most twelve, the Fragment's length three
  have hinner := innerLen_le (optNatLen_le4 (by decide) hi) (optNatLen_le4 (by decide) hn) (Nat.le_refl (tokLen f.token))
    (optNatLen_le12 (by decide) f.inFace) (optNatLen_le12 (by decide) f.mark) (tlLen_le3 (x := f.frag.length) (by omega))
  have hl := tlLen_le3 (x := innerLen f) (by omega)
  rw [encFrame_length]
  omega

theorem fragFrame_length_le (h : Frame) (s i n : Nat) (part : Bytes)
    (hi : i ≤ 65535) (hn : n ≤ 65535) (hp : part.length ≤ 8800) (htok : h.token.length ≤ 32) :
    (encFrame { h with seq := some s, idx := some i, cnt := some n, frag := part }).length
      ≤ overheadOf h + part.length :=
  encFrame_length_le { h with seq := some s, idx := some i, cnt := some n, frag := part }
    (fun _ hv => Option.some.inj hv ▸ hi) (fun _ hv => Option.some.inj hv ▸ hn)
    (Nat.le_trans (Nat.add_le_add (overheadOf_le (h := h) htok) hp) (by decide))

/-- what the specification calls the sent message: the packet, the token, the mark the link
    attaches (the upstream mark, or the link's own when it detects congestion) and the incoming
    face id when indication is enabled -/
def sentOf (cfg : TxCfg) (st : TxSt) (p : OutPkt) : Sent :=
  { wire := p.wire, token := p.token, mark := (congestionStep cfg st p).1,
    inFace := if cfg.ifiEnabled then p.inFace else none }

def hdrOf (cfg : TxCfg) (st : TxSt) (p : OutPkt) : Frame := headerOf cfg p (congestionStep cfg st p).1
def wholeOf (cfg : TxCfg) (st : TxSt) (p : OutPkt) : Frame := { hdrOf cfg st p with frag := p.wire }
def payloadRoom (cfg : TxCfg) (st : TxSt) (p : OutPkt) : Nat := cfg.mtu - overheadOf (hdrOf cfg st p)

theorem wholeOf_eq (cfg : TxCfg) (st : TxSt) (p : OutPkt) : wholeOf cfg st p = (sentOf cfg st p).whole := rfl

theorem fitsWhole_iff (cfg : TxCfg) (st : TxSt) (p : OutPkt) :
    (sentOf cfg st p).fitsWhole cfg.mtu = true ↔ (encFrame (wholeOf cfg st p)).length ≤ cfg.mtu := by
  rw [wholeOf_eq]; exact decide_eq_true_iff

theorem sendPacketF_single (cfg : TxCfg) (st : TxSt) (p : OutPkt)
    (h : (encFrame (wholeOf cfg st p)).length ≤ cfg.mtu) :
    sendPacketF cfg st p = ({ st with congCheck := (congestionStep cfg st p).2 }, [wholeOf cfg st p], TxKind.single) := by
  unfold sendPacketF
  exact if_pos h

theorem sendPacketF_nofrag (cfg : TxCfg) (st : TxSt) (p : OutPkt)
    (h : ¬ (encFrame (wholeOf cfg st p)).length ≤ cfg.mtu) (hn : cfg.fragEnabled = false) :
    sendPacketF cfg st p = ({ st with congCheck := (congestionStep cfg st p).2 }, [], TxKind.dropNoFrag) := by
  unfold sendPacketF
  exact (if_neg h).trans (if_pos (by simp [hn]))

theorem sendPacketF_frag (cfg : TxCfg) (st : TxSt) (p : OutPkt)
    (h : ¬ (encFrame (wholeOf cfg st p)).length ≤ cfg.mtu) (hf : cfg.fragEnabled = true)
    (hov : ¬ cfg.mtu ≤ overheadOf (hdrOf cfg st p)) :
    sendPacketF cfg st p =
      ({ nextSeq := (st.nextSeq + (chunks (payloadRoom cfg st p) p.wire).length) % two64,
         congCheck := (congestionStep cfg st p).2 },
       numberFrom (hdrOf cfg st p) (chunks (payloadRoom cfg st p) p.wire).length st.nextSeq 0
         (chunks (payloadRoom cfg st p) p.wire), TxKind.fragmented) := by
  unfold sendPacketF
  exact (if_neg h).trans ((if_neg (by simp [hf])).trans (if_neg hov))

theorem sendPacketF_tiny (cfg : TxCfg) (st : TxSt) (p : OutPkt)
    (h : ¬ (encFrame (wholeOf cfg st p)).length ≤ cfg.mtu) (hf : cfg.fragEnabled = true)
    (hov : cfg.mtu ≤ overheadOf (hdrOf cfg st p)) :
    sendPacketF cfg st p = ({ st with congCheck := (congestionStep cfg st p).2 }, [], TxKind.dropTinyMtu) := by
  unfold sendPacketF
  exact (if_neg h).trans ((if_neg (by simp [hf])).trans (if_pos hov))

/-- 44 = `specMinMtu` − 84: with the smallest MTU every fragment still carries 44 bytes -/
theorem overhead_add_le (cfg : TxCfg) (st : TxSt) (p : OutPkt) (hmtu : specMinMtu ≤ cfg.mtu)
    (htok : p.token.length ≤ specMaxToken) : overheadOf (hdrOf cfg st p) + 44 ≤ cfg.mtu :=
  Nat.le_trans (Nat.add_le_add_right (overheadOf_le (h := hdrOf cfg st p) htok) 44) hmtu

theorem payloadRoom_ge (cfg : TxCfg) (st : TxSt) (p : OutPkt) (hmtu : specMinMtu ≤ cfg.mtu)
    (htok : p.token.length ≤ specMaxToken) : 44 ≤ payloadRoom cfg st p :=
  Nat.le_sub_of_add_le (Nat.add_comm .. ▸ overhead_add_le cfg st p hmtu htok)

theorem not_tiny (cfg : TxCfg) (st : TxSt) (p : OutPkt) (hmtu : specMinMtu ≤ cfg.mtu)
    (htok : p.token.length ≤ specMaxToken) : ¬ cfg.mtu ≤ overheadOf (hdrOf cfg st p) :=
  Nat.not_le.mpr (Nat.lt_of_lt_of_le (Nat.lt_add_of_pos_right (by decide)) (overhead_add_le cfg st p hmtu htok))

theorem room_lt_wire (cfg : TxCfg) (st : TxSt) (p : OutPkt)
    (hsize : p.wire.length ≤ specMaxPkt) (htok : p.token.length ≤ specMaxToken)
    (hnofit : ¬ (encFrame (wholeOf cfg st p)).length ≤ cfg.mtu)
    (hov : ¬ cfg.mtu ≤ overheadOf (hdrOf cfg st p)) : payloadRoom cfg st p < p.wire.length := by
  have h : _ ≤ overheadOf (hdrOf cfg st p) + p.wire.length :=
    encFrame_length_le (wholeOf cfg st p) nofun nofun
      (Nat.le_trans (Nat.add_le_add (overheadOf_le (h := hdrOf cfg st p) htok) hsize) (by decide))
  exact Nat.sub_lt_left_of_lt_add (Nat.le_of_lt (Nat.lt_of_not_le hov)) (Nat.lt_of_lt_of_le (Nat.lt_of_not_le hnofit) h)

end Ndn.C10
