/-
  Receive side (`handleLp` with `reasm = true` only).  `StoreInv msgs seen store`: after the frames `seen` the store holds, under
  the base sequence of every message that is started and not complete, exactly `slotsOf seen m`, and nothing else.  One arrival
  keeps it (`handleLp_frag`, `handleLp_single`); `rxRunF_inv` carries it, with the multiset of the deliveries, along the arrival
  list.  Frames of different messages differ as VALUES because `base = seq − idx` mod 2^64 (`base_recover`, `add_mod_inj`), so
  membership in `seen` is all the bookkeeping.
-/
import NdnVerif.C10.LemmasTx
import NdnVerif.C05.Assoc
import NdnVerif.Base.Code
namespace Ndn.C10

namespace Store

/-- the store is an association list: `find?` is `C05.afind`, `erase` is `C05.aerase` -/
theorem find?_erase (s : Store) (k k' : Nat) :
    (s.erase k).find? k' = if k = k' then none else s.find? k' := by
  have hf : ∀ s k, Store.find? s k = C05.afind s k := C05.afind_unique (fun _ => rfl) fun _ _ _ _ => rfl
  have he : s.erase k = C05.aerase s k := List.filter_congr fun _ _ => decide_not
  rw [hf, hf, he]; exact C05.afind_aerase ..

theorem find?_set (s : Store) (k k' : Nat) (v : List Bytes) :
    (s.set k v).find? k' = if k = k' then some v else s.find? k' := by
  simp only [Store.set, Store.find?]
  by_cases h : k = k'
  · simp [h]
  · simp [h, Store.find?_erase]

end Store

/-- a fragmented message as the receiver sees it -/
structure FMsg where
  hdr : Frame            -- token / inFace / mark of every frame
  base : Nat             -- sequence number of fragment 0
  parts : List Bytes     -- fragment payloads
  deriving DecidableEq

def FMsg.frameAt (m : FMsg) (k : Nat) : Frame :=
  { m.hdr with seq := some ((m.base + k) % two64), idx := some k, cnt := some m.parts.length,
               frag := m.parts.getD k [] }

def FMsg.frames (m : FMsg) : List Frame := (List.range m.parts.length).map m.frameAt

def FMsg.delivery (m : FMsg) : Delivered := ⟨m.parts.flatten, m.hdr.token, m.hdr.mark⟩

structure FMsg.WF (m : FMsg) : Prop where
  base_lt : m.base < two64
  two_le : 2 ≤ m.parts.length           -- a one-fragment message takes the (0, 1) bypass of `handleLp`
  small : m.parts.length ≤ maxFragments  -- the guard of `reassemble`
  nonempty : ∀ p ∈ m.parts, p ≠ []

/-- slots of the reassembly buffer of `m` after the frames in `seen` have arrived -/
def slotsOf (seen : List Frame) (m : FMsg) : List Bytes :=
  (List.range m.parts.length).map fun k => if m.frameAt k ∈ seen then m.parts.getD k [] else []

def started (seen : List Frame) (m : FMsg) : Bool :=
  (List.range m.parts.length).any fun k => decide (m.frameAt k ∈ seen)

def done (seen : List Frame) (m : FMsg) : Bool :=
  (List.range m.parts.length).all fun k => decide (m.frameAt k ∈ seen)

theorem slotsOf_length (seen : List Frame) (m : FMsg) : (slotsOf seen m).length = m.parts.length := by
  rw [slotsOf, List.length_map, List.length_range]

theorem part_mem {m : FMsg} {k : Nat} (hk : k < m.parts.length) : m.parts.getD k [] ∈ m.parts := by
  rw [List.getD_eq_getElem?_getD, List.getElem?_eq_getElem hk]
  exact List.getElem_mem hk

theorem part_ne_nil {m : FMsg} (hwf : m.WF) {k : Nat} (hk : k < m.parts.length) : m.parts.getD k [] ≠ [] :=
  hwf.nonempty _ (part_mem hk)

theorem done_iff (seen : List Frame) (m : FMsg) :
    done seen m = true ↔ ∀ k, k < m.parts.length → m.frameAt k ∈ seen := by
  simp [done]

theorem started_iff (seen : List Frame) (m : FMsg) :
    started seen m = true ↔ ∃ k, k < m.parts.length ∧ m.frameAt k ∈ seen := by
  simp [started]

theorem slotsOf_not_started (seen : List Frame) (m : FMsg) (h : started seen m = false) :
    slotsOf seen m = List.replicate m.parts.length [] := by
  have hns : ∀ k ∈ List.range m.parts.length, m.frameAt k ∉ seen := fun k hk hmem => by
    have := (started_iff seen m).mpr ⟨k, List.mem_range.mp hk, hmem⟩
    rw [h] at this; cases this
  rw [slotsOf, List.map_congr_left (g := fun _ => []) (fun k hk => if_neg (hns k hk)), List.map_const',
    List.length_range]

theorem frameAt_idx_inj (m : FMsg) {j k : Nat} (h : m.frameAt j = m.frameAt k) : j = k :=
  Option.some.inj (congrArg Frame.idx h)

theorem slotsOf_cons (seen : List Frame) (m : FMsg) (k : Nat) :
    (slotsOf seen m).set k (m.frameAt k).frag = slotsOf (m.frameAt k :: seen) m := by
  apply List.ext_getElem
  · rw [List.length_set, slotsOf_length, slotsOf_length]
  · intro i h1 h2
    simp only [slotsOf, List.getElem_set, List.getElem_map, List.getElem_range, List.mem_cons]
    by_cases hik : k = i
    · subst hik; rw [if_pos rfl, if_pos (.inl rfl)]; rfl
    · have hne : m.frameAt i ≠ m.frameAt k := fun h => hik (frameAt_idx_inj m h).symm
      simp only [hik, hne, if_false, false_or]

theorem slots_all_iff (seen : List Frame) (m : FMsg) (hwf : m.WF) :
    (slotsOf seen m).all (fun s => s ≠ []) = done seen m := by
  rw [Bool.eq_iff_iff, done_iff]
  simp only [slotsOf, List.all_map, List.all_eq_true, List.mem_range, Function.comp]
  constructor
  · intro h k hk
    have := h k hk
    by_cases hm : m.frameAt k ∈ seen
    · exact hm
    · simp [hm] at this
  · intro h k hk
    have := part_ne_nil hwf hk
    simp only [h k hk, if_true]
    simpa using this

theorem slots_done_flatten (seen : List Frame) (m : FMsg) (h : done seen m = true) :
    (slotsOf seen m).flatten = m.parts.flatten := by
  have : slotsOf seen m = m.parts := by
    apply List.ext_getElem
    · exact slotsOf_length seen m
    · intro i h1 h2
      simp only [slotsOf, List.getElem_map, List.getElem_range]
      rw [if_pos ((done_iff seen m).mp h i h2), List.getD_eq_getElem?_getD, List.getElem?_eq_getElem h2]; rfl
  rw [this]

theorem cons_foreign (seen : List Frame) (m : FMsg) (f : Frame) (hf : ∀ k, m.frameAt k ≠ f) :
    slotsOf (f :: seen) m = slotsOf seen m ∧ started (f :: seen) m = started seen m ∧
    done (f :: seen) m = done seen m := by
  have key : ∀ k, (m.frameAt k ∈ f :: seen) = (m.frameAt k ∈ seen) := fun k => by
    rw [List.mem_cons, eq_false (hf k), false_or]
  simp only [slotsOf, started, done, key, and_self]

/-- the store holds the partially received messages -/
def StoreInv (msgs : List FMsg) (seen : List Frame) (store : Store) : Prop :=
  (∀ m ∈ msgs, store.find? m.base =
      if started seen m = true ∧ done seen m = false then some (slotsOf seen m) else none) ∧
  (∀ b, (∀ m ∈ msgs, m.base ≠ b) → store.find? b = none)

/-- `Sequence - FragIndex` in uint64 arithmetic gives back the base, also when the numbering wrapped -/
theorem base_recover (base k : Nat) (hb : base < two64) (hk : k < two64) :
    ((base + k) % two64 + two64 - k % two64) % two64 = base := by
  rw [Nat.mod_eq_of_lt hk]
  by_cases h : base + k < two64
  · rw [Nat.mod_eq_of_lt h, Nat.add_right_comm, Nat.add_sub_cancel, Nat.add_mod_right, Nat.mod_eq_of_lt hb]
  · have h' : two64 ≤ base + k := Nat.le_of_not_lt h
    have e : (base + k) % two64 = base + k - two64 := by
      rw [Nat.mod_eq_sub_mod h', Nat.mod_eq_of_lt (by omega)]
    rw [e, Nat.sub_add_cancel h', Nat.add_sub_cancel, Nat.mod_eq_of_lt hb]

theorem add_mod_inj {a b : Nat} (k : Nat) (ha : a < two64) (hb : b < two64)
    (h : (a + k) % two64 = (b + k) % two64) : a = b := by
  have hk : k % two64 < two64 := Nat.mod_lt _ (by decide)
  rw [Nat.add_mod a, Nat.add_mod b, Nat.mod_eq_of_lt ha, Nat.mod_eq_of_lt hb] at h
  rw [← base_recover a _ ha hk, h, base_recover b _ hb hk]

theorem frameAt_ne_of_base_ne (m m' : FMsg) (hm : m.WF) (hm' : m'.WF) (hb : m.base ≠ m'.base)
    (j k : Nat) : m'.frameAt j ≠ m.frameAt k := by
  intro h
  have hi : j = k := Option.some.inj (congrArg Frame.idx h)
  subst hi
  exact hb (add_mod_inj j hm.base_lt hm'.base_lt (Option.some.inj (congrArg Frame.seq h)).symm)

theorem frameAt_ne_single (m : FMsg) (k : Nat) (s : Frame) (hs : s.seq = none) : m.frameAt k ≠ s := by
  intro h
  have := congrArg Frame.seq h
  rw [hs] at this; cases this

def BasesDistinct (msgs : List FMsg) : Prop :=
  ∀ m ∈ msgs, ∀ m' ∈ msgs, m.base = m'.base → m = m'

theorem not_done_of_new (seen : List Frame) (m : FMsg) (k : Nat) (hk : k < m.parts.length)
    (hnew : m.frameAt k ∉ seen) : done seen m = false :=
  Bool.eq_false_iff.mpr fun h => hnew ((done_iff seen m).mp h k hk)

theorem reassemble_frag (seen : List Frame) (store : Store) (m : FMsg) (hwf : m.WF)
    (hfind : store.find? m.base =
      if started seen m = true ∧ done seen m = false then some (slotsOf seen m) else none)
    (k : Nat) (hk : k < m.parts.length) (hnew : m.frameAt k ∉ seen) :
    reassemble store (m.frameAt k) m.base k m.parts.length =
      if done (m.frameAt k :: seen) m = true
      then (store.erase m.base, some m.parts.flatten)
      else (store.set m.base (slotsOf (m.frameAt k :: seen) m), none) := by
  rw [not_done_of_new seen m k hk hnew] at hfind
  have hslots : slotsFor store m.base m.parts.length = some (slotsOf seen m) := by
    unfold slotsFor
    cases hs : started seen m with
    | true => rw [hfind, hs, if_pos ⟨rfl, rfl⟩]; exact if_pos (slotsOf_length seen m)
    | false => rw [hfind, hs, if_neg (by simp), slotsOf_not_started seen m hs]
  have hguard : ¬ (m.parts.length = 0 ∨ m.parts.length > maxFragments ∨ k ≥ m.parts.length) :=
    fun h => h.elim (fun h0 => absurd (h0 ▸ hk) (Nat.not_lt_zero _))
      fun h => h.elim (Nat.not_lt.mpr hwf.small) (Nat.not_le.mpr hk)
  unfold reassemble
  rw [if_neg hguard, hslots]
  simp only [slotsOf_cons, slots_all_iff _ m hwf]
  by_cases hd : done (m.frameAt k :: seen) m = true
  · rw [if_pos hd, if_pos hd, slots_done_flatten _ m hd]
  · rw [if_neg hd, if_neg hd]

theorem handleLp_frag (msgs : List FMsg) (hwf : ∀ m ∈ msgs, m.WF) (hdist : BasesDistinct msgs)
    (validL3 : Bytes → Bool) (hvalid : ∀ m ∈ msgs, validL3 m.parts.flatten = true)
    (seen : List Frame) (store : Store) (hinv : StoreInv msgs seen store)
    (m : FMsg) (hm : m ∈ msgs) (k : Nat) (hk : k < m.parts.length) (hnew : m.frameAt k ∉ seen) :
    StoreInv msgs (m.frameAt k :: seen) (handleLp true validL3 store (m.frameAt k)).1 ∧
    (handleLp true validL3 store (m.frameAt k)).2 =
      if done (m.frameAt k :: seen) m = true then RxOut.deliver m.delivery else RxOut.drop := by
  have hmwf := hwf m hm
  have hk64 : k < two64 := Nat.lt_trans (Nat.lt_of_lt_of_le hk hmwf.small) (by decide)
  have hbase : ((m.base + k) % two64 + two64 - k % two64) % two64 = m.base :=
    base_recover m.base k hmwf.base_lt hk64
  have hbyp : ¬ (k = 0 ∧ m.parts.length = 1) := fun h => absurd (h.2 ▸ hmwf.two_le) (by decide)
  have hstep : handleLp true validL3 store (m.frameAt k) =
      if done (m.frameAt k :: seen) m = true
      then (store.erase m.base, RxOut.deliver m.delivery)
      else (store.set m.base (slotsOf (m.frameAt k :: seen) m), RxOut.drop) := by
    unfold handleLp
    rw [if_neg (show ¬ (m.frameAt k).frag = [] from part_ne_nil hmwf hk)]
    have hseq : (m.frameAt k).seq = some ((m.base + k) % two64) := rfl
    have hidx : (m.frameAt k).idx = some k := rfl
    have hcnt : (m.frameAt k).cnt = some m.parts.length := rfl
    simp only [hseq, hidx, hcnt, Option.isSome_some, Option.getD_some, and_self, if_true, hbyp, if_false, hbase,
      reassemble_frag seen store m hmwf (hinv.1 m hm) k hk hnew]
    by_cases hd : done (m.frameAt k :: seen) m = true
    · rw [if_pos hd, if_pos hd]
      simp only [hvalid m hm, if_true]; rfl
    · rw [if_neg hd, if_neg hd]
  rw [hstep, apply_ite Prod.fst, apply_ite Prod.snd]
  have hother : ∀ b, m.base ≠ b → Store.find? (if done (m.frameAt k :: seen) m = true then store.erase m.base
      else store.set m.base (slotsOf (m.frameAt k :: seen) m)) b = store.find? b := by
    intro b hb
    by_cases hd : done (m.frameAt k :: seen) m = true
    · rw [if_pos hd, Store.find?_erase, if_neg hb]
    · rw [if_neg hd, Store.find?_set, if_neg hb]
  refine ⟨⟨fun m' hm' => ?_, fun b hb => (hother b (hb m hm)).trans (hinv.2 b hb)⟩, rfl⟩
  by_cases hb : m.base = m'.base
  · cases hdist m hm m' hm' hb
    by_cases hd : done (m.frameAt k :: seen) m = true
    · rw [if_pos hd, Store.find?_erase, if_pos rfl, hd, if_neg (by simp)]
    · rw [if_neg hd, Store.find?_set, if_pos rfl, (started_iff _ m).mpr ⟨k, hk, List.mem_cons_self ..⟩, Bool.eq_false_iff.mpr hd,
        if_pos ⟨rfl, rfl⟩]
  · obtain ⟨e1, e2, e3⟩ := cons_foreign seen m' (m.frameAt k)
      (fun j => frameAt_ne_of_base_ne m m' hmwf (hwf m' hm') hb j k)
    rw [hother _ hb, e1, e2, e3]
    exact hinv.1 m' hm'

theorem handleLp_single (msgs : List FMsg) (validL3 : Bytes → Bool) (seen : List Frame) (store : Store)
    (hinv : StoreInv msgs seen store) (s : Frame) (hseq : s.seq = none) (hidx : s.idx = none)
    (hcnt : s.cnt = none) (hfrag : s.frag ≠ []) (hvalid : validL3 s.frag = true) :
    StoreInv msgs (s :: seen) (handleLp true validL3 store s).1 ∧
    (handleLp true validL3 store s).2 = RxOut.deliver ⟨s.frag, s.token, s.mark⟩ := by
  have hstep : handleLp true validL3 store s = (store, RxOut.deliver ⟨s.frag, s.token, s.mark⟩) := by
    unfold handleLp
    -- no Sequence: not the reassembly branch; no FragCount / FragIndex either: the fragment is the packet
    rw [if_neg hfrag]
    simp [hseq, hidx, hcnt, hvalid]
  rw [hstep]
  refine ⟨⟨?_, hinv.2⟩, rfl⟩
  intro m hm
  obtain ⟨e1, e2, e3⟩ := cons_foreign seen m s (fun k => frameAt_ne_single m k s hseq)
  rw [e1, e2, e3]
  exact hinv.1 m hm

def isFragFrame (f : Frame) : Bool := f.seq.isSome
def singleDelivery (s : Frame) : Delivered := ⟨s.frag, s.token, s.mark⟩

def deliveries : List RxOut → List Delivered
  | [] => []
  | .deliver d :: r => d :: deliveries r
  | .drop :: r => deliveries r

theorem deliveries_cons (o : RxOut) (os : List RxOut) : deliveries (o :: os) = deliveries [o] ++ deliveries os := by
  cases o <;> rfl

theorem rxRunF_cons (reasm : Bool) (validL3 : Bytes → Bool) (st : Store) (f : Frame) (rest : List Frame) :
    rxRunF reasm validL3 st (f :: rest) =
      ((rxRunF reasm validL3 (handleLp reasm validL3 st f).1 rest).1,
        (handleLp reasm validL3 st f).2 :: (rxRunF reasm validL3 (handleLp reasm validL3 st f).1 rest).2) := rfl

theorem mem_frames {m : FMsg} {f : Frame} : f ∈ m.frames ↔ ∃ k, k < m.parts.length ∧ f = m.frameAt k := by
  simp only [FMsg.frames, List.mem_map, List.mem_range, eq_comm]

/-- a valid unfragmented LpPacket as the receiver sees it (not the sender clause `singleOk` of the Spec) -/
def SingleOk (validL3 : Bytes → Bool) (s : Frame) : Prop :=
  s.seq = none ∧ s.idx = none ∧ s.cnt = none ∧ s.frag ≠ [] ∧ validL3 s.frag = true

def Arrival (msgs : List FMsg) (validL3 : Bytes → Bool) (f : Frame) : Prop :=
  (∃ m ∈ msgs, f ∈ m.frames) ∨ SingleOk validL3 f

theorem filter_flip {α : Type} [DecidableEq α] : ∀ (l : List α) (m : α) (q q' : α → Bool),
    l.Nodup → m ∈ l → (∀ x ∈ l, x ≠ m → q' x = q x) → q m = false → q' m = true →
    (l.filter q').Perm (m :: l.filter q) := by
  intro l m q q' hnd hm hsame hq hq'
  -- `l` is `m` and the rest, and on the rest the two tests agree
  have hp := List.perm_cons_erase hm
  have h1 := hp.filter q'
  have h2 := hp.filter q
  rw [List.filter_cons_of_pos hq',
    List.filter_congr fun x hx => hsame x (List.mem_of_mem_erase hx) (hnd.mem_erase_iff.mp hx).1] at h1
  rw [List.filter_cons_of_neg (by rw [hq]; exact Bool.false_ne_true)] at h2
  exact h1.trans (h2.symm.cons m)

theorem distinct_of_bases {msgs : List FMsg} (h : (msgs.map FMsg.base).Nodup) : BasesDistinct msgs :=
  fun _ hm _ hm' hb => inj_of_nodup_map _ h hm hm' hb

theorem arrival_step (msgs : List FMsg) (hwf : ∀ m ∈ msgs, m.WF) (hbases : (msgs.map FMsg.base).Nodup)
    (validL3 : Bytes → Bool) (hvalid : ∀ m ∈ msgs, validL3 m.parts.flatten = true)
    (seen : List Frame) (store : Store) (hinv : StoreInv msgs seen store) (f : Frame)
    (harr : Arrival msgs validL3 f) (hnew : isFragFrame f = true → f ∉ seen) :
    StoreInv msgs (f :: seen) (handleLp true validL3 store f).1 ∧
    ((msgs.filter (done seen)).map FMsg.delivery ++ deliveries [(handleLp true validL3 store f).2]).Perm
      ((msgs.filter (done (f :: seen))).map FMsg.delivery ++
        if isFragFrame f then [] else [singleDelivery f]) := by
  have hdist := distinct_of_bases hbases
  have hnodup : msgs.Nodup := nodup_of_nodup_map _ hbases
  rcases harr with ⟨m, hm, hfm⟩ | ⟨hseq, hidx, hcnt, hfrag, hval⟩
  · obtain ⟨k, hk, rfl⟩ := mem_frames.mp hfm
    have hfnew : m.frameAt k ∉ seen := hnew rfl
    obtain ⟨hinv', hout⟩ := handleLp_frag msgs hwf hdist validL3 hvalid seen store hinv m hm k hk hfnew
    refine ⟨hinv', ?_⟩
    have hndm := not_done_of_new seen m k hk hfnew
    have hother : ∀ m' ∈ msgs, m' ≠ m → done (m.frameAt k :: seen) m' = done seen m' := fun m' hm' hne =>
      (cons_foreign seen m' _ fun j => frameAt_ne_of_base_ne m m' (hwf m hm) (hwf m' hm')
        (fun hb => hne (hdist m hm m' hm' hb).symm) j k).2.2
    rw [hout, show isFragFrame (m.frameAt k) = true from rfl, if_pos rfl, List.append_nil]
    cases hd : done (m.frameAt k :: seen) m with
    | true =>
      rw [if_pos rfl]
      exact (List.perm_append_singleton _ _).trans
        ((filter_flip msgs m _ _ hnodup hm hother hndm hd).map FMsg.delivery).symm
    | false =>
      rw [if_neg Bool.false_ne_true]
      change (_ ++ []).Perm _
      rw [List.append_nil, List.filter_congr fun m' hm' => ?_]
      by_cases hne : m' = m
      · rw [hne, hd, hndm]
      · exact (hother m' hm' hne).symm
  · obtain ⟨hinv', hout⟩ := handleLp_single msgs validL3 seen store hinv f hseq hidx hcnt hfrag hval
    refine ⟨hinv', ?_⟩
    have hnf : isFragFrame f = false := by rw [isFragFrame, hseq]; rfl
    rw [hout, hnf, if_neg Bool.false_ne_true,
      List.filter_congr fun m' _ => (cons_foreign seen m' f fun k => frameAt_ne_single m' k f hseq).2.2]
    exact List.Perm.refl _

/-- `A`, `d1`, `dt`: deliveries so far, of one arrival, of the rest; `h1` the arrival, `h2` the induction hypothesis -/
theorem perm_step {α : Type} {A d1 dt A1 s1 Af sr : List α} (h1 : (A ++ d1).Perm (A1 ++ s1))
    (h2 : (A1 ++ dt).Perm (Af ++ sr)) : (A ++ d1 ++ dt).Perm (Af ++ (s1 ++ sr)) :=
  ((h1.append_right dt).trans (by rw [List.append_assoc]; exact List.perm_append_comm_assoc ..)).trans
    ((h2.append_left s1).trans (List.perm_append_comm_assoc ..))

/-- The receiver over `arr`, after `seen` (newest first): what was delivered for the messages complete before plus what
    is delivered now is, as a multiset, one per message complete afterwards plus one per unfragmented arrival. -/
theorem rxRunF_inv (msgs : List FMsg) (hwf : ∀ m ∈ msgs, m.WF) (hbases : (msgs.map FMsg.base).Nodup)
    (validL3 : Bytes → Bool) (hvalid : ∀ m ∈ msgs, validL3 m.parts.flatten = true) :
    ∀ (arr seen : List Frame) (store : Store),
      StoreInv msgs seen store →
      (∀ f ∈ arr, Arrival msgs validL3 f) →
      (arr.filter isFragFrame).Nodup → (∀ f ∈ arr, isFragFrame f = true → f ∉ seen) →
      StoreInv msgs (arr.reverse ++ seen) (rxRunF true validL3 store arr).1 ∧
      ((msgs.filter (done seen)).map FMsg.delivery ++ deliveries (rxRunF true validL3 store arr).2).Perm
        ((msgs.filter (done (arr.reverse ++ seen))).map FMsg.delivery ++
          (arr.filter (fun f => !isFragFrame f)).map singleDelivery) := by
  intro arr
  induction arr with
  | nil => intro seen store hinv _ _ _; exact ⟨hinv, List.Perm.refl _⟩
  | cons f rest ih =>
    intro seen store hinv harr hnd hnew
    obtain ⟨hinv1, hP1⟩ := arrival_step msgs hwf hbases validL3 hvalid seen store hinv f
      (harr f (List.mem_cons_self ..)) (hnew f (List.mem_cons_self ..))
    have hnew' : ∀ g ∈ rest, isFragFrame g = true → g ∉ f :: seen := by
      intro g hg hgf hmem
      rcases List.mem_cons.mp hmem with rfl | h
      · rw [List.filter_cons_of_pos hgf] at hnd
        exact (List.nodup_cons.mp hnd).1 (List.mem_filter.mpr ⟨hg, hgf⟩)
      · exact hnew g (List.mem_cons_of_mem _ hg) hgf h
    obtain ⟨hI, hP⟩ := ih (f :: seen) _ hinv1 (fun g hg => harr g (List.mem_cons_of_mem _ hg))
      (((List.sublist_cons_self f rest).filter _).nodup hnd) hnew'
    have hsingles : (List.filter (fun f => !isFragFrame f) (f :: rest)).map singleDelivery =
        (if isFragFrame f then [] else [singleDelivery f]) ++
          (rest.filter fun f => !isFragFrame f).map singleDelivery := by
      cases hf : isFragFrame f
      · rw [List.filter_cons_of_pos (by rw [hf]; rfl)]; rfl
      · rw [List.filter_cons_of_neg (by rw [hf]; exact Bool.false_ne_true)]; rfl
    rw [rxRunF_cons, List.reverse_cons, List.append_assoc, List.singleton_append]
    refine ⟨hI, ?_⟩
    rw [deliveries_cons, ← List.append_assoc, hsingles]
    exact perm_step hP1 hP

theorem allFrames_nodup : ∀ (msgs : List FMsg), (∀ m ∈ msgs, m.WF) → (msgs.map FMsg.base).Nodup →
    (msgs.flatMap FMsg.frames).Nodup := by
  intro msgs
  induction msgs with
  | nil => intro _ _; exact List.nodup_nil
  | cons m ms ih =>
    intro hwf hb
    rw [List.map_cons, List.nodup_cons] at hb
    rw [List.flatMap_cons, List.nodup_append]
    refine ⟨List.Pairwise.map m.frameAt (fun _ _ hne h => hne (frameAt_idx_inj m h)) List.nodup_range, ih (fun x hx => hwf x (List.mem_cons_of_mem _ hx)) hb.2, ?_⟩
    intro a ha b hbm hab
    obtain ⟨k, hk, rfl⟩ := mem_frames.mp ha
    obtain ⟨m', hm', hb'⟩ := List.mem_flatMap.mp hbm
    obtain ⟨j, hj, rfl⟩ := mem_frames.mp hb'
    have hne : m.base ≠ m'.base := fun h => hb.1 (List.mem_map.mpr ⟨m', hm', h.symm⟩)
    exact frameAt_ne_of_base_ne m m' (hwf m (List.mem_cons_self ..)) (hwf m' (List.mem_cons_of_mem _ hm')) hne j k
      hab.symm

end Ndn.C10
