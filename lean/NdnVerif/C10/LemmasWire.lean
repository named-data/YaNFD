/-
  C10 helper lemmas: decoding an encoded LpPacket gives the LpPacket back.
-/
import NdnVerif.C10.LemmasTx
namespace Ndn.C10

theorem two64_eq : two64 = 2 ^ 64 := by decide

theorem tlv_ne_nil (t : Nat) (v : Bytes) : tlv t v ≠ [] :=
  List.append_ne_nil_of_left_ne_nil (List.append_ne_nil_of_left_ne_nil (encTL_ne_nil t) _) _

theorem decTL_tlv (t : Nat) (v rest : Bytes) (ht : t < 2 ^ 64) :
    decTL (tlv t v ++ rest) = some (t, encTL v.length ++ (v ++ rest)) := by
  rw [tlv, List.append_assoc, List.append_assoc]; exact decTL_encTL t ht _

theorem decFields_step (t : Nat) (v rest : Bytes) (acc : Frame) (sf : Bool)
    (ht : t < 2 ^ 64) (hv : v.length < 2 ^ 64) :
    decFields (tlv t v ++ rest) acc sf =
      (if t = ttSequence then decFields rest { acc with seq := some (beDec v % two64) } sf
        else if t = ttFragIndex then decFields rest { acc with idx := some (beDec v % two64) } sf
        else if t = ttFragCount then decFields rest { acc with cnt := some (beDec v % two64) } sf
        else if t = ttPitToken then decFields rest { acc with token := v } sf
        else if t = ttIncomingFaceId then decFields rest { acc with inFace := some (beDec v % two64) } sf
        else if t = ttCongestionMark then decFields rest { acc with mark := some (beDec v % two64) } sf
        else if t = ttFragment then decFields rest { acc with frag := v } true
        else if otherKnown t then decFields rest acc sf
        else if critical t then none
        else decFields rest acc sf) := by
  have e1 := decTL_tlv t v rest ht
  have e2 := decTL_encTL v.length hv (v ++ rest)
  rw [decFields.eq_def]
  split
  · rename_i hb
    exact absurd (List.append_eq_nil_iff.mp hb).1 (tlv_ne_nil t v)
  · split
    · rename_i h; rw [e1] at h; cases h
    · rename_i t' r1 h
      rw [e1] at h; cases h
      split
      · rename_i h2; rw [e2] at h2; cases h2
      · rename_i l' r2 h2
        rw [e2] at h2; cases h2
        rw [if_neg (Nat.not_lt.mpr (List.length_append ▸ Nat.le_add_right ..)), List.take_left, List.drop_left]

theorem beDec_encNat_mod (v : Nat) (hv : v < two64) : beDec (encNat v) % two64 = v := by
  rw [Ndn.beDec_encNat (two64_eq ▸ hv), Nat.mod_eq_of_lt hv]

theorem encNat_len_lt (v : Nat) : (encNat v).length < 2 ^ 64 := by
  rw [encNat_length]; exact Nat.lt_of_le_of_lt (natLen_le8 v) (by decide)

/-- values a frame can be encoded with: 64-bit numbers; lengths below 2^32 (any bound keeping `innerLen` < 2^64 would do) -/
structure Frame.Encodable (f : Frame) : Prop where
  seq : ∀ v, f.seq = some v → v < two64
  idx : ∀ v, f.idx = some v → v < two64
  cnt : ∀ v, f.cnt = some v → v < two64
  inFace : ∀ v, f.inFace = some v → v < two64
  mark : ∀ v, f.mark = some v → v < two64
  token : f.token.length < 2 ^ 32
  frag : f.frag.length < 2 ^ 32

theorem decFields_optSeq (o : Option Nat) (rest : Bytes) (acc : Frame) (sf : Bool)
    (hacc : acc.seq = none) (ho : ∀ v, o = some v → v < two64) :
    decFields (optFixed8 ttSequence o ++ rest) acc sf = decFields rest { acc with seq := o } sf := by
  cases o with
  | none => cases acc; cases hacc; rfl
  | some v =>
    rw [optFixed8, decFields_step _ _ _ _ _ (by decide) (by rw [be_length]; decide),
      beDec_be 8 v (two64_eq ▸ ho v rfl), Nat.mod_eq_of_lt (ho v rfl)]
    rfl

/-- An optional natural-number element in front (FragIndex, FragCount, IncomingFaceId, CongestionMark).  `set` is the field the loop
    writes for the tag `t`: `hstep` is `decFields_step` at `t`, its if-chain evaluated by unification once `set` is given. -/
theorem decFields_optNat {t : Nat} {set : Option Nat → Frame → Frame} {rest : Bytes} {acc : Frame} {sf : Bool}
    (hstep : ∀ v, decFields (tlv t (encNat v) ++ rest) acc sf =
      decFields rest (set (some (beDec (encNat v) % two64)) acc) sf)
    (hnone : set none acc = acc) (o : Option Nat) (ho : ∀ v, o = some v → v < two64) :
    decFields (optNat t o ++ rest) acc sf = decFields rest (set o acc) sf := by
  cases o with
  | none => rw [hnone]; rfl
  | some v => rw [optNat, hstep, beDec_encNat_mod v (ho v rfl)]

theorem decFields_token (tok rest : Bytes) (acc : Frame) (sf : Bool)
    (hacc : acc.token = []) (ht : tok.length < 2 ^ 32) :
    decFields ((if tok = [] then [] else tlv ttPitToken tok) ++ rest) acc sf =
      decFields rest { acc with token := tok } sf := by
  by_cases h : tok = []
  · rw [if_pos h, h]; cases acc; cases hacc; rfl
  · rw [if_neg h, decFields_step _ _ _ _ _ (by decide) (Nat.lt_trans ht (by decide))]
    rfl

theorem decFields_fragment (frag : Bytes) (acc : Frame) (sf : Bool) (hf : frag.length < 2 ^ 32) :
    decFields (tlv ttFragment frag) acc sf = some ({ acc with frag := frag }, true) := by
  have := decFields_step ttFragment frag [] acc sf (by decide) (Nat.lt_trans hf (by decide))
  rw [List.append_nil] at this
  rw [this]
  show decFields [] { acc with frag := frag } true = _
  rw [decFields.eq_def]

theorem decFields_encInner (f : Frame) (hf : f.Encodable) :
    decFields (encInner f) {} false = some (f, true) := by
  -- `decFields_step` for a natural-number element (the `hstep` of `decFields_optNat`)
  have nat : ∀ {t : Nat} (ht : t < 2 ^ 64) (rest : Bytes) (acc : Frame) (v : Nat),
      decFields (tlv t (encNat v) ++ rest) acc false = _ :=
    fun ht rest acc v => decFields_step _ _ rest acc false ht (encNat_len_lt v)
  unfold encInner
  simp only [List.append_assoc]
  rw [decFields_optSeq _ _ _ _ rfl hf.seq,
    decFields_optNat (set := fun o a => { a with idx := o }) (nat (by decide) _ _) rfl _ hf.idx,
    decFields_optNat (set := fun o a => { a with cnt := o }) (nat (by decide) _ _) rfl _ hf.cnt,
    decFields_token _ _ _ _ rfl hf.token,
    decFields_optNat (set := fun o a => { a with inFace := o }) (nat (by decide) _ _) rfl _ hf.inFace,
    decFields_optNat (set := fun o a => { a with mark := o }) (nat (by decide) _ _) rfl _ hf.mark,
    decFields_fragment _ _ _ hf.frag]

theorem optNatLen_le18 (t : Nat) (o : Option Nat) : optNatLen t o ≤ 9 + 1 + 8 := by
  cases o with
  | none => exact Nat.zero_le _
  | some v => exact Nat.add_le_add (Nat.add_le_add_right (tlLen_le9 t) 1) (natLen_le8 v)

theorem innerLen_lt (f : Frame) (hf : f.Encodable) : innerLen f < 2 ^ 64 := by
  have htok : tokLen f.token ≤ 1 + 9 + f.token.length := by
    unfold tokLen
    split
    · exact Nat.zero_le _
    · exact Nat.add_le_add_right (Nat.add_le_add_left (tlLen_le9 _) 1) _
  have h := innerLen_le (optNatLen_le18 _ f.idx) (optNatLen_le18 _ f.cnt) htok (optNatLen_le18 _ f.inFace)
    (optNatLen_le18 _ f.mark) (tlLen_le9 f.frag.length)
  have h1 := hf.token
  have h2 := hf.frag
  omega

theorem decFrame_encFrame (f : Frame) (hf : f.Encodable) : decFrame (encFrame f) = Decoded.lp f true := by
  have hlen : (encInner f).length < 2 ^ 64 := by rw [encInner_length]; exact innerLen_lt f hf
  have e1 : decTL (encFrame f) = some (ttLpPacket, encTL (encInner f).length ++ encInner f) := by
    have := decTL_tlv ttLpPacket (encInner f) [] (by decide)
    rwa [List.append_nil, List.append_nil] at this
  have e2 : decTL (encTL (encInner f).length ++ encInner f) = some ((encInner f).length, encInner f) :=
    decTL_encTL _ hlen _
  unfold decFrame
  rw [e1]
  dsimp only
  rw [e2]
  dsimp only
  rw [if_neg (Nat.lt_irrefl _), if_pos rfl, List.take_length, decFields_encInner f hf]

end Ndn.C10
