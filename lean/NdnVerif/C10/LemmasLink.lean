/-
  C10 helper lemmas: the sender's output as the receiver's messages; bytes ↔ decoded frames.
-/
import NdnVerif.C10.LemmasRx
import NdnVerif.C10.LemmasWire
namespace Ndn.C10

theorem rxRun_cons (reasm : Bool) (validL3 : Bytes → Bool) (st : Store) (fr : Bytes) (rest : List Bytes) :
    rxRun reasm validL3 st (fr :: rest) =
      ((rxRun reasm validL3 (handleFrame reasm validL3 st fr).1 rest).1,
        (handleFrame reasm validL3 st fr).2 :: (rxRun reasm validL3 (handleFrame reasm validL3 st fr).1 rest).2) := rfl

theorem rxRun_map_encFrame (reasm : Bool) (validL3 : Bytes → Bool) :
    ∀ (fs : List Frame) (store : Store), (∀ f ∈ fs, f.Encodable) →
      rxRun reasm validL3 store (fs.map encFrame) = rxRunF reasm validL3 store fs := by
  intro fs
  induction fs with
  | nil => intro store _; rfl
  | cons f rest ih =>
    intro store h
    have hf : handleFrame reasm validL3 store (encFrame f) = handleLp reasm validL3 store f := by
      rw [handleFrame, decFrame_encFrame f (h f (List.mem_cons_self ..))]; rfl
    rw [List.map_cons, rxRun_cons, rxRunF_cons, hf, ih _ fun g hg => h g (List.mem_cons_of_mem _ hg)]

/-- the message the receiver sees when the sender fragments -/
def msgOf (cfg : TxCfg) (st : TxSt) (p : OutPkt) : FMsg :=
  ⟨hdrOf cfg st p, st.nextSeq % two64, chunks (payloadRoom cfg st p) p.wire⟩

namespace FMsg

theorem frames_length (m : FMsg) : m.frames.length = m.parts.length := by
  rw [FMsg.frames, List.length_map, List.length_range]

theorem frames_frags (m : FMsg) : m.frames.map (·.frag) = m.parts := by
  apply List.ext_getElem
  · rw [List.length_map, m.frames_length]
  · intro i h1 h2
    simp only [FMsg.frames, List.map_map, List.getElem_map, List.getElem_range, Function.comp, FMsg.frameAt]
    rw [List.getD_eq_getElem?_getD, List.getElem?_eq_getElem h2]; rfl

end FMsg

/-- admissible packets (property quantifier) -/
structure PktOk (p : OutPkt) : Prop where
  size : p.wire.length ≤ specMaxPkt
  tok : p.token.length ≤ specMaxToken
  mark : ∀ v, p.mark = some v → v < two64
  inFace : ∀ v, p.inFace = some v → v < two64

theorem congestionStep_mark_lt (cfg : TxCfg) (st : TxSt) (p : OutPkt) (h : ∀ v, p.mark = some v → v < two64) :
    ∀ v, (congestionStep cfg st p).1 = some v → v < two64 := by
  intro v hv
  unfold congestionStep at hv
  by_cases h1 : cfg.congMarking = true
  · rw [if_pos h1] at hv
    by_cases h2 : st.congCheck > cfg.threshold
    · rw [if_pos h2] at hv
      by_cases h3 : p.congested = true
      · rw [if_pos h3] at hv; cases hv; decide
      · rw [if_neg h3] at hv; exact h v hv
    · rw [if_neg h2] at hv; exact h v hv
  · rw [if_neg h1] at hv; exact h v hv

theorem hdrOf_encodable (cfg : TxCfg) (st : TxSt) (p : OutPkt) (hp : PktOk p) (s i n : Option Nat)
    (hs : ∀ v, s = some v → v < two64) (hi : ∀ v, i = some v → v < two64) (hn : ∀ v, n = some v → v < two64)
    (part : Bytes) (hpart : part.length < 2 ^ 32) :
    Frame.Encodable { hdrOf cfg st p with seq := s, idx := i, cnt := n, frag := part } := by
  refine ⟨hs, hi, hn, ?_, congestionStep_mark_lt cfg st p hp.mark, ?_, hpart⟩
  · intro v hv
    change (if cfg.ifiEnabled then p.inFace else none) = some v at hv
    by_cases hifi : cfg.ifiEnabled = true
    · rw [if_pos hifi] at hv; exact hp.inFace v hv
    · rw [if_neg hifi] at hv; cases hv
  · exact Nat.lt_of_le_of_lt hp.tok (by decide)

theorem sendPacketF_frag_frames (cfg : TxCfg) (st : TxSt) (p : OutPkt)
    (h : ¬ (encFrame (wholeOf cfg st p)).length ≤ cfg.mtu) (hf : cfg.fragEnabled = true)
    (hov : ¬ cfg.mtu ≤ overheadOf (hdrOf cfg st p)) :
    (sendPacketF cfg st p).2.1 = (msgOf cfg st p).frames := by
  rw [sendPacketF_frag cfg st p h hf hov]
  refine (numberFrom_eq_range ..).trans (List.map_congr_left fun k _ => ?_)
  rw [Nat.zero_add, ← Nat.mod_add_mod]; rfl

theorem sendPacketF_frames (cfg : TxCfg) (st : TxSt) (p : OutPkt) :
    (sendPacketF cfg st p).2.1 = [wholeOf cfg st p] ∧ (encFrame (wholeOf cfg st p)).length ≤ cfg.mtu ∨
    (sendPacketF cfg st p).2.1 = [] ∨
    (sendPacketF cfg st p).2.1 = (msgOf cfg st p).frames ∧ ¬ cfg.mtu ≤ overheadOf (hdrOf cfg st p) := by
  by_cases hfit : (encFrame (wholeOf cfg st p)).length ≤ cfg.mtu
  · exact .inl ⟨by rw [sendPacketF_single cfg st p hfit], hfit⟩
  · by_cases hfrag : cfg.fragEnabled = true
    · by_cases hov : cfg.mtu ≤ overheadOf (hdrOf cfg st p)
      · exact .inr (.inl (by rw [sendPacketF_tiny cfg st p hfit hfrag hov]))
      · exact .inr (.inr ⟨sendPacketF_frag_frames cfg st p hfit hfrag hov, hov⟩)
    · exact .inr (.inl (by rw [sendPacketF_nofrag cfg st p hfit (Bool.not_eq_true _ ▸ hfrag)]))

/-- `c` pieces of `e ≥ 44` bytes (`payloadRoom_ge`) out of at most 8800 (`specMaxPkt`): at most 201, within
    `maxFragments` (regenerated, 400): 401 pieces would need 400 · 44 > 8800 bytes -/
theorem count_le_maxFragments {c e len : Nat} (hmul : c * e ≤ len + e) (he : 44 ≤ e) (hlen : len ≤ 8800) :
    c ≤ maxFragments := by
  have hmf : maxFragments = 400 := by decide
  rw [hmf]
  apply Nat.le_of_not_lt
  intro hgt
  have := Nat.mul_le_mul_right e hgt
  omega

theorem msgOf_wf (cfg : TxCfg) (st : TxSt) (p : OutPkt) (hp : PktOk p) (hmtu : specMinMtu ≤ cfg.mtu)
    (hnofit : ¬ (encFrame (wholeOf cfg st p)).length ≤ cfg.mtu) : (msgOf cfg st p).WF := by
  have hroom := payloadRoom_ge cfg st p hmtu hp.tok
  have hbig := room_lt_wire cfg st p hp.size hp.tok hnofit (not_tiny cfg st p hmtu hp.tok)
  refine ⟨Nat.mod_lt _ (by decide), chunks_length_ge2 _ (Nat.le_trans (by decide) hroom) _ hbig, ?_,
    chunks_mem_ne_nil _ _ (List.ne_nil_of_length_pos (Nat.zero_lt_of_lt hbig))⟩
  exact count_le_maxFragments (chunks_length_mul (payloadRoom cfg st p) p.wire) hroom hp.size

theorem msgOf_delivery (cfg : TxCfg) (st : TxSt) (p : OutPkt) :
    (msgOf cfg st p).delivery = ⟨p.wire, p.token, (congestionStep cfg st p).1⟩ := by
  rw [FMsg.delivery, msgOf, chunks_flatten]
  rfl

theorem wholeOf_encodable (cfg : TxCfg) (st : TxSt) (p : OutPkt) (hp : PktOk p) : (wholeOf cfg st p).Encodable :=
  hdrOf_encodable cfg st p hp none none none nofun nofun nofun p.wire (Nat.lt_of_le_of_lt hp.size (by decide))

theorem msgOf_frames_encodable (cfg : TxCfg) (st : TxSt) (p : OutPkt) (hp : PktOk p) :
    ∀ f ∈ (msgOf cfg st p).frames, f.Encodable := by
  intro f hf
  obtain ⟨k, hk, rfl⟩ := mem_frames.mp hf
  -- at most |wire| + 1 fragments
  have hn : (msgOf cfg st p).parts.length < two64 :=
    Nat.lt_of_le_of_lt (Nat.le_trans (chunks_length_le_succ _ p.wire) (Nat.succ_le_succ hp.size)) (by decide)
  exact hdrOf_encodable cfg st p hp _ _ _ (fun v hv => Option.some.inj hv ▸ Nat.mod_lt _ (by decide))
    (fun v hv => Option.some.inj hv ▸ Nat.lt_trans hk hn) (fun v hv => Option.some.inj hv ▸ hn) _
    (Nat.lt_of_le_of_lt (Nat.le_trans (chunks_mem_length_le_length _ _ _ (part_mem hk)) hp.size) (by decide))

/-- whatever is sent of an admissible packet, in any configuration, the receiver decodes back (`decFrame_encFrame`) -/
theorem sendPacketF_encodable (cfg : TxCfg) (st : TxSt) (p : OutPkt) (hp : PktOk p) :
    ∀ f ∈ (sendPacketF cfg st p).2.1, f.Encodable := by
  intro f hf
  rcases sendPacketF_frames cfg st p with ⟨h, _⟩ | h | ⟨h, _⟩ <;> rw [h] at hf
  · cases List.mem_singleton.mp hf; exact wholeOf_encodable cfg st p hp
  · cases hf
  · exact msgOf_frames_encodable cfg st p hp f hf

/-- the fragmented messages produced by sending `ps` one after the other from state `st` -/
def msgsOfAll (cfg : TxCfg) : TxSt → List OutPkt → List FMsg
  | _, [] => []
  | st, p :: ps =>
    (if (encFrame (wholeOf cfg st p)).length ≤ cfg.mtu then [] else [msgOf cfg st p]) ++
      msgsOfAll cfg (sendPacketF cfg st p).1 ps

def fragTotal (cfg : TxCfg) : TxSt → List OutPkt → Nat
  | _, [] => 0
  | st, p :: ps =>
    (if (encFrame (wholeOf cfg st p)).length ≤ cfg.mtu then 0 else (msgOf cfg st p).parts.length) +
      fragTotal cfg (sendPacketF cfg st p).1 ps

theorem nextSeq_advance (cfg : TxCfg) (hmtu : specMinMtu ≤ cfg.mtu) (hfrag : cfg.fragEnabled = true)
    (st : TxSt) (p : OutPkt) (hp : PktOk p) (x : Nat) :
    ((sendPacketF cfg st p).1.nextSeq + x) % two64 =
      (st.nextSeq + ((if (encFrame (wholeOf cfg st p)).length ≤ cfg.mtu then 0
        else (msgOf cfg st p).parts.length) + x)) % two64 := by
  by_cases hfit : (encFrame (wholeOf cfg st p)).length ≤ cfg.mtu
  · rw [sendPacketF_single cfg st p hfit, if_pos hfit, Nat.zero_add]
  · rw [sendPacketF_frag cfg st p hfit hfrag (not_tiny cfg st p hmtu hp.tok), if_neg hfit, ← Nat.add_assoc]
    exact Nat.mod_add_mod ..

theorem msgsOfAll_base (cfg : TxCfg) (hmtu : specMinMtu ≤ cfg.mtu) (hfrag : cfg.fragEnabled = true) :
    ∀ (ps : List OutPkt) (st : TxSt), (∀ p ∈ ps, PktOk p) →
      ∀ m ∈ msgsOfAll cfg st ps, ∃ d, m.base = (st.nextSeq + d) % two64 ∧
        d + m.parts.length ≤ fragTotal cfg st ps := by
  intro ps
  induction ps with
  | nil => intro st _ m hm; cases hm
  | cons p ps ih =>
    intro st hok m hm
    rw [msgsOfAll, List.mem_append] at hm
    rw [fragTotal]
    rcases hm with hm | hm
    · by_cases hfit : (encFrame (wholeOf cfg st p)).length ≤ cfg.mtu
      · rw [if_pos hfit] at hm; cases hm
      · rw [if_neg hfit] at hm ⊢
        cases List.mem_singleton.mp hm
        exact ⟨0, rfl, by rw [Nat.zero_add]; exact Nat.le_add_right ..⟩
    · obtain ⟨d, hd1, hd2⟩ := ih _ (fun q hq => hok q (List.mem_cons_of_mem _ hq)) m hm
      rw [nextSeq_advance cfg hmtu hfrag st p (hok p (List.mem_cons_self ..))] at hd1
      exact ⟨_, hd1, Nat.add_assoc .. ▸ Nat.add_le_add_left hd2 _⟩

end Ndn.C10
