/-
  C13/LoopBase.lean — shared by the proofs about the two generated parse loops: the bytes of a group
  element by element, distinct type numbers; the streams the loops are specified on as one relation
  (`Str`) and what a loop has to establish about it (`Sound`: `LoopSpec` and `FailSpec` follow).
-/
import NdnVerif.C13.Codec
import NdnVerif.C13.LoopFailSpec
namespace Ndn.C13

namespace Vals

theorem append_assoc : ∀ (a b c : Vals), (a.append b).append c = a.append (b.append c)
  | .nil, _, _ => rfl
  | .cons v a, b, c => congrArg (Vals.cons v) (append_assoc a b c)

theorem append_nil : ∀ (a : Vals), a.append .nil = a
  | .nil => rfl
  | .cons v a => congrArg (Vals.cons v) (append_nil a)

theorem snoc_append (a : Vals) (v : Val) (r : Vals) : (a.snoc v).append r = a.append (.cons v r) :=
  append_assoc a _ r

theorem length_snoc : ∀ (a : Vals) (v : Val), (a.snoc v).length = a.length + 1
  | .nil, _ => rfl
  | .cons _ a, v => congrArg (· + 1) (length_snoc a v)

end Vals

theorem groupBytes_junk (typ t : Nat) (body : Bytes) (g : List El) (rest : Bytes) :
    groupBytes typ (.junk t body :: g) ++ rest =
      encTL t ++ (encTL body.length ++ (body ++ (groupBytes typ g ++ rest))) := by
  simp only [groupBytes, List.flatMap_cons, El.bytes, tlv, List.append_assoc]

theorem groupBytes_cons_item (t l : Nat) (body : Bytes) (v : Val) (g : List El) :
    groupBytes t (.item l body v :: g) = encTL t ++ encTL l ++ body ++ groupBytes t g := rfl

/-- the same with what follows the group, bracketed as the loops read it -/
theorem groupBytes_item (typ l : Nat) (body : Bytes) (v : Val) (g : List El) (rest : Bytes) :
    groupBytes typ (.item l body v :: g) ++ rest =
      encTL typ ++ (encTL l ++ (body ++ (groupBytes typ g ++ rest))) := by
  simp only [groupBytes_cons_item, List.append_assoc]

theorem groupBytes_append (t : Nat) (a b : List El) : groupBytes t (a ++ b) = groupBytes t a ++ groupBytes t b :=
  List.flatMap_append

theorem tlv_append (t : Nat) (body rest : Bytes) :
    tlv t body ++ rest = encTL t ++ (encTL body.length ++ (body ++ rest)) := by
  simp only [tlv, List.append_assoc]

theorem fuel_succ {n f : Nat} (h : n < f) : ∃ f', f = f' + 1 :=
  Nat.exists_eq_add_one.mpr (Nat.zero_lt_of_lt h)

/-- the one arithmetic fact about fuel: an element takes a unit, and what follows it is shorter -/
theorem fuel_after {t : Nat} {Y X : Bytes} {f : Nat} (h : (encTL t ++ Y).length < f + 1)
    (hX : X.length ≤ Y.length) : X.length < f := by
  have := tlLen_pos t
  rw [List.length_append, encTL_length] at h
  omega

theorem itemVals_append : ∀ (a b : List El), itemVals (a ++ b) = itemVals a ++ itemVals b
  | [], _ => rfl
  | .junk _ _ :: a, b => itemVals_append a b
  | .item _ _ v :: a, b => congrArg (v :: ·) (itemVals_append a b)

theorem self_match {s : Slot} (hh : s.hasTyp = true) : (s.hasTyp && s.typ == s.typ) = true := by
  rw [hh, beq_self_eq_true]; rfl

theorem knownTyp_of_mem (slots : List Slot) (s : Slot) (hm : s ∈ slots) (hh : s.hasTyp = true) :
    knownTyp slots s.typ = true :=
  List.any_eq_true.2 ⟨s, hm, self_match hh⟩

theorem nomatch_of_ne {s : Slot} {t : Nat} (h : s.hasTyp = true → t ≠ s.typ) :
    (s.hasTyp && s.typ == t) = false := by
  cases hq : s.hasTyp with
  | false => rfl
  | true =>
    simp only [Bool.true_and, beq_eq_false_iff_ne, ne_eq]
    exact fun e => h hq e.symm

theorem distinct_nomatch (s : Slot) (post : List Slot) (hs : s.hasTyp = true) :
    ∀ pre : List Slot, DistinctTyps (pre ++ s :: post) →
      ∀ p ∈ pre, (p.hasTyp && p.typ == s.typ) = false
  | [], _, p, hp => by cases hp
  | q :: pre, hd, p, hp => by
    rcases List.mem_cons.1 hp with rfl | hp'
    · exact nomatch_of_ne fun hq => hd.1 hq s (List.mem_append_right _ (List.mem_cons_self ..)) hs
    · exact distinct_nomatch s post hs pre hd.2 p hp'

theorem merge_zero (cur v : Val) : merge 0 cur v = v := rfl

/-- The element streams both generated loops are specified on, and what a parse of them ends in: a group
    of acceptable elements per slot, in slot order, up to the end of the input (the value of every slot) or
    up to an element that has to be refused (an error, whatever follows).  `LoopSpec` is the first shape,
    `FailSpec` the second; `Sound` is what a loop has to establish. -/
inductive Str (all : List Slot) (ic : Bool) : List Slot → Bytes → Option Vals → Prop
  | nil : Str all ic [] [] (some .nil)
  | group {s : Slot} {ss : List Slot} {g : List El} {B : Bytes} {o : Option Vals} :
      GroupOk all ic s g → Str all ic ss B o →
      Str all ic (s :: ss) (groupBytes s.typ g ++ B) (o.map (.cons (slotResult s g)))
  | bad {s : Slot} {ss : List Slot} {gpart : List El} {bad : Bytes} (tail : Bytes) :
      (∀ e ∈ gpart, ElOk all ic s e) → BadHead all ic s gpart bad →
      Str all ic (s :: ss) (groupBytes s.typ gpart ++ (bad ++ tail)) none
  /-- an unknown element in front of the group of the next slot; it is the only stream of a model
      without slots (inside a group it is an `El.junk`) -/
  | junk {ss : List Slot} {B : Bytes} {o : Option Vals} (t : Nat) (body : Bytes) :
      t < 2 ^ 64 → body.length < 2 ^ 63 → knownTyp all t = false → (ic = true ∨ critical t = false) →
      Str all ic ss B o → Str all ic ss (tlv t body ++ B) o
  | crit {ss : List Slot} (t : Nat) (body tail : Bytes) :
      t < 2 ^ 64 → body.length < 2 ^ 64 → knownTyp all t = false → ic = false → critical t = true →
      Str all ic ss (tlv t body ++ tail) none

def Sound (ordered : Bool) : Prop :=
  ∀ (slots : List Slot) (ic : Bool) (b : Bytes) (o : Option Vals),
    DistinctTyps slots → Str slots ic slots b o → (runSlots ordered slots ic b).Ends o

namespace Str

theorem of_groups {all : List Slot} {ic : Bool} : ∀ {ss : List Slot} {gs : List (List El)},
    GroupsOk all ic ss gs → Str all ic ss (groupsBytes ss gs) (some (expected ss gs))
  | [], [], _ => .nil
  | [], _ :: _, h => h.elim
  | _ :: _, [], h => h.elim
  | _ :: _, _ :: _, h => .group h.1 (of_groups h.2)

theorem prepend {all : List Slot} {ic : Bool} {ss : List Slot} {B : Bytes} {o : Option Vals}
    (h : Str all ic ss B o) : ∀ {pre : List Slot} {gs : List (List El)}, GroupsOk all ic pre gs →
    Str all ic (pre ++ ss) (groupsBytes pre gs ++ B) (o.map ((expected pre gs).append ·))
  | [], [], _ => by cases o <;> exact h
  | [], _ :: _, hg => hg.elim
  | _ :: _, [], hg => hg.elim
  | s :: pre, g :: gs, hg => by
    have := Str.group hg.1 (prepend h hg.2)
    rw [← List.append_assoc] at this
    cases o <;> exact this

end Str

theorem loopSpec_of_sound {ord : Bool} (h : Sound ord) : LoopSpec ord :=
  fun slots ic _ hd _ hg => h slots ic _ _ hd (.of_groups hg)

theorem failSpec_of_sound {ord : Bool} (h : Sound ord) : FailSpec ord := by
  intro slots pre post s ic gpre gpart bad tail hs hd hgpre hgpart hbad
  subst hs
  exact h _ ic _ none hd ((Str.bad tail hgpart hbad).prepend hgpre)

end Ndn.C13
