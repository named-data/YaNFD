/-
  C13/LoopOFail.lean — the ORDERED generated parse loop meets `FailSpec` (a case of `LO.sound`), with a
  concrete instance; and the two loops under one name (`sound`, `loopSpec`), which is what UnknownLemmas.lean
  and Props.lean take.
-/
import NdnVerif.C13.LoopO
import NdnVerif.C13.LoopUFail
namespace Ndn.C13
namespace LOF
open LO

theorem loopO_fail : FailSpec true := failSpec_of_sound sound

/-! ## non-vacuity: ordered model binary 7, sequence of naturals 9; one item of slot 7, then an
    unknown critical element (type 241), `ignoreCritical = false` -/

def exSlots : List Slot := compile (.cons 7 .binary (.cons 9 (.seq (.natural false)) .nil))

theorem exSlots_eq : exSlots =
    [⟨7, true, false, 0, .absent, readKind .binary⟩,
     ⟨9, true, false, 1, .seq .nil, readKind (.seq (.natural false))⟩] := rfl

/-- the concrete parse, evaluated -/
example : runSlots true exSlots false [7, 2, 170, 187, 241, 1, 0, 9, 1, 5] = .err 2 := by
  rfl

/-- the hypotheses of `loopO_fail` are satisfiable: `pre = []`, current slot 7 with one item, then
    the critical element 241, then an item of slot 9 as the arbitrary tail -/
example : ∃ a, runSlots true exSlots false [7, 2, 170, 187, 241, 1, 0, 9, 1, 5] = .err a :=
  LUF.ex_fail true loopO_fail

end LOF

theorem sound : ∀ ord, Sound ord
  | false => LU.sound
  | true => LO.sound

theorem loopSpec (ord : Bool) : LoopSpec ord := loopSpec_of_sound (sound ord)

end Ndn.C13
