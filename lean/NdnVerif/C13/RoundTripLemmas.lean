/-
  C13/RoundTripLemmas.lean — the element stream the generated encoder emits, read off the item list of
  Text.lean: the bytes of the live items are the encoding (for every schema and value); an item of a valid
  field is the field's value, an element of its sequence or an entry of its map (`FieldItem`), its stream
  element (`elOf`) has the item's bytes and is accepted by the field's slot; merging the items of a field
  rebuilds the value (`head_group`).
-/
import NdnVerif.C13.LoopBase
import NdnVerif.C13.Text
namespace Ndn.C13

/-- the item a present value of a plain kind is written as -/
abbrev itemOf (k : Kind) (v : Val) : El := .item (bodyOf k v).length (bodyOf k v) v

/-- one item per element of a sequence -/
def seqItems (sub : Kind) : Vals → List El
  | .nil => []
  | .cons e es => .item (bodyOf sub e).length (bodyOf sub e) e :: seqItems sub es

/-- the item of a map entry: the key's value bytes, then the whole value TLV -/
abbrev pairItem (kk : Kind) (vt : Nat) (vk : Kind) (a b : Val) : El :=
  .item (bodyOf kk a).length (bodyOf kk a ++ (encTL vt ++ encTL (bodyOf vk b).length ++ bodyOf vk b)) (.pair a b)

def headLive (t : Nat) (k : Kind) (v : Val) : List (Nat × Kind × Val) :=
  liveItems (.cons t k .nil) (.cons v .nil)

/-- the stream element of an item: a pair item carries the key's value bytes followed by the whole
    value TLV, every other item its value bytes -/
def elOf (it : Nat × Kind × Val) : El :=
  match it.2.1 with
  | .map kk vt vk =>
    match it.2.2 with
    | .map (.cons (.pair a b) _) => pairItem kk vt vk a b
    | v => .item 0 [] v
  | k => itemOf k it.2.2

/-- the elements the encoder emits for one field (the type number of an item is the slot's, see `El.bytes`) -/
def mkGroup (t : Nat) (k : Kind) (v : Val) : List El := (headLive t k v).map elOf

def mkGroups : Fields → Vals → List (List El)
  | .cons t k fs, .cons v vs => mkGroup t k v :: mkGroups fs vs
  | _, _ => []

/-- the kind whose reader decodes one item of a field of kind `k` -/
def elemKind : Kind → Kind
  | .seq sub => sub
  | .map _ _ vk => vk
  | k => k

abbrev slotOf (t : Nat) (k : Kind) : Slot := ⟨t, k.hasTyp && t != 0, k.required, k.multi, k.init, readKind k⟩

theorem compile_cons (t : Nat) (k : Kind) (fs : Fields) : compile (.cons t k fs) = slotOf t k :: compile fs := by
  rw [compile]

theorem elemKindOk_multi {k : Kind} (h : elemKindOk k = true) : k.multi = 0 := by
  cases k <;> first | rfl | cases h

theorem elemKind_plain {k : Kind} (h : k.multi = 0) : elemKind k = k := by
  cases k <;> first | rfl | cases h

theorem init_plain {k : Kind} (h : k.multi = 0) : k.init = .absent := by
  cases k <;> first | rfl | cases h

theorem keyKindOk_facts {k : Kind} (h : keyKindOk k = true) :
    k.multi = 0 ∧ wfKind k = true ∧ ∀ o fs, k ≠ .struct o fs := by
  cases k with
  | natural => exact ⟨rfl, rfl, nofun⟩
  | string => exact ⟨rfl, rfl, nofun⟩
  | _ => cases h

theorem required_multi (k : Kind) (h : k.required = true) : k.multi = 0 := by
  cases k <;> first | rfl | cases h

theorem encKind_absent (k : Kind) (t : Nat) : encKind k t .absent = [] := by
  cases k <;> rfl

theorem validElems_cons {sub : Kind} {e : Val} {es : Vals} (hok : elemKindOk sub = true)
    (hwf : wfKind sub = true) (h : validElems sub (.cons e es) = true) :
    Present sub e ∧ validElems sub es = true := by
  simp only [validElems, Bool.and_eq_true] at h
  refine ⟨present_of_valid hwf (elemKindOk_multi hok) h.1.2 ?_, h.2⟩
  rintro rfl
  exact Bool.false_ne_true h.1.1

theorem validPairs_cons {kk vk : Kind} {y : Val} {r : Vals} (hkk : keyKindOk kk = true)
    (hok : elemKindOk vk = true) (hwf : wfKind vk = true) (h : validPairs kk vk (.cons y r) = true) :
    ∃ a b, y = .pair a b ∧ Present kk a ∧ Present vk b ∧ validPairs kk vk r = true := by
  cases y with
  | pair a b =>
    simp only [validPairs, Bool.and_eq_true] at h
    obtain ⟨hkm, hkwf, _⟩ := keyKindOk_facts hkk
    refine ⟨a, b, rfl, present_of_valid hkwf hkm h.1.1.2 ?_, present_of_valid hwf (elemKindOk_multi hok) h.1.2 ?_, h.2⟩
    · rintro rfl; exact Bool.false_ne_true h.1.1.1.1
    · rintro rfl; exact Bool.false_ne_true h.1.1.1.2
  | _ => cases h

/-! ## the bytes of the items are the encoding: no hypothesis on schema or value -/

theorem encItems_append (a b : List (Nat × Kind × Val)) : encItems (a ++ b) = encItems a ++ encItems b :=
  List.flatMap_append

theorem encItems_cons (it : Nat × Kind × Val) (l : List (Nat × Kind × Val)) :
    encItems (it :: l) = encItem it ++ encItems l :=
  List.flatMap_cons

/-- an item that is not live has no bytes -/
theorem encItems_filter : ∀ l : List (Nat × Kind × Val),
    encItems (l.filter fun it => !(encItem it).isEmpty) = encItems l
  | [] => rfl
  | it :: l => by
    rw [List.filter_cons, encItems_cons, ← encItems_filter l]
    by_cases h : (!(encItem it).isEmpty) = true
    · rw [if_pos h, encItems_cons]
    · rw [if_neg h, show encItem it = [] by simpa using h]; rfl

theorem encItems_seq (t : Nat) (sub : Kind) : ∀ es : Vals,
    encItems (es.toList.map fun e => (t, sub, e)) = encSeq sub t es
  | .nil => rfl
  | .cons e es => by rw [Vals.toList, List.map_cons, encItems_cons, encItems_seq t sub es, encSeq]; rfl

theorem encItems_map (t : Nat) (kk : Kind) (vt : Nat) (vk : Kind) : ∀ kvs : Vals,
    encItems (kvs.toList.map fun p => (t, Kind.map kk vt vk, Val.map (.cons p .nil))) = encMap kk vt vk t kvs
  | .nil => rfl
  | .cons y kvs => by
    rw [Vals.toList, List.map_cons, encItems_cons, encItems_map t kk vt vk kvs]
    cases y <;> simp only [encItem, encKind, encMap, List.append_nil, List.nil_append, List.append_assoc]

theorem encItems_itemsOf (fs : Fields) (vs : Vals) : encItems (itemsOf fs vs) = encFields fs vs := by
  fun_induction itemsOf fs vs with
  | case1 t k fs v vs ih =>
    rw [encItems_append, ih, encFields]
    congr 1
    split
    · rw [encItems_seq, encKind]
    · rw [encItems_map, encKind]
    · exact List.append_nil _
  | case2 fs vs h => exact (encFields.eq_2 fs vs h).symm

theorem encItems_live_eq (fs : Fields) (vs : Vals) : encItems (liveItems fs vs) = encFields fs vs :=
  (encItems_filter _).trans (encItems_itemsOf fs vs)

theorem encItems_headLive (t : Nat) (k : Kind) (v : Val) : encItems (headLive t k v) = encKind k t v :=
  (encItems_live_eq _ _).trans (List.append_nil _)

theorem liveItems_cons (t : Nat) (k : Kind) (fs : Fields) (v : Val) (vs : Vals) :
    liveItems (.cons t k fs) (.cons v vs) = headLive t k v ++ liveItems fs vs := by
  simp only [headLive, liveItems, itemsOf, List.filter_append, List.append_nil]

theorem liveItems_nil_left (vs : Vals) : liveItems .nil vs = [] := rfl

/-- the reader of a plain kind reads the value bytes of its own encoding (for a struct kind: the inner
    model round-trips) -/
def ItemOk (k : Kind) : Prop :=
  ∀ v, validV k v = true → v ≠ .absent → ∀ (ic : Bool) (rest : Bytes),
    ∃ a, readKind k (bodyOf k v).length ic (bodyOf k v ++ rest) = .ok (v, rest) a

theorem readMap_item (kk : Kind) (vt : Nat) (vk : Kind) (a b : Val) (ic : Bool) (rest : Bytes)
    (hvt : vt < 2 ^ 64) (hl2 : (bodyOf vk b).length < 2 ^ 64)
    (hk : ∀ rest', ∃ n, readKind kk (bodyOf kk a).length ic (bodyOf kk a ++ rest') = .ok (a, rest') n)
    (hvv : ∃ n, readKind vk (bodyOf vk b).length ic (bodyOf vk b ++ rest) = .ok (b, rest) n) :
    ∃ n, readMap (readKind kk) (readKind vk) vt (bodyOf kk a).length ic
      ((bodyOf kk a ++ (encTL vt ++ encTL (bodyOf vk b).length ++ bodyOf vk b)) ++ rest) = .ok (.pair a b, rest) n := by
  obtain ⟨n1, h1⟩ := hk (encTL vt ++ (encTL (bodyOf vk b).length ++ (bodyOf vk b ++ rest)))
  obtain ⟨n2, h2⟩ := hvv
  refine ⟨n1 + (n2 + 0), ?_⟩
  simp only [List.append_assoc]
  unfold readMap
  rw [h1]
  simp only [Res.bind, decTL_encTL vt hvt, decTL_encTL _ hl2, ne_eq, not_true_eq_false, if_false, h2]

theorem elOk_item (all : List Slot) (ic : Bool) (t : Nat) (k : Kind) (l : Nat) (body : Bytes) (v : Val)
    (hty : k.hasTyp = true) (ht : 0 < t ∧ t < 2 ^ 64) (hl : l < 2 ^ 63)
    (hread : ∀ rest, ∃ a, readKind k l ic (body ++ rest) = .ok (v, rest) a) (hp : v ≠ .absent) :
    ElOk all ic (slotOf t k) (.item l body v) :=
  ⟨by simp only [hty, Bool.true_and, bne_iff_ne]; exact Nat.ne_of_gt ht.1, ht.2, by omega, hread, fun _ => hp⟩

theorem elOf_plain (t : Nat) {k : Kind} (v : Val) (h : k.multi = 0) : elOf (t, k, v) = itemOf k v := by
  cases k <;> first | rfl | cases h

/-- `it` is an item of a valid field of kind `k` and type number `t` of a well-formed schema -/
inductive FieldItem (t : Nat) : Kind → Nat × Kind × Val → Prop
  | plain {k : Kind} {v : Val} : Present k v → FieldItem t k (t, k, v)
  | elem {sub : Kind} {e : Val} : Present sub e → FieldItem t (.seq sub) (t, sub, e)
  | pair {kk : Kind} {vt : Nat} {vk : Kind} {a b : Val} : keyKindOk kk = true → vt < 2 ^ 64 →
      Present kk a → Present vk b → FieldItem t (.map kk vt vk) (t, .map kk vt vk, .map (.cons (.pair a b) .nil))

theorem append_live {a : Bytes} (h : a ≠ []) (b : Bytes) : (!(a ++ b).isEmpty) = true := by
  cases a with
  | nil => exact absurd rfl h
  | cons => rfl

theorem elBytes_live (t : Nat) : ∀ e : El, (!(El.bytes t e).isEmpty) = true
  | .junk _ _ => append_live (List.append_ne_nil_of_left_ne_nil (encTL_ne_nil _) _) _
  | .item _ _ _ => append_live (List.append_ne_nil_of_left_ne_nil (encTL_ne_nil _) _) _

namespace FieldItem

variable {t : Nat} {k : Kind} {it : Nat × Kind × Val}

theorem typ (h : FieldItem t k it) : it.1 = t := by
  cases h <;> rfl

theorem hasTyp (h : FieldItem t k it) : k.hasTyp = true := by
  cases h with
  | plain h => exact h.hasTyp
  | _ => rfl

theorem bytes (h : FieldItem t k it) : encItem it = El.bytes t (elOf it) := by
  cases h with
  | plain h => rw [elOf_plain t _ h.multi]; exact encKind_eq_tlv h t
  | elem h => rw [elOf_plain t _ h.multi]; exact encKind_eq_tlv h t
  | pair _ _ ha hb =>
    show encKind _ t _ ++ encKind _ _ _ ++ [] = _
    rw [encKind_eq_tlv ha t, encKind_eq_tlv hb _]
    simp only [elOf, El.bytes, List.append_assoc, List.append_nil]

theorem live (h : FieldItem t k it) : (!(encItem it).isEmpty) = true := by
  rw [h.bytes]; exact elBytes_live t _

theorem elOk (h : FieldItem t k it)
    (all : List Slot) (ic : Bool) (ht : 0 < t ∧ t < 2 ^ 64) (hitem : Reads (elemKind k)) :
    ElOk all ic (slotOf t k) (elOf it) := by
  cases h with
  | @plain k v h =>
    rw [elemKind_plain h.multi] at hitem
    rw [elOf_plain t v h.multi]
    exact elOk_item all ic t k _ _ v h.hasTyp ht (bodyOf_length_lt h) (hitem v h ic) h.ne_absent
  | @elem sub e h =>
    rw [elOf_plain t e h.multi]
    exact elOk_item all ic t (.seq sub) _ _ e rfl ht (bodyOf_length_lt h)
      (fun rest => by rw [readKind]; exact hitem e h ic rest) h.ne_absent
  | @pair kk vt vk a b hkk hvt ha hb =>
    refine elOk_item all ic t (.map kk vt vk) _ _ _ rfl ht (bodyOf_length_lt ha) (fun rest => ?_) nofun
    rw [readKind]
    exact readMap_item kk vt vk a b ic rest hvt (by have := bodyOf_length_lt hb; omega)
      (readKind_prim kk (keyKindOk_facts hkk).2.2 a ha ic) (hitem b hb ic rest)

end FieldItem

theorem groupBytes_map_elOf {t : Nat} {k : Kind} : ∀ (l : List (Nat × Kind × Val)),
    (∀ it ∈ l, FieldItem t k it) → groupBytes t (l.map elOf) = encItems l
  | [], _ => rfl
  | it :: l, h => by
    have ih := groupBytes_map_elOf l (fun x hx => h x (List.mem_cons_of_mem _ hx))
    simp only [groupBytes, encItems] at ih
    simp only [groupBytes, encItems, List.map_cons, List.flatMap_cons, ih, (h it (List.mem_cons_self ..)).bytes]

theorem seq_merge : ∀ (es acc : Vals), es.toList.foldl (merge 1) (.seq acc) = .seq (acc.append es)
  | .nil, acc => by rw [Vals.append_nil]; rfl
  | .cons e es, acc => by
    show es.toList.foldl (merge 1) (.seq (acc.snoc e)) = _
    rw [seq_merge es (acc.snoc e), Vals.snoc_append]

theorem keyEq_symm (a b : Val) : keyEq a b = keyEq b a := by
  fun_cases keyEq a b
  · exact BEq.comm
  · exact BEq.comm
  · -- neither arm of `keyEq` applies to `(a, b)`, hence neither to `(b, a)`
    rename_i h1 h2
    exact (keyEq.eq_3 b a (fun x y hb ha => h1 y x ha hb) (fun x y hb ha => h2 y x ha hb)).symm

theorem mapInsert_fresh (k x : Val) : ∀ acc : Vals, keysDistinct.pairsHaveKey k acc = false →
    mapInsert acc k x keyEq = acc.snoc (.pair k x)
  | .nil, _ => rfl
  | .cons y r, h => by
    cases y with
    | pair k' v' =>
      simp only [keysDistinct.pairsHaveKey, Bool.or_eq_false_iff] at h
      simp only [mapInsert, h.1, Bool.false_eq_true, if_false, mapInsert_fresh k x r h.2]
      rfl
    | _ =>
      simp only [keysDistinct.pairsHaveKey] at h
      simp only [mapInsert, mapInsert_fresh k x r h]
      rfl

theorem keyEq_of_missing (k x a : Val) (r : Vals) : ∀ l : Vals,
    keysDistinct.pairsHaveKey a (l.append (.cons (.pair k x) r)) = false → keyEq k a = false
  | .nil, h => by
    simp only [Vals.append, keysDistinct.pairsHaveKey, Bool.or_eq_false_iff] at h
    exact h.1
  | .cons z l, h => by
    cases z with
    | pair _ _ =>
      simp only [Vals.append, keysDistinct.pairsHaveKey, Bool.or_eq_false_iff] at h
      exact keyEq_of_missing k x a r l h.2
    | _ =>
      simp only [Vals.append, keysDistinct.pairsHaveKey] at h
      exact keyEq_of_missing k x a r l h

theorem fresh_of_distinct (k x : Val) (r : Vals) : ∀ acc : Vals,
    keysDistinct (acc.append (.cons (.pair k x) r)) = true → keysDistinct.pairsHaveKey k acc = false
  | .nil, _ => rfl
  | .cons y acc, h => by
    cases y with
    | pair a b =>
      simp only [Vals.append, keysDistinct, Bool.and_eq_true, Bool.not_eq_true'] at h
      simp only [keysDistinct.pairsHaveKey, Bool.or_eq_false_iff]
      exact ⟨by rw [keyEq_symm]; exact keyEq_of_missing k x a r acc h.1, fresh_of_distinct k x r acc h.2⟩
    | _ =>
      simp only [Vals.append, keysDistinct] at h
      simp only [keysDistinct.pairsHaveKey]
      exact fresh_of_distinct k x r acc h

/-- merging the entries of a map with distinct keys appends them; the invariant is that the entries
    already merged and those still to come have distinct keys -/
theorem map_merge (kk vk : Kind) : ∀ (kvs acc : Vals),
    validPairs kk vk kvs = true → keysDistinct (acc.append kvs) = true →
    kvs.toList.foldl (merge 2) (.map acc) = .map (acc.append kvs)
  | .nil, acc, _, _ => by rw [Vals.append_nil]; rfl
  | .cons y r, acc, hp, hd => by
    cases y with
    | pair k x =>
      simp only [validPairs, Bool.and_eq_true] at hp
      show r.toList.foldl (merge 2) (merge 2 (.map acc) (.pair k x)) = _
      have : merge 2 (.map acc) (.pair k x) = .map (acc.snoc (.pair k x)) :=
        congrArg Val.map (mapInsert_fresh k x acc (fresh_of_distinct k x r acc hd))
      rw [this, map_merge kk vk r _ hp.2 (by rw [Vals.snoc_append]; exact hd), Vals.snoc_append]
    | _ => cases hp

theorem filter_items {t : Nat} {k : Kind} (l : List (Nat × Kind × Val)) (h : ∀ it ∈ l, FieldItem t k it) :
    l.filter (fun it => !(encItem it).isEmpty) = l :=
  List.filter_eq_self.2 fun it hit => (h it hit).live

theorem itemsOf_plain (t : Nat) {k : Kind} (fs : Fields) (v : Val) (vs : Vals) (h : k.multi = 0) :
    itemsOf (.cons t k fs) (.cons v vs) = (t, k, v) :: itemsOf fs vs := by
  cases k <;> first | rfl | cases h

theorem seq_items (t : Nat) {sub : Kind} (hok : elemKindOk sub = true) (hwf : wfKind sub = true) :
    ∀ es : Vals, validElems sub es = true →
      (∀ it ∈ es.toList.map fun e => (t, sub, e), FieldItem t (.seq sub) it) ∧
      itemVals ((es.toList.map fun e => (t, sub, e)).map elOf) = es.toList
  | .nil, _ => ⟨nofun, rfl⟩
  | .cons x es, hv => by
    obtain ⟨hx, hes⟩ := validElems_cons hok hwf hv
    obtain ⟨ih1, ih2⟩ := seq_items t hok hwf es hes
    refine ⟨List.forall_mem_cons.2 ⟨.elem hx, ih1⟩, ?_⟩
    rw [Vals.toList, List.map_cons, List.map_cons, elOf_plain t x (elemKindOk_multi hok)]
    exact congrArg (x :: ·) ih2

theorem map_items (t : Nat) {kk : Kind} {vt : Nat} {vk : Kind} (hkk : keyKindOk kk = true)
    (hok : elemKindOk vk = true) (hwf : wfKind vk = true) (hvt : vt < 2 ^ 64) :
    ∀ kvs : Vals, validPairs kk vk kvs = true →
      (∀ it ∈ kvs.toList.map fun p => (t, Kind.map kk vt vk, Val.map (.cons p .nil)),
        FieldItem t (.map kk vt vk) it) ∧
      itemVals ((kvs.toList.map fun p => (t, Kind.map kk vt vk, Val.map (.cons p .nil))).map elOf) = kvs.toList
  | .nil, _ => ⟨nofun, rfl⟩
  | .cons y r, hv => by
    obtain ⟨a, b, rfl, ha, hb, hr⟩ := validPairs_cons hkk hok hwf hv
    obtain ⟨ih1, ih2⟩ := map_items t hkk hok hwf hvt r hr
    exact ⟨List.forall_mem_cons.2 ⟨.pair hkk hvt ha hb, ih1⟩, congrArg (Val.pair a b :: ·) ih2⟩

/-- The live items of a valid field, by the four shapes: what they are, that merging them rebuilds the
    value, and how many there are. -/
theorem head_group (t : Nat) (k : Kind) (v : Val) (hwf : wfKind k = true) (hv : validV k v = true) :
    (∀ it ∈ headLive t k v, FieldItem t k it) ∧ slotResult (slotOf t k) (mkGroup t k v) = v ∧
    (k.multi = 0 → (itemVals (mkGroup t k v)).length ≤ 1) ∧
    (k.required = true → (itemVals (mkGroup t k v)).length = 1) := by
  unfold mkGroup
  cases shape_of_valid hwf hv with
  | absent hm hr =>
    have : headLive t k .absent = [] := by
      simp only [headLive, liveItems, itemsOf_plain t _ _ _ hm, List.filter_cons, encItem, encKind_absent]
      rfl
    rw [this]
    exact ⟨nofun, init_plain hm, fun _ => Nat.zero_le _, fun h => absurd (hr ▸ h) Bool.false_ne_true⟩
  | present h =>
    have hit : ∀ it ∈ [(t, k, v)], FieldItem t k it := List.forall_mem_cons.2 ⟨.plain h, nofun⟩
    have : headLive t k v = [(t, k, v)] := by
      simp only [headLive, liveItems, itemsOf_plain t _ _ _ h.multi]
      exact filter_items _ hit
    rw [this, List.map_cons, elOf_plain t v h.multi]
    refine ⟨hit, ?_, fun _ => Nat.le_refl _, fun _ => rfl⟩
    show merge k.multi k.init v = v
    rw [h.multi]; rfl
  | @seq sub es hok hsub he =>
    obtain ⟨h1, h2⟩ := seq_items t hok hsub es he
    have : headLive t (.seq sub) (.seq es) = es.toList.map fun e => (t, sub, e) := by
      simp only [headLive, liveItems, itemsOf, List.append_nil]
      exact filter_items _ h1
    rw [this, slotResult, h2]
    exact ⟨h1, seq_merge es .nil, nofun, nofun⟩
  | @map kk vt vk kvs hkk hok hvk hvt hp hd =>
    obtain ⟨h1, h2⟩ := map_items t hkk hok hvk hvt kvs hp
    have : headLive t (.map kk vt vk) (.map kvs) =
        kvs.toList.map fun p => (t, Kind.map kk vt vk, Val.map (.cons p .nil)) := by
      simp only [headLive, liveItems, itemsOf, List.append_nil]
      exact filter_items _ h1
    rw [this, slotResult, h2]
    exact ⟨h1, map_merge kk vk kvs .nil hp hd, nofun, nofun⟩

/-- bytes of the elements of one field = what `GenEncodeInto` writes -/
theorem mkGroup_bytes (k : Kind) (t : Nat) (v : Val) (hwf : wfKind k = true) (hv : validV k v = true) :
    groupBytes t (mkGroup t k v) = encKind k t v :=
  (groupBytes_map_elOf _ (head_group t k v hwf hv).1).trans (encItems_headLive t k v)

theorem mkGroup_result (k : Kind) (t : Nat) (v : Val) (hwf : wfKind k = true) (hv : validV k v = true) :
    slotResult (slotOf t k) (mkGroup t k v) = v :=
  (head_group t k v hwf hv).2.1

theorem group_ok_of (k : Kind) (t : Nat) (all : List Slot) (ic : Bool) (v : Val)
    (hwf : wfKind k = true) (ht : k.hasTyp = true → 0 < t ∧ t < 2 ^ 64) (hv : validV k v = true)
    (hitem : Reads (elemKind k)) :
    GroupOk all ic (slotOf t k) (mkGroup t k v) := by
  obtain ⟨h1, _, h3, h4⟩ := head_group t k v hwf hv
  refine ⟨fun e he => ?_, h3, h4, required_multi k⟩
  obtain ⟨it, hit, rfl⟩ := List.mem_map.1 he
  exact (h1 it hit).elOk all ic (ht (h1 it hit).hasTyp) hitem

theorem groupsBytes_mkGroups : ∀ (fs : Fields) (vs : Vals), wfFields fs = true → validVs fs vs = true →
    groupsBytes (compile fs) (mkGroups fs vs) = encFields fs vs
  | .nil, .nil, _, _ => rfl
  | .nil, .cons _ _, _, hv => by cases hv
  | .cons _ _ _, .nil, _, hv => by cases hv
  | .cons t k fs, .cons v vs, hwf, hv => by
    obtain ⟨hk, hv1, hfs, hv2⟩ := field_cons hwf hv
    rw [compile_cons, mkGroups, groupsBytes, encFields, mkGroup_bytes k t v hk hv1,
      groupsBytes_mkGroups fs vs hfs hv2]

theorem expected_mkGroups : ∀ (fs : Fields) (vs : Vals), wfFields fs = true → validVs fs vs = true →
    expected (compile fs) (mkGroups fs vs) = vs
  | .nil, .nil, _, _ => rfl
  | .nil, .cons _ _, _, hv => by cases hv
  | .cons _ _ _, .nil, _, hv => by cases hv
  | .cons t k fs, .cons v vs, hwf, hv => by
    obtain ⟨hk, hv1, hfs, hv2⟩ := field_cons hwf hv
    rw [compile_cons, mkGroups, expected, mkGroup_result k t v hk hv1, expected_mkGroups fs vs hfs hv2]

theorem compile_typed_mem : ∀ (fs : Fields) (s : Slot), s ∈ compile fs → s.hasTyp = true →
    s.typ ∈ typedTypes fs
  | .nil, s, h, _ => by cases h
  | .cons t k fs, s, h, ht => by
    rw [compile_cons, List.mem_cons] at h
    rw [typedTypes]
    rcases h with rfl | h
    · rw [if_pos ht]; exact List.mem_cons_self ..
    · have := compile_typed_mem fs s h ht
      split
      · exact List.mem_cons_of_mem _ this
      · exact this

theorem distinct_compile : ∀ fs : Fields, wfFields fs = true → DistinctTyps (compile fs)
  | .nil, _ => trivial
  | .cons t k fs, hwf => by
    obtain ⟨_, ht, hfs⟩ := wfFields_cons hwf
    rw [compile_cons]
    refine ⟨fun hty s' hs' ht' heq => ?_, distinct_compile fs hfs⟩
    simp only [Bool.and_eq_true] at hty
    exact (ht hty.1).2.2 ((show s'.typ = t from heq) ▸ compile_typed_mem fs s' hs' ht')

theorem initOk_compile : ∀ (fs : Fields) (s : Slot), s ∈ compile fs → InitOk s
  | .nil, s, h => by cases h
  | .cons t k fs, s, h => by
    rw [compile_cons, List.mem_cons] at h
    rcases h with rfl | h
    · cases k with
      | seq => exact ⟨fun h => Nat.noConfusion h, fun _ => rfl, nofun⟩
      | map => exact ⟨fun h => Nat.noConfusion h, nofun, fun _ => rfl⟩
      | _ => exact ⟨fun _ => rfl, fun h => Nat.noConfusion h, fun h => Nat.noConfusion h⟩
    · exact initOk_compile fs s h

theorem seqItems_length (sub : Kind) : ∀ es : Vals, (itemVals (seqItems sub es)).length = es.length
  | .nil => rfl
  | .cons _ es => congrArg (· + 1) (seqItems_length sub es)

end Ndn.C13
