/-
  C13/Unknown.lean — an unrecognised element inserted at ANY item boundary at ANY nesting depth of a
  valid encoding is skipped with every field unchanged if the caller tolerates it (non-critical type
  number, or `ignoreCritical`), and makes the parse an error — never a value, a panic or fuel
  exhaustion — if it is critical and `ignoreCritical = false`.

  The statements are about `insAt` of Text.lean, the function the correspondence harness checks against
  the real encoder/decoder (harness/c13 `InsertAt`).  One induction over the nesting path `sel` serves
  both outcomes: the innermost level gets a junk element resp. a refused one in one group of the stream
  (`Str` of LoopBase.lean with the outcome `some vs` / `none`), every enclosing level a struct item whose body the
  inner model decodes to the same value resp. refuses; the bound `body.length < 2^63` the struct reader
  needs comes from `insAt_length`.  The empty model is covered.
-/
import NdnVerif.C13.UnknownLemmas
namespace Ndn.C13

/-- the induction over the nesting path, with "unknown at every level" as non-membership: the value
    if the element is tolerated, an error if not -/
theorem unknown_at_depth (ic : Bool) (k jt : Nat) (jbody : Bytes)
    (ht : jt < 2 ^ 64) (hb : jbody.length < maxLen) :
    ∀ (sel : List Nat) (fs : Fields) (vs : Vals) (ord : Bool) (b : Bytes),
      wfFields fs = true → validVs fs vs = true → jt ∉ fieldsTypes fs →
      insAt fs vs sel k (tlv jt jbody) = some b →
      (runSlots ord (compile fs) ic b).Ends (if ic = true ∨ critical jt = false then some vs else none)
  | [], fs, vs, ord, b, hwf, hv, hu, h => by
    obtain ⟨hk, rfl⟩ := insAt_nil fs vs k _ b h
    have hb63 : jbody.length < 2 ^ 63 := Nat.lt_trans hb (by decide)
    have hb64 : jbody.length < 2 ^ 64 := Nat.lt_trans hb (by decide)
    by_cases hc : ic = true ∨ critical jt = false
    · rw [if_pos hc]
      exact str_run _ ord ic _ _ hwf
        (insert_edited _ ic jt jbody ⟨ht, hb63, knownTyp_compile jt _ hu, hc⟩ _ vs hwf hv k hk)
    · obtain ⟨rfl, hc'⟩ := not_tolerated hc
      rw [if_neg hc]
      exact str_run _ ord false _ _ hwf
        (insert_refused _ jt jbody ht hb64 (knownTyp_compile jt _ hu) hc' _ vs hwf hv k hk)
  | i :: sel, fs, vs, ord, b, hwf, hv, hu, h => by
    obtain ⟨t, o, ifs, ivs, nb, hi, hn, rfl⟩ := insAt_cons fs vs i sel k _ b h
    obtain ⟨iwf, iv, ilen, isub⟩ := struct_item_facts fs vs hwf hv t o ifs ivs (List.mem_of_getElem? hi)
    have ih := unknown_at_depth ic k jt jbody ht hb sel ifs ivs o nb iwf iv (fun hx => hu (isub _ hx)) hn
    have hnb : nb.length < 2 ^ 63 := by
      have hlen := insAt_length k _ sel ifs ivs nb hn
      have h1 := tlLen_le9 jt
      have h2 := tlLen_le9 jbody.length
      simp only [tlv_length, tlvLen] at hlen
      simp only [maxLen] at hb ilen
      clear ih hi hn hu isub
      omega
    by_cases hc : ic = true ∨ critical jt = false
    · rw [if_pos hc] at ih ⊢
      exact str_run fs ord ic _ _ hwf (replace_edited _ ic t o ifs ivs nb hnb ih fs vs hwf hv i hi)
    · obtain ⟨rfl, hc'⟩ := not_tolerated hc
      rw [if_neg hc] at ih ⊢
      exact str_run fs ord false _ _ hwf (replace_refused _ t o ifs ivs nb hnb ih fs vs hwf hv i hi)

/-- **Unknown elements are skipped, at any depth.**  For every well-formed field list `fs`, every
    valid value `vs`, both generated loops (`ord`) and both settings of `ignoreCritical`: if a TLV
    `jt jbody` whose type number is used nowhere in the model (`fieldsTypes`: at no nesting level,
    including map value types) and which the caller tolerates (`ic` or non-critical) is inserted by
    `insAt` at item boundary `k` of the level reached through the struct items `sel`, the result
    decodes to exactly `vs`. -/
theorem unknown_skipped_fields (fs : Fields) (vs : Vals) (ord ic : Bool) (sel : List Nat) (k jt : Nat)
    (jbody b : Bytes) :
    wfFields fs = true → validVs fs vs = true →
    jt < 2 ^ 64 → jbody.length < maxLen →
    (fieldsTypes fs).contains jt = false →
    (ic = true ∨ critical jt = false) →
    insAt fs vs sel k (tlv jt jbody) = some b →
    ∃ a, runSlots ord (compile fs) ic b = .ok vs a := by
  intro hwf hv ht hb hu hc h
  have := unknown_at_depth ic k jt jbody ht hb sel fs vs ord b hwf hv (by simpa using hu) h
  rwa [if_pos hc] at this

/-- **An unrecognised critical element is rejected, at any depth.**  For every well-formed field
    list `fs`, every valid value `vs` and both generated loops (`ord`): if a TLV `jt jbody` whose
    type number is critical and used nowhere in the model (`fieldsTypes`: at no nesting level,
    including map value types) is inserted by `insAt` at item boundary `k` of the level reached
    through the struct items `sel`, parsing the result with `ignoreCritical = false` is an error. -/
theorem unknown_critical_rejected_fields (fs : Fields) (vs : Vals) (ord : Bool) (sel : List Nat) (k jt : Nat)
    (jbody b : Bytes) :
    wfFields fs = true → validVs fs vs = true →
    jt < 2 ^ 64 → jbody.length < maxLen →
    (fieldsTypes fs).contains jt = false → critical jt = true →
    insAt fs vs sel k (tlv jt jbody) = some b →
    ∃ a, runSlots ord (compile fs) false b = .err a := by
  intro hwf hv ht hb hu hc h
  have := unknown_at_depth false k jt jbody ht hb sel fs vs ord b hwf hv (by simpa using hu) h
  rwa [if_neg (by rw [hc]; exact fun h => h.elim Bool.noConfusion Bool.noConfusion)] at this

/-! ## non-vacuity: `exFields`/`exVal` of RoundTrip.lean (an ordered nested struct, a sequence of
    structs, a map, a bool, an optional time); type 200 is non-critical and unknown at every level -/

/-- the edited encodings: inside the nested struct (item 0) after its only live item, and inside the
    second element of the sequence of structs (item 2) before its first item -/
def exNested : Bytes :=
  [1, 8, 7, 2, 1, 44, 200, 2, 1, 2, 2, 6, 7, 1, 1, 8, 1, 97, 2, 3, 7, 1, 2, 3, 1, 1, 5, 2, 1, 2, 3, 4, 0, 1,
   17, 112, 5, 0, 4, 0, 6, 1, 4]
def exSeqElem : Bytes :=
  [1, 4, 7, 2, 1, 44, 2, 6, 7, 1, 1, 8, 1, 97, 2, 7, 200, 2, 1, 2, 7, 1, 2, 3, 1, 1, 5, 2, 1, 2, 3, 4, 0, 1,
   17, 112, 5, 0, 4, 0, 6, 1, 4]

theorem exNested_eq : insAt exFields exVal [0] 1 (tlv 200 [1, 2]) = some exNested := by decide +kernel

example : wfFields exFields = true ∧ validVs exFields exVal = true ∧
    (fieldsTypes exFields).contains 200 = false ∧ critical 200 = false := ⟨exFields_wf, exVal_valid, rfl, rfl⟩
example : insAt exFields exVal [0] 1 (tlv 200 [1, 2]) = some exNested := exNested_eq
example : insAt exFields exVal [2] 0 (tlv 200 [1, 2]) = some exSeqElem := by decide +kernel
/-- the hypotheses of `unknown_skipped_fields` are satisfiable for a nested position and its
    conclusion is what evaluation gives (both loops, critical elements not ignored) -/
example : ∃ a, runSlots false (compile exFields) false exNested = .ok exVal a := ⟨_, rfl⟩
example : ∃ a, runSlots true (compile exFields) false exNested = .ok exVal a := ⟨_, rfl⟩
example : ∃ a, parse ⟨"Ex", false, exFields⟩ false exSeqElem = .ok exVal a := ⟨_, rfl⟩
/-- and the theorem itself instantiated -/
example : ∃ a, parse ⟨"Ex", true, exFields⟩ false exNested = .ok exVal a :=
  unknown_skipped_fields exFields exVal true false [0] 1 200 [1, 2] exNested
    exFields_wf exVal_valid (by decide) (by decide) rfl (Or.inr rfl) exNested_eq

/-! ## non-vacuity: type 201 is critical (odd) and unknown at every level -/

/-- the edited encodings: inside the nested struct (item 0) after its only live item, and inside the
    second element of the sequence of structs (item 2) before its first item -/
def exCritNested : Bytes :=
  [1, 8, 7, 2, 1, 44, 201, 2, 1, 2, 2, 6, 7, 1, 1, 8, 1, 97, 2, 3, 7, 1, 2, 3, 1, 1, 5, 2, 1, 2, 3, 4, 0, 1,
   17, 112, 5, 0, 4, 0, 6, 1, 4]
def exCritSeqElem : Bytes :=
  [1, 4, 7, 2, 1, 44, 2, 6, 7, 1, 1, 8, 1, 97, 2, 7, 201, 2, 1, 2, 7, 1, 2, 3, 1, 1, 5, 2, 1, 2, 3, 4, 0, 1,
   17, 112, 5, 0, 4, 0, 6, 1, 4]

theorem exCritNested_eq : insAt exFields exVal [0] 1 (tlv 201 [1, 2]) = some exCritNested := by decide +kernel

example : wfFields exFields = true ∧ validVs exFields exVal = true ∧
    (fieldsTypes exFields).contains 201 = false ∧ critical 201 = true := ⟨exFields_wf, exVal_valid, rfl, rfl⟩
example : insAt exFields exVal [0] 1 (tlv 201 [1, 2]) = some exCritNested := exCritNested_eq
example : insAt exFields exVal [2] 0 (tlv 201 [1, 2]) = some exCritSeqElem := by decide +kernel
/-- the hypotheses of `unknown_critical_rejected_fields` are satisfiable for a nested position and
    its conclusion is what evaluation gives (both loops) -/
example : ∃ a, runSlots false (compile exFields) false exCritNested = .err a := ⟨_, rfl⟩
example : ∃ a, runSlots true (compile exFields) false exCritNested = .err a := ⟨_, rfl⟩
example : ∃ a, parse ⟨"Ex", false, exFields⟩ false exCritSeqElem = .err a := ⟨_, rfl⟩
/-- with `ignoreCritical = true` the same bytes decode to the value: the rejection is due to the
    critical element alone -/
example : ∃ a, parse ⟨"Ex", false, exFields⟩ true exCritNested = .ok exVal a := ⟨_, rfl⟩
/-- and the theorem itself instantiated -/
example : ∃ a, parse ⟨"Ex", true, exFields⟩ false exCritNested = .err a :=
  unknown_critical_rejected_fields exFields exVal true [0] 1 201 [1, 2] exCritNested
    exFields_wf exVal_valid (by decide) (by decide) rfl rfl exCritNested_eq

end Ndn.C13
