/-
  C13/LoopO.lean — the ORDERED generated parse loop (`loopO` of Model.lean) is sound for the stream
  specification (`Sound true`), hence meets `LoopSpec true` and `FailSpec true`.

  The walk over the elements of one group is proved for any outcome `o` of what follows (`walkO`).  The slot
  counter may lag behind the stream: `pass` says that on a stream no element of which the head slot has a
  `case` for (`NoHit`; every stream of the slots that follow is one, `nohit_str`) the loop started at the
  slot produces the slot's value followed by what the loop started after it produces.  The slot is not a
  required one: a required slot has consumed its one item, and the state has moved on.  `runs_str` is the
  induction over a stream.
-/
import NdnVerif.C13.LoopBase
namespace Ndn.C13
namespace LO

section
variable (slots : List Slot) (ic : Bool)

def Runs (st : Option (List Slot × Val)) (b : Bytes) (o : Option Vals) : Prop :=
  ∀ f, b.length < f → (loopO slots ic f st b).Ends o

/-- what the loop does with the outcome of `stepO` (same text as in `loopO`) -/
def contO (f : Nat) (r2 : Bytes) : StepO → Res Vals
  | .at p rem' cur' r3 => (loopO slots ic f (some (rem', cur')) r3).bind fun vs => .ok (p.append vs) 0
  | .exhausted p => (loopO slots ic f none r2).bind fun vs => .ok (p.append vs) 0

theorem loopO_known (f : Nat) (rem : List Slot) (cur : Val)
    (t l : Nat) (r2 : Bytes) (ht : t < 2 ^ 64) (hl : l < 2 ^ 64) (hk : knownTyp slots t = true) :
    loopO slots ic (f + 1) (some (rem, cur)) (encTL t ++ (encTL l ++ r2)) =
      (stepO rem cur t l ic r2).bind (contO slots ic f r2) := by
  rw [loopO, if_neg (List.append_ne_nil_of_left_ne_nil (encTL_ne_nil _) _), decTL_encTL t ht]
  simp only []
  rw [decTL_encTL l hl]
  simp only [hk, if_true]
  rfl

theorem loopO_unknown (f : Nat) (st : List Slot × Val)
    (t l : Nat) (r2 : Bytes) (ht : t < 2 ^ 64) (hl : l < 2 ^ 64) (hk : knownTyp slots t = false) :
    loopO slots ic (f + 1) (some st) (encTL t ++ (encTL l ++ r2)) =
      if !ic && critical t then .err 0
      else (skipN l r2).bind fun r3 => loopO slots ic f (some st) r3 := by
  rw [loopO, if_neg (List.append_ne_nil_of_left_ne_nil (encTL_ne_nil _) _), decTL_encTL t ht]
  simp only []
  rw [decTL_encTL l hl]
  simp only [hk, Bool.false_eq_true, if_false]

theorem loopO_junk (f : Nat) (st : List Slot × Val)
    (t : Nat) (body rest : Bytes) (ht : t < 2 ^ 64) (hb : body.length < 2 ^ 63)
    (hk : knownTyp slots t = false) (hc : ic = true ∨ critical t = false) (o : Option Vals) :
    (loopO slots ic (f + 1) (some st) (encTL t ++ (encTL body.length ++ (body ++ rest)))).Ends o ↔
      (loopO slots ic f (some st) rest).Ends o := by
  have hcc : ¬ (!ic && critical t) = true := by
    rcases hc with h | h <;> simp [h]
  rw [loopO_unknown slots ic f st t _ _ ht (by omega) hk, if_neg hcc]
  exact Res.ends_bind_ok (skipN_body body rest hb) _ o

theorem loopO_crit (f : Nat) (st : List Slot × Val)
    (t l : Nat) (r2 : Bytes) (ht : t < 2 ^ 64) (hl : l < 2 ^ 64)
    (hk : knownTyp slots t = false) (hc : critical t = true) :
    loopO slots false (f + 1) (some st) (encTL t ++ (encTL l ++ r2)) = .err 0 := by
  rw [loopO_unknown slots false f st t l r2 ht hl hk, hc]
  rfl

theorem runs_nil (rem : List Slot) (cur : Val) (o : Option Vals) (h : (finishO rem cur).Ends o) :
    Runs slots ic (some (rem, cur)) [] o := by
  intro f hf
  obtain ⟨f, rfl⟩ := fuel_succ hf
  rwa [loopO, if_pos rfl]

/-- The only arithmetic on fuel is here and in `runs_item` (`fuel_after`): an element takes one unit,
    and what follows it is shorter than the fuel left. -/
theorem runs_junk (st : List Slot × Val) (t : Nat) (body R : Bytes)
    (o : Option Vals) (ht : t < 2 ^ 64) (hb : body.length < 2 ^ 63) (hk : knownTyp slots t = false)
    (hc : ic = true ∨ critical t = false) (h : Runs slots ic (some st) R o) :
    Runs slots ic (some st) (encTL t ++ (encTL body.length ++ (body ++ R))) o := by
  intro f hf
  obtain ⟨f, rfl⟩ := fuel_succ hf
  rw [loopO_junk slots ic f st t body R ht hb hk hc]
  exact h f (fuel_after hf (by simp only [List.length_append]; omega))

/-- an element that `stepO` hands to a slot: the loop goes on in the state `stepO` says, behind the
    values `p` of the slots passed -/
theorem runs_item (rem : List Slot) (cur : Val) (t l : Nat) (body R : Bytes)
    (p : Vals) (rem' : List Slot) (c : Val) (n : Nat) (o : Option Vals)
    (ht : t < 2 ^ 64) (hl : l < 2 ^ 64) (hk : knownTyp slots t = true)
    (hstep : stepO rem cur t l ic (body ++ R) = .ok (.at p rem' c R) n)
    (h : Runs slots ic (some (rem', c)) R o) :
    Runs slots ic (some (rem, cur)) (encTL t ++ (encTL l ++ (body ++ R))) (o.map (p.append ·)) := by
  intro f hf
  obtain ⟨f, rfl⟩ := fuel_succ hf
  rw [loopO_known slots ic f rem cur t l _ ht hl hk, Res.ends_bind_ok hstep]
  exact (Res.ends_bind_pure _ _ _).2
    ⟨o, h f (fuel_after hf (by simp only [List.length_append]; omega)), rfl⟩

theorem stepO_hit_plain (s : Slot) (ss : List Slot) (cur : Val) (l : Nat) (ic : Bool) (r2 r : Bytes)
    (v : Val) (a : Nat) (hh : s.hasTyp = true) (hr : s.read l ic r2 = .ok (v, r) a) (hm : s.multi = 0) :
    stepO (s :: ss) cur s.typ l ic r2 = .ok (.at (.cons v .nil) ss (headInit ss) r) (a + 0) := by
  rw [stepO, if_pos (self_match hh), hr]
  simp only [Res.bind, hm, ne_eq, not_true_eq_false, if_false]

theorem stepO_hit_multi (s : Slot) (ss : List Slot) (cur : Val) (l : Nat) (ic : Bool) (r2 r : Bytes)
    (v : Val) (a : Nat) (hh : s.hasTyp = true) (hr : s.read l ic r2 = .ok (v, r) a) (hm : s.multi ≠ 0) :
    stepO (s :: ss) cur s.typ l ic r2 = .ok (.at .nil (s :: ss) (merge s.multi cur v) r) (a + 0) := by
  rw [stepO, if_pos (self_match hh), hr]
  simp only [Res.bind, hm, ne_eq, not_false_eq_true, if_true]

/-- what passing a slot that holds `cur` does to the outcome of the dispatch -/
def push (cur : Val) : StepO → StepO
  | .at p rem c r => .at (.cons cur p) rem c r
  | .exhausted p => .exhausted (.cons cur p)

/-- the head slot has no `case` for the element: `ErrSkipRequired`, or the slot is passed -/
theorem stepO_miss (s : Slot) (ss : List Slot) (cur : Val) (t l : Nat) (ic : Bool) (r2 : Bytes)
    (hn : (s.hasTyp && s.typ == t) = false) :
    stepO (s :: ss) cur t l ic r2 =
      if s.required then .err 0
      else (stepO ss (headInit ss) t l ic r2).bind fun so => .ok (push cur so) 0 := by
  rw [stepO, hn, if_neg Bool.false_ne_true]
  congr 2
  funext so
  cases so <;> rfl

theorem contO_push (f : Nat) (r2 : Bytes) (cur : Val) (so : StepO) :
    contO slots ic f r2 (push cur so) = (contO slots ic f r2 so).bind fun vs => .ok (.cons cur vs) 0 := by
  cases so with
  | «at» p rem c r => simp only [push, contO]; cases loopO slots ic f (some (rem, c)) r <;> rfl
  | exhausted p => simp only [push, contO]; cases loopO slots ic f none r2 <;> rfl

/-- the stream consists of acceptable junk, then ends, or continues with an element that the model
    knows but slot `s` has no `case` for, or with an unknown critical element (refused) -/
inductive NoHit (slots : List Slot) (ic : Bool) (s : Slot) : Bytes → Prop where
  | nil : NoHit slots ic s []
  | junk (t : Nat) (body rest : Bytes) : t < 2 ^ 64 → body.length < 2 ^ 63 →
      knownTyp slots t = false → (ic = true ∨ critical t = false) →
      NoHit slots ic s rest → NoHit slots ic s (encTL t ++ (encTL body.length ++ (body ++ rest)))
  | known (t l : Nat) (r2 : Bytes) : t < 2 ^ 64 → l < 2 ^ 64 → knownTyp slots t = true →
      (s.hasTyp && s.typ == t) = false → NoHit slots ic s (encTL t ++ (encTL l ++ r2))
  | crit (t l : Nat) (r2 : Bytes) : t < 2 ^ 64 → l < 2 ^ 64 → knownTyp slots t = false →
      ic = false → critical t = true → NoHit slots ic s (encTL t ++ (encTL l ++ r2))

/-- if the loop started after `s` ends in `o` on such a stream, the loop started at a slot `s` that is not
    required ends in `o` with what `s` holds in front -/
theorem pass (s : Slot) (ss : List Slot) (o : Option Vals)
    (hreq : s.required = false) (b : Bytes) (h : NoHit slots ic s b) :
    ∀ (fuel : Nat) (cur : Val),
      (loopO slots ic fuel (some (ss, headInit ss)) b).Ends o →
      (loopO slots ic fuel (some (s :: ss, cur)) b).Ends (o.map (.cons cur)) := by
  induction h with
  | nil =>
    intro fuel cur hy
    cases fuel with
    | zero => exact absurd hy (Res.not_ends_fuel o)
    | succ f =>
      -- at the end of the input `finishO` passes `s`
      show (finishO (s :: ss) cur).Ends _
      rw [finishO, hreq]
      exact (Res.ends_bind_pure _ _ _).2 ⟨o, hy, rfl⟩
  | junk t body rest ht hb hk hc _ ih =>
    intro fuel cur hy
    cases fuel with
    | zero => exact absurd hy (Res.not_ends_fuel o)
    | succ f =>
      rw [loopO_junk slots ic f _ t body rest ht hb hk hc] at hy ⊢
      exact ih f cur hy
  | known t l r2 ht hl hk hn =>
    intro fuel cur hy
    cases fuel with
    | zero => exact absurd hy (Res.not_ends_fuel o)
    | succ f =>
      rw [loopO_known slots ic f _ _ t l r2 ht hl hk] at hy ⊢
      rw [stepO_miss s ss cur t l ic r2 hn, hreq, if_neg Bool.false_ne_true]
      cases hso : stepO ss (headInit ss) t l ic r2 with
      | ok so n =>
        rw [hso, Res.ends_bind_ok rfl] at hy
        show ((Res.ok (push cur so) (n + 0)).bind _).Ends _
        rw [Res.ends_bind_ok rfl, contO_push]
        exact (Res.ends_bind_pure _ _ _).2 ⟨o, hy, rfl⟩
      | err n =>
        rw [hso] at hy
        rw [(Res.ends_err n o).1 hy]
        exact ⟨n, rfl⟩
      | panic => rw [hso] at hy; exact absurd hy (Res.not_ends_panic o)
      | fuel => rw [hso] at hy; exact absurd hy (Res.not_ends_fuel o)
  | crit t l r2 ht hl hk hic hc =>
    intro fuel cur hy
    subst hic
    cases fuel with
    | zero => exact absurd hy (Res.not_ends_fuel o)
    | succ f =>
      rw [loopO_crit slots f _ t l r2 ht hl hk hc] at hy ⊢
      rw [(Res.ends_err 0 o).1 hy]
      exact ⟨0, rfl⟩

theorem nohit_group (s s' : Slot) (R : Bytes) (hmem : s' ∈ slots)
    (hne : s'.hasTyp = true → (s.hasTyp && s.typ == s'.typ) = false) (hR : NoHit slots ic s R) :
    ∀ (g : List El), (∀ e ∈ g, ElOk slots ic s' e) → NoHit slots ic s (groupBytes s'.typ g ++ R)
  | [], _ => hR
  | .junk t body :: g, hel => by
    obtain ⟨⟨ht, hb, hk, hc⟩, hel'⟩ := List.forall_mem_cons.1 hel
    rw [groupBytes_junk]
    exact .junk t body _ ht hb hk hc (nohit_group s s' R hmem hne hR g hel')
  | .item l body v :: g, hel => by
    obtain ⟨hh, ht, hl, _, _⟩ := hel _ (List.mem_cons_self ..)
    rw [groupBytes_item]
    exact .known s'.typ l _ ht hl (knownTyp_of_mem slots s' hmem hh) (hne hh)

theorem nohit_str (s : Slot) {ss : List Slot} {b : Bytes} {o : Option Vals} (h : Str slots ic ss b o) :
    (∀ s' ∈ ss, s' ∈ slots) → (∀ s' ∈ ss, s'.hasTyp = true → (s.hasTyp && s.typ == s'.typ) = false) →
    NoHit slots ic s b := by
  induction h with
  | nil => exact fun _ _ => .nil
  | @group s' ss g B o hg _ ih =>
    intro hmem hd
    exact nohit_group slots ic s s' _ (hmem s' (List.mem_cons_self ..)) (hd s' (List.mem_cons_self ..))
      (ih (fun x hx => hmem x (List.mem_cons_of_mem _ hx)) (fun x hx => hd x (List.mem_cons_of_mem _ hx))) g hg.1
  | junk t body ht hb hu hc _ ih =>
    intro hmem hd
    rw [tlv_append]
    exact .junk t body _ ht hb hu hc (ih hmem hd)
  | crit t body tail ht hb hu hic hc =>
    intro _ _
    rw [tlv_append]
    exact .crit t body.length _ ht hb hu hic hc
  | @bad s' ss gpart bad tail hel hbad =>
    intro hmem hd
    have hsm := hmem s' (List.mem_cons_self ..)
    refine nohit_group slots ic s s' _ hsm (hd s' (List.mem_cons_self ..)) ?_ gpart hel
    cases hbad with
    | critical t body ht hb hu hic hc _ =>
      rw [tlv_append]
      exact .crit t body.length _ ht hb hu hic hc
    | inner l body hty ht hl _ _ =>
      rw [List.append_assoc, List.append_assoc]
      exact .known s'.typ l _ ht hl (knownTyp_of_mem slots s' hsm hty) (hd s' (List.mem_cons_self ..) hty)

theorem walkO_junk (st : List Slot × Val) (s : Slot) (typ : Nat)
    (B : Bytes) (o : Option Vals) (hB : Runs slots ic (some st) B o) :
    ∀ (g : List El), (∀ e ∈ g, ElOk slots ic s e) → itemVals g = [] →
      Runs slots ic (some st) (groupBytes typ g ++ B) o
  | [], _, _ => hB
  | .item _ _ _ :: _, _, hi => by cases hi
  | .junk t body :: g, hel, hi => by
    obtain ⟨⟨ht, hb, hk, hc⟩, hel'⟩ := List.forall_mem_cons.1 hel
    rw [groupBytes_junk]
    exact runs_junk slots ic st t body _ o ht hb hk hc (walkO_junk st s typ B o hB g hel' hi)

/-- The elements of the group of the head slot `s`, followed by a stream `B`.  What follows is needed
    in the state where `s` is still the head (`hend`) unless `s` is a plain slot that has consumed its
    item: then it is needed in the state after `s` (`hnext`). -/
theorem walkO (s : Slot) (ss : List Slot) (B : Bytes) (o : Option Vals)
    (hs : s ∈ slots) :
    ∀ (g : List El), (∀ e ∈ g, ElOk slots ic s e) → (s.multi = 0 → (itemVals g).length ≤ 1) →
      (¬ (s.multi = 0 ∧ itemVals g ≠ []) →
        ∀ cur, Runs slots ic (some (s :: ss, cur)) B (o.map (.cons cur))) →
      (s.multi = 0 → itemVals g ≠ [] → Runs slots ic (some (ss, headInit ss)) B o) →
      ∀ cur, Runs slots ic (some (s :: ss, cur)) (groupBytes s.typ g ++ B)
        (o.map (.cons ((itemVals g).foldl (merge s.multi) cur)))
  | [], _, _, hend, _, cur => hend (fun h => h.2 rfl) cur
  | .junk t body :: g, hel, h1, hend, hnext, cur => by
    obtain ⟨⟨ht, hb, hk, hc⟩, hel'⟩ := List.forall_mem_cons.1 hel
    rw [groupBytes_junk]
    exact runs_junk slots ic _ t body _ _ ht hb hk hc (walkO s ss B o hs g hel' h1 hend hnext cur)
  | .item l body v :: g, hel, h1, hend, hnext, cur => by
    obtain ⟨⟨hh, ht, hl, hread, _⟩, hel'⟩ := List.forall_mem_cons.1 hel
    obtain ⟨a, hr⟩ := hread (groupBytes s.typ g ++ B)
    have hk := knownTyp_of_mem slots s hs hh
    rw [groupBytes_item]
    by_cases hm : s.multi = 0
    · -- plain slot: its value is emitted, the rest of the group is junk
      have hi : itemVals g = [] := List.eq_nil_of_length_eq_zero (by
        have := h1 hm; simp only [itemVals, List.length_cons] at this; omega)
      have := runs_item slots ic _ cur s.typ l body _ _ _ _ _ o ht hl hk
        (stepO_hit_plain s ss cur l ic _ _ v a hh hr hm)
        (walkO_junk slots ic _ s s.typ B o (hnext hm (List.cons_ne_nil _ _)) g hel' hi)
      simp only [itemVals, hi, List.foldl_cons, List.foldl_nil, hm, merge_zero]
      exact this
    · have := runs_item slots ic _ cur s.typ l body _ _ _ _ _ _ ht hl hk
        (stepO_hit_multi s ss cur l ic _ _ v a hh hr hm)
        (walkO s ss B o hs g hel' (fun h => absurd h hm)
          (fun _ => hend (fun h => hm h.1)) (fun h => absurd h hm) (merge s.multi cur v))
      rwa [Option.map_map] at this

theorem crit_any (st : List Slot × Val) (t : Nat) (body tail : Bytes)
    (ht : t < 2 ^ 64) (hb : body.length < 2 ^ 64) (hu : knownTyp slots t = false) (hc : critical t = true) :
    Runs slots false (some st) (tlv t body ++ tail) none := by
  intro f hf
  obtain ⟨f, rfl⟩ := fuel_succ hf
  rw [tlv_append, loopO_crit slots f st t body.length _ ht hb hu hc]
  exact ⟨0, rfl⟩

theorem bad_head (post : List Slot) (s : Slot) (gpart : List El) (bad tail : Bytes)
    (hsm : s ∈ slots) (hgpart : ∀ e ∈ gpart, ElOk slots ic s e) (hbad : BadHead slots ic s gpart bad)
    (cur : Val) :
    Runs slots ic (some (s :: post, cur)) (groupBytes s.typ gpart ++ (bad ++ tail)) none := by
  cases hbad with
  | critical t body ht hb hu hic hc h1 =>
    subst hic
    exact walkO slots false s post _ none hsm gpart hgpart h1
      (fun _ _ => crit_any slots _ t body tail ht hb hu hc)
      (fun _ _ => crit_any slots _ t body tail ht hb hu hc) cur
  | inner l body hty ht hl hread h0 =>
    refine walkO slots ic s post _ none hsm gpart hgpart (fun hm => by rw [h0 hm]; exact Nat.zero_le _) ?_
      (fun hm hne => absurd (h0 hm) hne) cur
    intro _ cur f hf
    obtain ⟨f, rfl⟩ := fuel_succ hf
    obtain ⟨a, hr⟩ := hread tail
    rw [List.append_assoc, List.append_assoc,
      loopO_known slots ic f _ _ s.typ l _ ht hl (knownTyp_of_mem slots s hsm hty),
      stepO, if_pos (self_match hty), hr]
    exact ⟨a, rfl⟩

/-- A stream of the slots `ss` still to come, read from the state in which nothing of `ss` has been seen:
    the group of the head slot is walked; the loop passes the slot when it meets an element of a later one
    (`pass`: what follows the group does not hit it, `nohit_str`) or has consumed its only item. -/
theorem runs_str {ss : List Slot} {b : Bytes} {o : Option Vals} (h : Str slots ic ss b o) :
    (∀ x ∈ ss, x ∈ slots) → DistinctTyps ss → Runs slots ic (some (ss, headInit ss)) b o := by
  induction h with
  | nil => exact fun _ _ => runs_nil slots ic [] _ (some .nil) ⟨0, rfl⟩
  | @group s ss g B o hg hstr ih =>
    intro hmem hd
    have hmem' : ∀ x ∈ ss, x ∈ slots := fun x hx => hmem x (List.mem_cons_of_mem _ hx)
    have ih := ih hmem' hd.2
    have hno : NoHit slots ic s B := nohit_str slots ic s hstr hmem'
      (fun x hx hx' => nomatch_of_ne fun hh => hd.1 hh x hx hx')
    exact walkO slots ic s ss B o (hmem s (List.mem_cons_self ..)) g hg.1 hg.2.1
      (fun hne cur f hf => pass slots ic s _ _
        (Bool.eq_false_iff.2 fun hr => hne ⟨hg.2.2.2 hr, by
          have := hg.2.2.1 hr
          intro h0; rw [h0] at this; cases this⟩) _ hno f cur (ih f hf))
      (fun _ _ => ih) s.init
  | junk t body ht hb hu hc _ ih =>
    intro hmem hd
    rw [tlv_append]
    exact runs_junk slots ic _ t body _ _ ht hb hu hc (ih hmem hd)
  | crit t body tail ht hb hu hic hc =>
    intro _ _
    subst hic
    exact crit_any slots _ t body tail ht hb hu hc
  | @bad s ss gpart bad tail hel hbad =>
    exact fun hmem _ => bad_head slots ic ss s gpart bad tail (hmem s (List.mem_cons_self ..)) hel hbad s.init

end

/-- **The ordered generated parse loop is sound for the stream specification**: on every well-formed element
    stream it returns exactly one value per slot — the slot's initial value with all its items merged in —
    whatever acceptable junk is interleaved, and an error as soon as an element has to be refused. -/
theorem sound : Sound true := fun slots ic _ _ hd h =>
  runs_str slots ic h (fun _ hx => hx) hd _ (Nat.lt_succ_self _)

theorem loopO_spec : LoopSpec true := loopSpec_of_sound sound

/-! ## non-vacuity: a concrete ordered model with junk between the items -/

/-- binary(7), sequence of naturals(9), optional natural(11) -/
def exSlots : List Slot :=
  compile (.cons 7 .binary (.cons 9 (.seq (.natural false)) (.cons 11 (.natural true) .nil)))

/-- one item for slot 7 then junk 240; two items for slot 9 with junk 240 in between; slot 11 absent,
    junk 242 at the end -/
def exGroups : List (List El) :=
  [ [.item 2 [0xAA, 0xBB] (.bytes [0xAA, 0xBB]), .junk 240 [1, 2, 3]],
    [.item 1 [5] (.nat 5), .junk 240 [], .item 2 [1, 0] (.nat 256)],
    [.junk 242 [9]] ]

example : groupsBytes exSlots exGroups =
    [7, 2, 170, 187, 240, 3, 1, 2, 3, 9, 1, 5, 240, 0, 9, 2, 1, 0, 242, 1, 9] := by decide +kernel

example : expected exSlots exGroups =
    .cons (.bytes [170, 187]) (.cons (.seq (.cons (.nat 5) (.cons (.nat 256) .nil))) (.cons .absent .nil)) := by
  rfl

/-- the parse of the concrete stream, evaluated -/
example : runSlots true exSlots false
      [7, 2, 170, 187, 240, 3, 1, 2, 3, 9, 1, 5, 240, 0, 9, 2, 1, 0, 242, 1, 9] =
    .ok (.cons (.bytes [170, 187]) (.cons (.seq (.cons (.nat 5) (.cons (.nat 256) .nil))) (.cons .absent .nil))) 2 := by
  rfl

/-- the hypotheses of `loopO_spec` hold for this instance -/
example : DistinctTyps exSlots ∧ GroupsOk exSlots false exSlots exGroups := by
  refine ⟨by show (_ ∧ _ ∧ _ ∧ True); decide,
    ⟨?_, by decide, by decide, by decide⟩, ⟨?_, by decide, by decide, by decide⟩,
    ⟨List.forall_mem_cons.2 ⟨⟨by decide, by decide, rfl, .inr rfl⟩, nofun⟩, by decide, by decide, by decide⟩,
    trivial⟩
  · refine List.forall_mem_cons.2 ⟨?_, List.forall_mem_cons.2 ⟨⟨by decide, by decide, rfl, .inr rfl⟩, nofun⟩⟩
    exact ⟨rfl, by decide, by decide, readKind_prim .binary nofun _ (.binary (b := [0xAA, 0xBB]) (by decide)) false, nofun⟩
  · refine List.forall_mem_cons.2 ⟨?_, List.forall_mem_cons.2
      ⟨⟨by decide, by decide, rfl, .inr rfl⟩, List.forall_mem_cons.2 ⟨?_, nofun⟩⟩⟩
    · exact ⟨rfl, by decide, by decide,
        readKind_prim (.natural false) nofun _ (.natural false (by decide : 5 < 2 ^ 64)) false, nofun⟩
    · exact ⟨rfl, by decide, by decide,
        readKind_prim (.natural false) nofun _ (.natural false (by decide : 256 < 2 ^ 64)) false, nofun⟩

end LO
end Ndn.C13
