/-
  C13/LoopU.lean — the UNORDERED generated parse loop (`loopU` of Model.lean) is sound for the stream
  specification (`Sound false`), hence meets `LoopSpec false` and `FailSpec false`.

  The walk over the elements of one group is proved for any outcome `o` of what follows (continuation
  style, so that neither fuel nor the allocation counters have to be composed): `walkU`.  `runs_str` is the
  induction over a stream: the slots are `pre ++ ss`, the accumulator is `A ++ initAcc ss` with `A` final for
  `pre`; a stream ends in the final pass (`runs_nil`) or in a refused element (`bad_head`).
-/
import NdnVerif.C13.LoopBase
namespace Ndn.C13
namespace LU

section
variable (slots : List Slot) (ic : Bool)

def Runs (b : Bytes) (acc : Vals) (o : Option Vals) : Prop :=
  ∀ f, b.length < f → (loopU slots ic f b acc).Ends o

theorem stepU_unknown (typ l : Nat) (ic : Bool) (r : Bytes) :
    ∀ (slots : List Slot) (acc : Vals), knownTyp slots typ = false →
      stepU slots typ l ic r acc = .ok none 0
  | [], _, _ => rfl
  | s :: ss, acc, h => by
    simp only [knownTyp, List.any_cons, Bool.or_eq_false_iff] at h
    rw [stepU, if_neg (by rw [h.1]; exact Bool.false_ne_true), stepU_unknown typ l ic r ss acc.tail h.2]
    rfl

theorem stepU_at (s : Slot) (typ l : Nat) (ic : Bool) (r : Bytes) (cur : Val) (B : Vals) (post : List Slot)
    (hm : (s.hasTyp && s.typ == typ) = true) :
    ∀ (pre : List Slot) (A : Vals), A.length = pre.length →
      (∀ p ∈ pre, (p.hasTyp && p.typ == typ) = false) →
      stepU (pre ++ s :: post) typ l ic r (A.append (.cons cur B)) =
        (s.read l ic r).bind fun (v, r') => .ok (some (A.append (.cons (merge s.multi cur v) B), r')) 0
  | [], .nil, _, _ => by rw [List.nil_append, stepU, if_pos hm]; rfl
  | p :: pre, .cons x A, hA, hp => by
    rw [List.cons_append, stepU, if_neg (by rw [hp p (List.mem_cons_self ..)]; exact Bool.false_ne_true)]
    show (stepU (pre ++ s :: post) typ l ic r (A.append (.cons cur B))).bind _ = _
    rw [stepU_at s typ l ic r cur B post hm pre A (Nat.succ.inj hA)
      (fun q hq => hp q (List.mem_cons_of_mem _ hq))]
    cases s.read l ic r <;> rfl

/-- what the loop does with the outcome of the dispatch (same text as in `loopU`) -/
def contU (f typ l : Nat) (r2 : Bytes) (acc : Vals) :
    Option (Vals × Bytes) → Res Vals
  | some (acc', r3) => loopU slots ic f r3 acc'
  | none =>
    if !ic && critical typ then .err 0
    else (skipN l r2).bind fun r3 => loopU slots ic f r3 acc

theorem loopU_step (f typ l : Nat) (r2 : Bytes) (acc : Vals)
    (ht : typ < 2 ^ 64) (hl : l < 2 ^ 64) :
    loopU slots ic (f + 1) (encTL typ ++ (encTL l ++ r2)) acc =
      (stepU slots typ l ic r2 acc).bind (contU slots ic f typ l r2 acc) := by
  rw [loopU, if_neg (List.append_ne_nil_of_left_ne_nil (encTL_ne_nil _) _), decTL_encTL typ ht]
  simp only []
  rw [decTL_encTL l hl]
  rfl

/-- One iteration over an element `typ l …`.  Fuel is counted here and nowhere else: the element takes
    one unit, and what follows it is shorter than the fuel left. -/
theorem runs_step (typ l : Nat) (r2 : Bytes) (acc : Vals) (o : Option Vals)
    (ht : typ < 2 ^ 64) (hl : l < 2 ^ 64)
    (h : ∀ f, r2.length < f → ((stepU slots typ l ic r2 acc).bind (contU slots ic f typ l r2 acc)).Ends o) :
    Runs slots ic (encTL typ ++ (encTL l ++ r2)) acc o := by
  intro f hf
  obtain ⟨f, rfl⟩ := fuel_succ hf
  rw [loopU_step slots ic f typ l r2 acc ht hl]
  exact h f (fuel_after hf (by rw [List.length_append]; omega))

theorem runs_nil (acc : Vals) (o : Option Vals)
    (h : (finishU slots acc).Ends o) : Runs slots ic [] acc o := by
  intro f hf
  obtain ⟨f, rfl⟩ := fuel_succ hf
  rwa [loopU, if_pos rfl]

theorem runs_item (typ l : Nat) (body R : Bytes) (acc acc' : Vals) (a : Nat)
    (o : Option Vals) (ht : typ < 2 ^ 64) (hl : l < 2 ^ 64)
    (hstep : stepU slots typ l ic (body ++ R) acc = .ok (some (acc', R)) a) (h : Runs slots ic R acc' o) :
    Runs slots ic (encTL typ ++ (encTL l ++ (body ++ R))) acc o :=
  runs_step slots ic typ l _ acc o ht hl fun f hf =>
    (Res.ends_bind_ok hstep _ o).2 (h f (by rw [List.length_append] at hf; omega))

theorem runs_junk (t : Nat) (body R : Bytes) (acc : Vals) (o : Option Vals)
    (ht : t < 2 ^ 64) (hb : body.length < 2 ^ 63) (hu : knownTyp slots t = false)
    (hc : ic = true ∨ critical t = false) (h : Runs slots ic R acc o) :
    Runs slots ic (encTL t ++ (encTL body.length ++ (body ++ R))) acc o := by
  have hc' : ¬ (!ic && critical t) = true := by
    rcases hc with h | h <;> simp [h]
  refine runs_step slots ic t _ _ acc o ht (by omega) fun f hf => ?_
  rw [Res.ends_bind_ok (stepU_unknown t body.length ic (body ++ R) slots acc hu)]
  show Res.Ends (if (!ic && critical t) = true then _ else _) o
  rw [if_neg hc', Res.ends_bind_ok (skipN_body body R hb)]
  exact h f (by rw [List.length_append] at hf; omega)

/-- an unknown critical element while `ignoreCritical = false`: `ErrUnrecognizedField` -/
theorem runs_crit (t l : Nat) (R : Bytes) (acc : Vals)
    (ht : t < 2 ^ 64) (hl : l < 2 ^ 64) (hu : knownTyp slots t = false) (hc : critical t = true) :
    Runs slots false (encTL t ++ (encTL l ++ R)) acc none :=
  runs_step slots false t l R acc none ht hl fun f _ => by
    rw [Res.ends_bind_ok (stepU_unknown t l false R slots acc hu)]
    exact ⟨0, if_pos (by rw [hc]; rfl)⟩

theorem walkU (slots pre post : List Slot) (s : Slot) (ic : Bool) (hs : slots = pre ++ s :: post)
    (hd : DistinctTyps slots) (A B : Vals) (hA : A.length = pre.length) (R : Bytes) (o : Option Vals) :
    ∀ (todo : List El) (cur : Val), (∀ e ∈ todo, ElOk slots ic s e) →
      Runs slots ic R (A.append (.cons ((itemVals todo).foldl (merge s.multi) cur) B)) o →
      Runs slots ic (groupBytes s.typ todo ++ R) (A.append (.cons cur B)) o
  | [], _, _, hk => hk
  | .junk t body :: todo, cur, hok, hk => by
    obtain ⟨⟨ht, hb, hu, hc⟩, hok'⟩ := List.forall_mem_cons.1 hok
    rw [groupBytes_junk]
    exact runs_junk slots ic t body _ _ o ht hb hu hc
      (walkU slots pre post s ic hs hd A B hA R o todo cur hok' hk)
  | .item l body v :: todo, cur, hok, hk => by
    obtain ⟨⟨hty, ht, hl, hread, _⟩, hok'⟩ := List.forall_mem_cons.1 hok
    obtain ⟨a, hr⟩ := hread (groupBytes s.typ todo ++ R)
    have hstep := stepU_at s s.typ l ic (body ++ (groupBytes s.typ todo ++ R)) cur B post
      (self_match hty) pre A hA (distinct_nomatch s post hty pre (hs ▸ hd))
    rw [← hs, hr] at hstep
    rw [groupBytes_item]
    exact runs_item slots ic s.typ l body _ _ _ (a + 0) o ht hl hstep
      (walkU slots pre post s ic hs hd A B hA R o todo (merge s.multi cur v) hok' hk)

theorem bad_head (slots pre post : List Slot) (s : Slot) (ic : Bool) (gpart : List El)
    (bad tail : Bytes) (hs : slots = pre ++ s :: post) (hd : DistinctTyps slots)
    (hbad : BadHead slots ic s gpart bad) (A : Vals) (hA : A.length = pre.length) (cur : Val) (B : Vals) :
    Runs slots ic (bad ++ tail) (A.append (.cons cur B)) none := by
  cases hbad with
  | critical t body ht hb hu hic hc _ =>
    subst hic
    rw [tlv_append]
    exact runs_crit slots t _ _ _ ht hb hu hc
  | inner l body hty ht hl hread _ =>
    obtain ⟨a, hr⟩ := hread tail
    have hstep := stepU_at s s.typ l ic (body ++ tail) cur B post (self_match hty)
      pre A hA (distinct_nomatch s post hty pre (hs ▸ hd))
    rw [← hs, hr] at hstep
    rw [List.append_assoc, List.append_assoc]
    exact runs_step slots ic s.typ l _ _ none ht hl fun f _ => Res.ends_bind_err hstep _

theorem itemVals_ne_absent (all : List Slot) (ic : Bool) (s : Slot) (hr : s.required = true) :
    ∀ (g : List El), (∀ e ∈ g, ElOk all ic s e) → ∀ v ∈ itemVals g, v ≠ .absent
  | .junk _ _ :: g, hok, v, hv => itemVals_ne_absent all ic s hr g (List.forall_mem_cons.1 hok).2 v hv
  | .item l body w :: g, hok, v, hv => by
    obtain ⟨he, hok'⟩ := List.forall_mem_cons.1 hok
    rcases List.mem_cons.1 hv with rfl | hv
    · exact he.2.2.2.2 hr
    · exact itemVals_ne_absent all ic s hr g hok' v hv

theorem slotResult_required (all : List Slot) (ic : Bool) (s : Slot) (g : List El)
    (hg : GroupOk all ic s g) (hr : s.required = true) : slotResult s g ≠ .absent := by
  obtain ⟨hel, _, h1, hm⟩ := hg
  unfold slotResult
  match hiv : itemVals g, h1 hr with
  | [v], _ =>
    rw [List.foldl_cons, List.foldl_nil, hm hr, merge_zero]
    exact itemVals_ne_absent all ic s hr g hel v (by rw [hiv]; exact List.mem_cons_self ..)

/-- a value that passes the final `!handled` check of its slot -/
theorem finishU_cons (s : Slot) (ss : List Slot) (v : Val) (B vs : Vals)
    (hv : s.required = true → v ≠ .absent) (h : finishU ss B = .ok vs 0) :
    finishU (s :: ss) (.cons v B) = .ok (.cons v vs) 0 := by
  rw [finishU]
  simp only [Vals.head, Vals.tail, h]
  split
  · rename_i h2
    exact absurd rfl (hv h2)
  · rfl

/-- The stream of the slots `ss` that follow `pre`, with the accumulator `A ++ initAcc ss`, `A` final for
    `pre`: it holds values that the final pass accepts in front of whatever it accepts for `ss` (`hfin`). -/
theorem runs_str (hd : DistinctTyps slots) {ss : List Slot} {b : Bytes} {o : Option Vals}
    (h : Str slots ic ss b o) :
    ∀ (pre : List Slot) (A : Vals), slots = pre ++ ss → A.length = pre.length →
      (∀ B vs, finishU ss B = .ok vs 0 → finishU slots (A.append B) = .ok (A.append vs) 0) →
      Runs slots ic b (A.append (initAcc ss)) (o.map (A.append ·)) := by
  induction h with
  | nil => exact fun pre A _ _ hfin => runs_nil slots ic _ _ ⟨0, hfin .nil .nil rfl⟩
  | @group s ss g B o hg _ ih =>
    intro pre A hs hA hfin
    have := ih (pre ++ [s]) (A.snoc (slotResult s g)) (by rw [hs, List.append_assoc]; rfl)
      (by rw [Vals.length_snoc, List.length_append, hA]; rfl)
      (fun B vs hB => by
        rw [Vals.snoc_append, Vals.snoc_append]
        exact hfin _ _ (finishU_cons s ss _ B vs (slotResult_required slots ic s g hg) hB))
    rw [Vals.snoc_append] at this
    have e : (o.map (.cons (slotResult s g))).map (A.append ·) = o.map ((A.snoc (slotResult s g)).append ·) := by
      cases o <;> simp only [Option.map, Vals.snoc_append]
    rw [e]
    exact walkU slots pre ss s ic hs hd A (initAcc ss) hA
      B _ g s.init hg.1 this
  | junk t body ht hb hu hc _ ih =>
    intro pre A hs hA hfin
    rw [tlv_append]
    exact runs_junk slots ic t body _ _ _ ht hb hu hc (ih pre A hs hA hfin)
  | crit t body tail ht hb hu hic hc =>
    intro pre A _ _ _
    subst hic
    rw [tlv_append]
    exact runs_crit slots t _ _ _ ht hb hu hc
  | @bad s ss gpart bad tail hel hbad =>
    intro pre A hs hA _
    exact walkU slots pre ss s ic hs hd A (initAcc ss) hA
      (bad ++ tail) none gpart s.init hel (bad_head slots pre ss s ic gpart bad tail hs hd hbad A hA _ _)

end

theorem sound : Sound false := fun slots ic b o hd h => by
  have := runs_str slots ic hd h [] .nil rfl rfl (fun _ _ hB => hB) _ (Nat.lt_succ_self _)
  cases o <;> exact this

theorem loopU_spec : LoopSpec false := loopSpec_of_sound sound

/-! ## non-vacuity: a concrete two-slot model (required natural 7, sequence of binary 9), input
    with two junk elements (non-critical types 240, 242), `ignoreCritical = false` -/

def exSlots : List Slot := compile (.cons 7 (.natural false) (.cons 9 (.seq .binary) .nil))

def exGroups : List (List El) :=
  [[.junk 240 [1, 2], .item 1 [5] (.nat 5)],
   [.item 2 [1, 2] (.bytes [1, 2]), .junk 242 [], .item 1 [3] (.bytes [3])]]

theorem ex_distinct : DistinctTyps exSlots := by
  show (_ ∧ _ ∧ True)
  decide

theorem ex_init : ∀ s ∈ exSlots, InitOk s :=
  List.forall_mem_cons.2 ⟨⟨fun _ => rfl, nofun, nofun⟩, List.forall_mem_cons.2 ⟨⟨nofun, fun _ => rfl, nofun⟩, nofun⟩⟩

theorem ex_groups : GroupsOk exSlots false exSlots exGroups := by
  refine ⟨⟨?_, by decide, by decide, by decide⟩, ⟨?_, by decide, by decide, by decide⟩, trivial⟩
  · refine List.forall_mem_cons.2 ⟨⟨by decide, by decide, rfl, .inr rfl⟩, List.forall_mem_cons.2 ⟨?_, nofun⟩⟩
    exact ⟨rfl, by decide, by decide,
      readKind_prim (.natural false) nofun _ (.natural false (by decide : 5 < 2 ^ 64)) false, fun _ => nofun⟩
  · refine List.forall_mem_cons.2 ⟨?_, List.forall_mem_cons.2
      ⟨⟨by decide, by decide, rfl, .inr rfl⟩, List.forall_mem_cons.2 ⟨?_, nofun⟩⟩⟩
    · exact ⟨rfl, by decide, by decide, readKind_prim .binary nofun _ (.binary (b := [1, 2]) (by decide)) false, nofun⟩
    · exact ⟨rfl, by decide, by decide, readKind_prim .binary nofun _ (.binary (b := [3]) (by decide)) false, nofun⟩

/-- the hypotheses of `loopU_spec` are satisfiable, and the conclusion is a concrete parse -/
example : ∃ a, runSlots false exSlots false
      [240, 2, 1, 2, 7, 1, 5, 9, 2, 1, 2, 242, 0, 9, 1, 3]
    = .ok (.cons (.nat 5) (.cons (.seq (.cons (.bytes [1, 2]) (.cons (.bytes [3]) .nil))) .nil)) a :=
  loopU_spec exSlots false exGroups ex_distinct ex_init ex_groups

end LU
end Ndn.C13
