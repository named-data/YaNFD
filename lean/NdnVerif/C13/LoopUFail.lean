/-
  C13/LoopUFail.lean — the UNORDERED generated parse loop meets `FailSpec` (a case of `LU.sound`), with a
  concrete instance.
-/
import NdnVerif.C13.LoopU
namespace Ndn.C13
namespace LUF
open LU

theorem loopU_fail : FailSpec false := failSpec_of_sound sound

/-! ## non-vacuity: binary 7, sequence of naturals 9; one item of slot 7, then an unknown critical
    element (type 241), `ignoreCritical = false` -/

def exSlots : List Slot := compile (.cons 7 .binary (.cons 9 (.seq (.natural false)) .nil))

theorem exSlots_eq : exSlots =
    [⟨7, true, false, 0, .absent, readKind .binary⟩,
     ⟨9, true, false, 1, .seq .nil, readKind (.seq (.natural false))⟩] := rfl

/-- the concrete parse, evaluated -/
example : runSlots false exSlots false [7, 2, 170, 187, 241, 1, 0, 9, 1, 5] = .err 2 := by
  rfl

/-- the hypotheses of `FailSpec` for this input: `pre = []`, current slot 7 with one item, then the
    critical element 241, then an item of slot 9 as the arbitrary tail -/
theorem ex_fail (ord : Bool) (h : FailSpec ord) :
    ∃ a, runSlots ord exSlots false [7, 2, 170, 187, 241, 1, 0, 9, 1, 5] = .err a :=
  h exSlots [] [⟨9, true, false, 1, .seq .nil, readKind (.seq (.natural false))⟩]
    ⟨7, true, false, 0, .absent, readKind .binary⟩ false [] [.item 2 [170, 187] (.bytes [170, 187])]
    (tlv 241 [0]) [9, 1, 5] rfl (by show (_ ∧ _ ∧ True); decide) trivial
    (List.forall_mem_cons.2 ⟨⟨rfl, by decide, by decide,
      readKind_prim .binary nofun _ (.binary (b := [170, 187]) (by decide)) false, nofun⟩, nofun⟩)
    (.critical 241 [0] (by decide) (by decide) rfl rfl rfl (fun _ => by decide))

/-- the hypotheses of `loopU_fail` are satisfiable -/
example : ∃ a, runSlots false exSlots false [7, 2, 170, 187, 241, 1, 0, 9, 1, 5] = .err a :=
  ex_fail false loopU_fail

end LUF
end Ndn.C13
