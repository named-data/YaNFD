/-
  C13/RoundTrip.lean — the generic round trip `parse s ic (encode s v) = .ok v _` for every well-formed
  schema and valid value, from the loops' common specification `LoopSpec` alone.  Every item of the
  stream `mkGroups fs vs` is accepted by the reader of its slot: a mutual structural induction over the
  schema, because a struct field's reader runs the inner model.
-/
import NdnVerif.C13.RoundTripLemmas
namespace Ndn.C13

theorem rt_of_groups (h : ∀ ord, LoopSpec ord) (fs : Fields) (hwf : wfFields fs = true) (ord : Bool) (vs : Vals)
    (ic : Bool) (hv : validVs fs vs = true) (hg : GroupsOk (compile fs) ic (compile fs) (mkGroups fs vs)) :
    ∃ a, runSlots ord (compile fs) ic (encFields fs vs) = .ok vs a := by
  have := h ord _ ic _ (distinct_compile fs hwf) (initOk_compile fs) hg
  rwa [groupsBytes_mkGroups fs vs hwf hv, expected_mkGroups fs vs hwf hv] at this

/-- a struct field reads its own value bytes as soon as the inner model round-trips -/
theorem reads_struct (ord : Bool) (fs : Fields)
    (H : ∀ (ord : Bool) (vs : Vals) (ic : Bool), validVs fs vs = true →
      ∃ a, runSlots ord (compile fs) ic (encFields fs vs) = .ok vs a) :
    Reads (.struct ord fs) := by
  intro v hp ic rest
  cases hp with
  | struct _ _ h2 h3 =>
    exact readStruct_ends ord fs _ ic rest (some _) (Nat.lt_trans h3 (by decide)) (H ord _ ic h2)

theorem groups_ok_cons (t : Nat) (k : Kind) (fs : Fields) (hwf : wfFields (.cons t k fs) = true)
    (hitem : wfKind k = true → Reads (elemKind k))
    (ih : wfFields fs = true → ∀ (all : List Slot) (ic : Bool) (vs : Vals), validVs fs vs = true →
      GroupsOk all ic (compile fs) (mkGroups fs vs)) :
    ∀ (all : List Slot) (ic : Bool) (vs : Vals), validVs (.cons t k fs) vs = true →
      GroupsOk all ic (compile (.cons t k fs)) (mkGroups (.cons t k fs) vs)
  | _, _, .nil, hv => by cases hv
  | all, ic, .cons v vs, hv => by
    obtain ⟨hk, ht, hfs⟩ := wfFields_cons hwf
    obtain ⟨hv1, hv2⟩ := validVs_cons hv
    rw [compile_cons]
    exact ⟨group_ok_of k t all ic v hk (fun hty => ⟨(ht hty).1, (ht hty).2.1⟩) hv1 (hitem hk),
      ih hfs all ic vs hv2⟩

mutual
theorem kind_ok (h : ∀ ord, LoopSpec ord) : ∀ (k : Kind), wfKind k = true → Reads (elemKind k)
  | .struct ord fs, hwf =>
    reads_struct ord fs
      fun ord vs ic hv => rt_of_groups h fs hwf ord vs ic hv (groups_ok h fs hwf _ ic vs hv)
  | .seq sub, hwf => by
    have := kind_ok h sub (wfKind_seq hwf).2
    rwa [elemKind_plain (elemKindOk_multi (wfKind_seq hwf).1)] at this
  | .map _ _ vk, hwf => by
    have := kind_ok h vk (wfKind_map hwf).2.2.1
    rwa [elemKind_plain (elemKindOk_multi (wfKind_map hwf).2.1)] at this
  | .natural _, _ => readKind_prim _ nofun
  | .fixedUint _ _, _ => readKind_prim _ nofun
  | .time _, _ => readKind_prim _ nofun
  | .bool, _ => readKind_prim _ nofun
  | .binary, _ => readKind_prim _ nofun
  | .string _, _ => readKind_prim _ nofun
  | .wire, _ => readKind_prim _ nofun
  | .name, _ => readKind_prim _ nofun
  | .marker, _ => readKind_prim _ nofun
  | .signature, _ => readKind_prim _ nofun
  | .interestName, _ => readKind_prim _ nofun
theorem groups_ok (h : ∀ ord, LoopSpec ord) : ∀ (fs : Fields), wfFields fs = true →
    ∀ (all : List Slot) (ic : Bool) (vs : Vals), validVs fs vs = true →
      GroupsOk all ic (compile fs) (mkGroups fs vs)
  | .nil, _ => fun _ _ vs hv => by cases vs <;> first | trivial | cases hv
  | .cons t k fs, hwf => groups_ok_cons t k fs hwf (kind_ok h k) (groups_ok h fs)
end

/-- every plain kind of a well-formed schema reads the value bytes of its own encoding
    (vacuous for sequences and maps, whose items are read by the element kind's reader) -/
theorem item_ok (hU : LoopSpec false) (hO : LoopSpec true) : ∀ (k : Kind), wfKind k = true → k.multi = 0 → ItemOk k :=
  fun k hwf hm v hv hne => (elemKind_plain hm ▸ kind_ok (Bool.rec hU hO) k hwf) v (present_of_valid hwf hm hv hne)

/-- **Generic round trip**: for every well-formed field list and every valid value, both generated
    parse loops (`ord`), with or without `ignoreCritical`, read the encoding back to the value. -/
theorem fields_roundtrip (h : ∀ ord, LoopSpec ord) :
    ∀ (fs : Fields) (ord : Bool) (vs : Vals) (ic : Bool),
      wfFields fs = true → validVs fs vs = true →
      ∃ a, runSlots ord (compile fs) ic (encFields fs vs) = .ok vs a :=
  fun fs ord vs ic hwf hv =>
    rt_of_groups h fs hwf ord vs ic hv (groups_ok h fs hwf _ ic vs hv)

/-! ## non-vacuity: a model with a nested struct, a sequence of structs, a map and a marker -/

def exInner : Fields := .cons 7 (.natural false) (.cons 8 (.string true) .nil)

def exFields : Fields :=
  .cons 1 (.struct true exInner)
    (.cons 0 .marker
      (.cons 2 (.seq (.struct false exInner))
        (.cons 3 (.map (.natural false) 5 (.string false))
          (.cons 4 .bool (.cons 6 (.time true) .nil)))))

def exVal : Vals :=
  .cons (.struct (.cons (.nat 300) (.cons .absent .nil)))
    (.cons .absent
      (.cons (.seq (.cons (.struct (.cons (.nat 1) (.cons (.bytes [97]) .nil)))
                   (.cons (.struct (.cons (.nat 2) (.cons .absent .nil))) .nil)))
        (.cons (.map (.cons (.pair (.nat 1) (.bytes [1, 2])) (.cons (.pair (.nat 70000) (.bytes [])) .nil)))
          (.cons .tt (.cons (.nat 4000000) .nil)))))

theorem exFields_wf : wfFields exFields = true := by decide
theorem exVal_valid : validVs exFields exVal = true := by decide +kernel

example : wfFields exFields = true := exFields_wf
example : validVs exFields exVal = true := exVal_valid
/-- the hypotheses of `fields_roundtrip` are satisfiable and its conclusion is what evaluation gives
    (both loops) -/
example : ∃ a, runSlots false (compile exFields) false (encFields exFields exVal) = .ok exVal a := ⟨_, rfl⟩
example : ∃ a, runSlots true (compile exFields) false (encFields exFields exVal) = .ok exVal a := ⟨_, rfl⟩
example : ∃ a, parse ⟨"Ex", false, exFields⟩ true (encode ⟨"Ex", false, exFields⟩ exVal) = .ok exVal a := ⟨_, rfl⟩

end Ndn.C13
