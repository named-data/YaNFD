/-
  C13/Props.lean — property theorems of C13: every generated TLV model round-trips and matches its
  generator.  The theorems are about the generic schema interpreter (`Model.lean`), for EVERY
  well-formed schema and EVERY valid value; `all_generated_schemas_wf` instantiates them with the
  table regenerated from the working tree on every check run (`Gen/C13Schemas.lean`).
  Definitions of the statements: Model.lean, Spec.lean, Text.lean (`insAt`, `fieldsTypes`); proofs: Codec.lean,
  Loop*.lean, RoundTrip*.lean, Unknown*.lean.
  Core Lean only.
-/
import NdnVerif.C13.Unknown
import NdnVerif.Gen.C13Schemas
namespace Ndn.C13

/-! ## "encoding yields exactly the number of bytes the encoder announced" -/

/-- `EncodeInto` writes exactly `encoder.length` bytes: for every schema (well-formed or not) and
    every value (valid or not). -/
theorem encode_length_eq_announced (s : Schema) (v : Vals) : (encode s v).length = encLen s v :=
  enc_lengths.2.2.2 s.fields v

/-- the same for one field of any kind, at any nesting depth -/
theorem field_length_eq_announced (k : Kind) (t : Nat) (v : Val) : (encKind k t v).length = lenKind k t v :=
  enc_lengths.1 k t v

example : (encode ⟨"x", false, .cons 7 .name (.cons 24 (.natural true) .nil)⟩
            (.cons (.name [⟨8, [97]⟩]) (.cons (.nat 300) .nil))).length = 9 := by decide

/-- every model the generator accepts in the current working tree is well-formed: typed fields
    have distinct non-zero type numbers below 2^64, fixed-width integers are 1/2/4/8 bytes wide,
    sequence elements and map values are single-TLV kinds, map keys are naturals or strings.
    (`decide` over the finite regenerated table.) -/
theorem all_generated_schemas_wf : ∀ s ∈ Ndn.Gen.C13.allSchemas, wfSchema s = true :=
  -- one evaluation of the checker over the whole table, by the kernel
  List.all_eq_true.mp (by decide +kernel : Ndn.Gen.C13.allSchemas.all wfSchema = true)

/-- the table is what the check discovered: of the announced size -/
theorem generated_table_size : Ndn.Gen.C13.allSchemas.length = Ndn.Gen.C13.modelCount := by decide

/-! ## "decoding it reproduces the value" -/

/-- decode ∘ encode = id for every well-formed schema, every valid value, with or without
    `ignoreCritical`; nested models, sequences, maps, ordered and unordered models included. -/
theorem parse_encode (s : Schema) (v : Vals) (ic : Bool)
    (hwf : wfSchema s = true) (hv : validVs s.fields v = true) :
    ∃ a, parse s ic (encode s v) = .ok v a :=
  fields_roundtrip loopSpec s.fields s.ordered v ic hwf hv

/-- instantiated: every generated model of the working tree round-trips every valid value -/
theorem generated_models_roundtrip (s : Schema) (hs : s ∈ Ndn.Gen.C13.allSchemas) (v : Vals) (ic : Bool)
    (hv : validVs s.fields v = true) : ∃ a, parse s ic (encode s v) = .ok v a :=
  parse_encode s v ic (all_generated_schemas_wf s hs) hv

/-! ## "an unrecognised non-critical element inserted at any position … is skipped and every other
       field still decodes unchanged" -/

/-- `insAt s.fields v sel k junk` is the encoding of `v` with the extra element inserted at item
    boundary `k` of the nesting level reached through the struct items `sel` (every enclosing
    length recomputed) — the same function the correspondence harness checks against the real
    code.  For ANY such position, any depth, ordered and unordered models: if the element's type
    number is unknown to the model (at every level) and the caller tolerates it (non-critical, or
    `ignoreCritical`), the decoder returns exactly the original value. -/
theorem unknown_noncritical_skipped (s : Schema) (v : Vals) (ic : Bool) (sel : List Nat) (k jt : Nat)
    (jbody b : Bytes)
    (hwf : wfSchema s = true) (hv : validVs s.fields v = true)
    (hjt : jt < 2 ^ 64) (hjb : jbody.length < maxLen)
    (hunk : (fieldsTypes s.fields).contains jt = false)
    (htol : ic = true ∨ critical jt = false)
    (hins : insAt s.fields v sel k (tlv jt jbody) = some b) :
    ∃ a, parse s ic b = .ok v a :=
  unknown_skipped_fields s.fields v s.ordered ic sel k jt jbody b hwf hv hjt hjb hunk htol hins

/-! ## "an unrecognised critical element causes rejection unless the caller asked to ignore it" -/

/-- the same insertion with a CRITICAL unknown type number (`typ ≤ 31` or odd) and
    `ignoreCritical = false`: the decoder returns an error — at any position, any nesting depth,
    ordered and unordered models.  With `ignoreCritical = true` the element is skipped
    (`unknown_noncritical_skipped` with `ic = true`). -/
theorem unknown_critical_rejected_unless_ignored (s : Schema) (v : Vals) (sel : List Nat) (k jt : Nat)
    (jbody b : Bytes)
    (hwf : wfSchema s = true) (hv : validVs s.fields v = true)
    (hjt : jt < 2 ^ 64) (hjb : jbody.length < maxLen)
    (hunk : (fieldsTypes s.fields).contains jt = false)
    (hcrit : critical jt = true)
    (hins : insAt s.fields v sel k (tlv jt jbody) = some b) :
    (∃ a, parse s false b = .err a) ∧ (∃ a, parse s true b = .ok v a) :=
  ⟨unknown_critical_rejected_fields s.fields v s.ordered sel k jt jbody b hwf hv hjt hjb hunk hcrit hins,
   unknown_skipped_fields s.fields v s.ordered true sel k jt jbody b hwf hv hjt hjb hunk (Or.inl rfl) hins⟩

/-- the critical-bit rule the property names: `typ ≤ 31` or odd -/
theorem critical_rule (t : Nat) : critical t = true ↔ (t ≤ 31 ∨ t % 2 = 1) := by
  simp [critical]

example : critical 31 = true ∧ critical 32 = false ∧ critical 33 = true ∧ critical 240 = false := by decide

-- non-vacuity: a nested ordered struct, a sequence of structs, a map, a bool and an optional time
example : wfFields exFields = true ∧ validVs exFields exVal = true := ⟨exFields_wf, exVal_valid⟩

/-! ## non-vacuity with a PRESENT SignatureValue on an ordered model whose LAST declared field is the
       signature (the shape of Data: Name, Content, SignatureValue) — the signing path, where the
       caller supplies the signature bytes and the encoder writes `T L value` for them -/

def sigFields : Fields := .cons 7 .name (.cons 21 .wire (.cons 23 .signature .nil))
def sigSchema : Schema := ⟨"SigEx", true, sigFields⟩
/-- name `/a`, content `[1]`, signature `[9, 9]` -/
def sigVal : Vals := .cons (.name [⟨8, [97]⟩]) (.cons (.bytes [1]) (.cons (.bytes [9, 9]) .nil))
/-- the encoding of `sigVal` followed by the unknown non-critical element `240 2 [1 2]` -/
def sigJunkAfter : Bytes := [7, 3, 8, 1, 97, 21, 1, 1, 23, 2, 9, 9, 240, 2, 1, 2]
/-- the same with the unknown CRITICAL element `241 2 [1 2]` -/
def sigCritAfter : Bytes := [7, 3, 8, 1, 97, 21, 1, 1, 23, 2, 9, 9, 241, 2, 1, 2]

theorem sig_wf : wfSchema sigSchema = true ∧ validVs sigSchema.fields sigVal = true := by decide

example : wfSchema sigSchema = true ∧ validVs sigSchema.fields sigVal = true := sig_wf
-- the signature IS written and announced: 5 + 3 + 4 bytes
example : encode sigSchema sigVal = [7, 3, 8, 1, 97, 21, 1, 1, 23, 2, 9, 9] ∧ encLen sigSchema sigVal = 12 := by
  decide
-- boundary 3 = after the last declared field (the SignatureValue)
theorem sigJunkAfter_eq : insAt sigSchema.fields sigVal [] 3 (tlv 240 [1, 2]) = some sigJunkAfter := by decide +kernel
theorem sigCritAfter_eq : insAt sigSchema.fields sigVal [] 3 (tlv 241 [1, 2]) = some sigCritAfter := by decide +kernel

example : insAt sigSchema.fields sigVal [] 3 (tlv 240 [1, 2]) = some sigJunkAfter := sigJunkAfter_eq
example : insAt sigSchema.fields sigVal [] 3 (tlv 241 [1, 2]) = some sigCritAfter := sigCritAfter_eq

/-- `parse_encode` with a present signature -/
example : ∃ a, parse sigSchema false (encode sigSchema sigVal) = .ok sigVal a :=
  parse_encode sigSchema sigVal false sig_wf.1 sig_wf.2

/-- `unknown_noncritical_skipped` instantiated: junk after the SignatureValue of an ordered model -/
example : ∃ a, parse sigSchema false sigJunkAfter = .ok sigVal a :=
  unknown_noncritical_skipped sigSchema sigVal false [] 3 240 [1, 2] sigJunkAfter
    sig_wf.1 sig_wf.2 (by decide) (by decide) rfl (Or.inr rfl) sigJunkAfter_eq

/-- `unknown_critical_rejected_unless_ignored` instantiated at the same position -/
example : (∃ a, parse sigSchema false sigCritAfter = .err a) ∧ (∃ a, parse sigSchema true sigCritAfter = .ok sigVal a) :=
  unknown_critical_rejected_unless_ignored sigSchema sigVal [] 3 241 [1, 2] sigCritAfter
    sig_wf.1 sig_wf.2 (by decide) (by decide) rfl rfl sigCritAfter_eq

/-- and what evaluation of the model gives on those concrete byte strings -/
example : ∃ a, parse sigSchema false sigJunkAfter = .ok sigVal a := ⟨_, rfl⟩
example : ∃ a, parse sigSchema false sigCritAfter = .err a := ⟨_, rfl⟩
example : ∃ a, parse sigSchema true sigCritAfter = .ok sigVal a := ⟨_, rfl⟩
-- also at every other boundary of the signed encoding (before the name, the content, the signature)
example : ([0, 1, 2, 3].map fun k =>
      (insAt sigSchema.fields sigVal [] k (tlv 240 [1, 2])).bind fun b => (parse sigSchema false b).val?)
    = [some sigVal, some sigVal, some sigVal, some sigVal] := rfl

/-- **Non-negative integers have one of four widths.**  A natural-number or time field whose TLV
    length is not 1, 2, 4 or 8 is REJECTED by every generated decoder, whatever follows (repair
    F-13e; before it `6a 03 01 02 03` decoded to 66051, `6a 00` to 0 and a nine-byte value lost its
    first byte — the management protocol then acted on a number nobody had written). -/
theorem natural_of_other_width_rejected (o : Bool) (l : Nat) (ic : Bool) (rest : Bytes)
    (hl : l ≠ 1 ∧ l ≠ 2 ∧ l ≠ 4 ∧ l ≠ 8) :
    readKind (.natural o) l ic rest = .err 0 ∧ readKind (.time o) l ic rest = .err 0 := by
  have h : natLenOk l = false := by
    simp [natLenOk, Ndn.Gen.C13.naturalWidthChecked, hl.1, hl.2.1, hl.2.2.1, hl.2.2.2]
  constructor <;> simp [readKind, readNatLoop, h, Res.bind]

/-- the regenerated fact behind it: the decoder template of the working tree enforces the widths (a tree whose
    template accepts every length regenerates `false`, and this and the theorem above no longer check) -/
theorem decoder_template_enforces_natural_widths : Ndn.Gen.C13.naturalWidthChecked = true := by decide

/-- … and the four widths are exactly what the generated encoders write, for every value -/
theorem encoders_write_accepted_widths (n : Nat) : natLenOk (encNat n).length = true :=
  natLenOk_encNat n

example : readKind (.natural false) 3 false [1, 2, 3, 9] = .err 0 :=
  (natural_of_other_width_rejected false 3 false [1, 2, 3, 9] (by decide)).1
example : ∃ a, readKind (.natural false) 2 false [1, 2, 3, 9] = .ok (.nat 258, [3, 9]) a := ⟨0, by simp [readKind, readNatLoop, natLenOk, readUintLoop, goInt, beDecMod]⟩

/-- **A map entry whose KEY does not decode is an error of the map field** (repair F-13f; before it the
    generated map decoder let the `ReadTLNum` that follows overwrite the key decoder's error and kept
    the entry under a zero / partial key): whatever the key and value decoders are. -/
theorem map_key_error_is_an_error (rk rv : Nat → Bool → Bytes → Res (Val × Bytes)) (vt l : Nat) (ic : Bool)
    (rest : Bytes) (a : Nat) (h : rk l ic rest = .err a) :
    readMap rk rv vt l ic rest = .err a := by
  simp [readMap, h, Res.bind]

example : readMap (readKind (.natural false)) (readKind .binary) 135 3 false [1, 2, 3, 135, 1, 9] = .err 0 :=
  map_key_error_is_an_error _ _ 135 3 false _ 0
    ((natural_of_other_width_rejected false 3 false _ (by decide)).1)

end Ndn.C13
