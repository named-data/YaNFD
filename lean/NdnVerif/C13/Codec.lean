/-
  C13/Codec.lean — one field: the length pass announces what the encoder writes; a present value of a
  plain kind is encoded as `T L body` (`bodyOf`), and the kind's reader takes the body back.  Results are
  compared up to the allocation counter (`Res.Ends`).
-/
import NdnVerif.C13.Spec
namespace Ndn.C13

theorem tlv_length (t : Nat) (b : Bytes) : (tlv t b).length = tlvLen t b.length := by
  simp only [tlv, tlvLen, List.length_append, encTL_length]

theorem encNatTLV_length (t n : Nat) : (encNatTLV t n).length = tlLen t + 1 + natLen n := by
  simp only [encNatTLV, List.length_append, encTL_length, encNat_length, List.length_singleton]

theorem encComps_length (n : Name) :
    (encComps n).length = (n.map fun c => tlLen c.typ + tlLen c.val.length + c.val.length).sum := by
  induction n with
  | nil => rfl
  | cons c r ih =>
    simp only [encComps, List.flatMap_cons, List.length_append, List.map_cons, List.sum_cons] at ih ⊢
    rw [ih]; simp only [encComp, List.length_append, encTL_length]

/-- Functional induction along the encoder: in every case the two passes add up the same pieces. -/
theorem enc_lengths :
    (∀ k t v, (encKind k t v).length = lenKind k t v) ∧
    (∀ kk vt vk t kvs, (encMap kk vt vk t kvs).length = lenMap kk vt vk t kvs) ∧
    (∀ k t vs, (encSeq k t vs).length = lenSeq k t vs) ∧
    (∀ fs vs, (encFields fs vs).length = lenFields fs vs) := by
  refine encKind.mutual_induct (motive_1 := fun k t v => (encKind k t v).length = lenKind k t v)
    (motive_2 := fun kk vt vk t kvs => (encMap kk vt vk t kvs).length = lenMap kk vt vk t kvs)
    (motive_3 := fun k t vs => (encSeq k t vs).length = lenSeq k t vs)
    (motive_4 := fun fs vs => (encFields fs vs).length = lenFields fs vs)
    ?_ ?_ ?_ ?_ ?_ ?_ ?_ ?_ ?_ ?_ ?_ ?_ ?_ ?_ ?_ ?_ ?_ ?_ ?_ ?_ ?_
  all_goals intros
  all_goals simp only [encKind, lenKind, encMap, lenMap, encSeq, lenSeq, encFields, lenFields,
    encNatTLV_length, tlv_length, encComps_length, List.length_append, encTL_length,
    List.length_singleton, be_length, List.length_nil, *]

theorem encSeq_length : ∀ (vs : Vals) (k : Kind) (t : Nat), (encSeq k t vs).length = lenSeq k t vs :=
  fun vs k t => enc_lengths.2.2.1 k t vs

theorem encMap_length : ∀ (kvs : Vals) (kk : Kind) (vt : Nat) (vk : Kind) (t : Nat),
    (encMap kk vt vk t kvs).length = lenMap kk vt vk t kvs :=
  fun kvs kk vt vk t => enc_lengths.2.1 kk vt vk t kvs

namespace Res

/-- `r` ends in the value `v` (`some v`) or in a Go `error` (`none`); what was allocated is left open.
    Both loop specifications speak of results in this form. -/
def Ends {α : Type} (r : Res α) : Option α → Prop
  | some v => ∃ a, r = .ok v a
  | none => ∃ a, r = .err a

theorem ends_ok {α : Type} (v : α) (n : Nat) (o : Option α) : (Res.ok v n).Ends o ↔ o = some v := by
  cases o <;> simp [Ends, eq_comm]

theorem ends_err {α : Type} (n : Nat) (o : Option α) : (Res.err n : Res α).Ends o ↔ o = none := by
  cases o <;> simp [Ends]

theorem not_ends_fuel {α : Type} (o : Option α) : ¬ (Res.fuel : Res α).Ends o := by
  cases o <;> simp [Ends]

theorem not_ends_panic {α : Type} (o : Option α) : ¬ (Res.panic : Res α).Ends o := by
  cases o <;> simp [Ends]

theorem ends_bind_ok {α β : Type} {r : Res α} {x : α} {n : Nat} (h : r = .ok x n) (f : α → Res β)
    (o : Option β) : (r.bind f).Ends o ↔ (f x).Ends o := by
  subst h
  cases hf : f x <;> cases o <;> simp [Res.bind, Ends, hf]

theorem ends_bind_err {α β : Type} {r : Res α} {n : Nat} (h : r = .err n) (f : α → Res β) :
    (r.bind f).Ends none :=
  ⟨n, by subst h; rfl⟩

theorem ends_bind_pure {α β : Type} (r : Res α) (g : α → β) (o : Option β) :
    (r.bind fun x => .ok (g x) 0).Ends o ↔ ∃ o', r.Ends o' ∧ o = o'.map g := by
  cases r with
  | ok x n =>
    simp only [Res.bind, ends_ok]
    exact ⟨fun h => ⟨some x, rfl, h⟩, fun ⟨_, h1, h2⟩ => by subst h1; exact h2⟩
  | err n =>
    simp only [Res.bind, ends_err]
    exact ⟨fun h => ⟨none, rfl, h⟩, fun ⟨_, h1, h2⟩ => by subst h1; exact h2⟩
  | panic => exact ⟨fun h => absurd h (not_ends_panic o), fun ⟨o', h, _⟩ => absurd h (not_ends_panic o')⟩
  | fuel => exact ⟨fun h => absurd h (not_ends_fuel o), fun ⟨o', h, _⟩ => absurd h (not_ends_fuel o')⟩

end Res

theorem goInt_nonneg {l : Nat} (h : l < 2 ^ 63) : ¬ goInt l < 0 := by
  unfold goInt
  rw [Nat.mod_eq_of_lt (by omega), if_pos h]
  omega

theorem goMake_ok (n esz : Nat) (h1 : n < 2 ^ 63) (h2 : n * esz ≤ maxAlloc) : goMake n esz = .ok () (n * esz) := by
  unfold goMake
  rw [if_neg]; omega

theorem skipN_body (body rest : Bytes) (h : body.length < 2 ^ 63) :
    skipN body.length (body ++ rest) = .ok rest 0 := by
  unfold skipN
  rw [if_neg (goInt_nonneg h), if_neg (by simp), List.drop_left]

theorem delegate_exact (b rest : Bytes) (h : b.length < 2 ^ 63) : delegate b.length (b ++ rest) = (b, rest) := by
  unfold delegate
  rw [if_neg (by simp [goInt_nonneg h]), List.take_left, List.drop_left]

theorem foldl_beDecMod (w : Nat) (t : Bytes) : ∀ acc : Nat,
    t.foldl (fun a x => (a * 256 + x) % 256 ^ w) acc = beDecMod w acc t := by
  induction t with
  | nil => intro acc; rfl
  | cons x t ih => intro acc; rw [List.foldl_cons, ih, beDecMod]

theorem beDecMod_eq (w : Nat) (b : Bytes) (acc : Nat) (h : acc < 256 ^ w) :
    beDecMod w acc b = (acc * 256 ^ b.length + beDec b) % 256 ^ w := by
  rw [← foldl_beDecMod, ← foldl_be_mod, Nat.mod_eq_of_lt h]

theorem readUintLoop_spec (w : Nat) (b rest : Bytes) (hl : b.length < 2 ^ 63) (n : Nat)
    (hb : beDec b = n) (hn : n < 256 ^ w) :
    readUintLoop w b.length (b ++ rest) = .ok (.nat n, rest) 0 := by
  unfold readUintLoop
  rw [if_neg (goInt_nonneg hl), if_neg (by simp), List.take_left, List.drop_left,
    beDecMod_eq w b 0 (Nat.pow_pos (by omega)), Nat.zero_mul, Nat.zero_add, hb, Nat.mod_eq_of_lt hn]

theorem natLenOk_encNat (n : Nat) : natLenOk (encNat n).length = true := by
  rw [encNat_length]
  rcases natLen_cases n with h | h | h | h <;> rw [h] <;> simp [natLenOk]

theorem readNatLoop_encNat {n : Nat} (hn : n < 2 ^ 64) (rest : Bytes) :
    readNatLoop (encNat n).length (encNat n ++ rest) = .ok (.nat n, rest) 0 := by
  unfold readNatLoop
  rw [natLenOk_encNat, if_pos rfl]
  exact readUintLoop_spec 8 _ rest (by rw [encNat_length]; have := natLen_le8 n; omega) n
    (beDec_encNat hn) (by omega)

/-- `readKind (.time _)` clamps the milliseconds read to 9223372036854 before it multiplies: the generated
    `if timeInt > uint64((1<<63-1)/time.Millisecond) { timeInt = … }` of `fields_time.go`.  A valid duration is
    below the bound (the first `omega`). -/
theorem timeMs_back (ns : Nat) (h1 : ns % 1000000 = 0) (h2 : ns < 2 ^ 63) :
    min (timeMs ns) 9223372036854 * 1000000 = ns := by
  unfold timeMs
  rw [if_pos h2, Nat.min_eq_left (by omega)]
  omega

theorem timeMs_lt (ns : Nat) (h2 : ns < 2 ^ 63) : timeMs ns < 2 ^ 64 := by
  unfold timeMs; rw [if_pos h2]; omega

theorem encComps_cons (c : Component) (r : Name) :
    encComps (c :: r) = encTL c.typ ++ (encTL c.val.length ++ (c.val ++ encComps r)) := by
  simp only [encComps, List.flatMap_cons, encComp, List.append_assoc]

theorem decComps_encComps (n : Name) (hn : n.all compOk = true) :
    ∀ f, (encComps n).length < f → decComps f (encComps n) = some n := by
  induction n with
  | nil =>
    intro f hf
    cases f with
    | zero => cases hf
    | succ f => rfl
  | cons c r ih =>
    intro f hf
    cases f with
    | zero => cases hf
    | succ f =>
      simp only [List.all_cons, Bool.and_eq_true, compOk, decide_eq_true_eq] at hn
      obtain ⟨⟨hc1, hc2⟩, hr⟩ := hn
      simp only [maxLen] at hc2
      rw [encComps_cons] at hf ⊢
      have := tlLen_pos c.typ
      simp only [List.length_append, encTL_length] at hf
      rw [decComps, if_neg (List.append_ne_nil_of_left_ne_nil (encTL_ne_nil _) _), decTL_encTL _ hc1]
      simp only []  -- reduces the `match some (_, _) with`
      rw [decTL_encTL _ (by omega)]
      simp only []
      rw [if_neg (by simp), List.drop_left, List.take_left, ih hr f (by omega)]

theorem stripDigest_id (n : Name) (h : lastIsDigest n = false) : stripDigest n = n := by
  unfold stripDigest lastIsDigest at *
  split
  · rename_i c hc
    rw [hc] at h
    rw [if_neg (by simpa using h)]
  · rfl

theorem readName_spec (n : Name) (rest : Bytes) (hn : nameOk n = true) :
    ∃ a, readName (encComps n).length (encComps n ++ rest) = .ok (.name n, rest) a := by
  simp only [nameOk, Bool.and_eq_true, decide_eq_true_eq] at hn
  simp only [maxLen] at hn
  unfold readName fits
  rw [if_neg (by simp), goMake_ok _ _ (by omega) (by simp only [maxAlloc]; omega), List.take_left,
    List.drop_left, decComps_encComps n hn.1 _ (by omega)]
  exact ⟨_, rfl⟩

theorem wfFields_cons {t : Nat} {k : Kind} {fs : Fields} (h : wfFields (.cons t k fs) = true) :
    wfKind k = true ∧ (k.hasTyp = true → 0 < t ∧ t < 2 ^ 64 ∧ t ∉ typedTypes fs) ∧ wfFields fs = true := by
  simp only [wfFields, Bool.and_eq_true] at h
  refine ⟨h.1.1, fun hty => ?_, h.2⟩
  simpa only [hty, Bool.not_true, Bool.false_or, Bool.and_eq_true, decide_eq_true_eq, Bool.not_eq_true',
    List.contains_eq_mem, decide_eq_false_iff_not, and_assoc] using h.1.2

theorem wfKind_seq {sub : Kind} (h : wfKind (.seq sub) = true) : elemKindOk sub = true ∧ wfKind sub = true := by
  simpa only [wfKind, Bool.and_eq_true] using h

theorem wfKind_map {kk : Kind} {vt : Nat} {vk : Kind} (h : wfKind (.map kk vt vk) = true) :
    keyKindOk kk = true ∧ elemKindOk vk = true ∧ wfKind vk = true ∧ vt < 2 ^ 64 := by
  simp only [wfKind, Bool.and_eq_true, decide_eq_true_eq] at h
  exact ⟨h.1.1.1.1, h.1.1.1.2, h.1.1.2, h.2⟩

theorem validVs_cons {t : Nat} {k : Kind} {fs : Fields} {v : Val} {vs : Vals}
    (h : validVs (.cons t k fs) (.cons v vs) = true) : validV k v = true ∧ validVs fs vs = true := by
  simpa only [validVs, Bool.and_eq_true] using h

theorem field_cons {t : Nat} {k : Kind} {fs : Fields} {v : Val} {vs : Vals}
    (hwf : wfFields (.cons t k fs) = true) (hv : validVs (.cons t k fs) (.cons v vs) = true) :
    wfKind k = true ∧ validV k v = true ∧ wfFields fs = true ∧ validVs fs vs = true :=
  ⟨(wfFields_cons hwf).1, (validVs_cons hv).1, (wfFields_cons hwf).2.2, (validVs_cons hv).2⟩

/-- value bytes of a (non-multi) field: `encKind k t v = encTL t ++ encTL body.length ++ body` -/
def bodyOf : Kind → Val → Bytes
  | .natural _, .nat n => encNat n
  | .time _, .nat ns => encNat (timeMs ns)
  | .fixedUint w _, .nat n => be w n
  | .binary, .bytes b => b
  | .string _, .bytes b => b
  | .wire, .bytes b => b
  | .signature, .bytes b => b
  | .name, .name n => encComps n
  | .interestName, .name n => encComps (stripDigest n)
  | .struct _ fs, .struct vs => encFields fs vs
  | _, _ => []

/-- `Present k v`: `v` is a valid value, not absent, of the plain kind `k` of a well-formed schema — with
    what `validV` and `wfKind` say in each case. -/
inductive Present : Kind → Val → Prop
  | natural (o : Bool) {n : Nat} : n < 2 ^ 64 → Present (.natural o) (.nat n)
  | fixedUint {w : Nat} (o : Bool) {n : Nat} : w = 1 ∨ w = 2 ∨ w = 4 ∨ w = 8 → n < 256 ^ w →
      Present (.fixedUint w o) (.nat n)
  | time (o : Bool) {ns : Nat} : ns % 1000000 = 0 → ns < 2 ^ 63 → Present (.time o) (.nat ns)
  | bool : Present .bool .tt
  | binary {b : Bytes} : b.length < maxLen → Present .binary (.bytes b)
  | string (o : Bool) {b : Bytes} : b.length < maxLen → Present (.string o) (.bytes b)
  | wire {b : Bytes} : b.length < maxLen → Present .wire (.bytes b)
  | signature {b : Bytes} : b.length < maxLen → Present .signature (.bytes b)
  | name {n : Name} : nameOk n = true → Present .name (.name n)
  | interestName {n : Name} : nameOk n = true → lastIsDigest n = false → Present .interestName (.name n)
  | struct (o : Bool) {fs : Fields} {vs : Vals} : wfFields fs = true → validVs fs vs = true →
      (encFields fs vs).length < maxLen → Present (.struct o fs) (.struct vs)

/-- the four shapes of a valid field of a well-formed schema, with what `wfKind` and `validV` say in
    each -/
inductive Shape : Kind → Val → Prop
  | absent {k : Kind} : k.multi = 0 → k.required = false → Shape k .absent
  | present {k : Kind} {v : Val} : Present k v → Shape k v
  | seq {sub : Kind} {es : Vals} : elemKindOk sub = true → wfKind sub = true → validElems sub es = true →
      Shape (.seq sub) (.seq es)
  | map {kk : Kind} {vt : Nat} {vk : Kind} {kvs : Vals} : keyKindOk kk = true → elemKindOk vk = true →
      wfKind vk = true → vt < 2 ^ 64 → validPairs kk vk kvs = true → keysDistinct kvs = true →
      Shape (.map kk vt vk) (.map kvs)

/-- The case analysis is that of `validV` itself, its arms numbered in the order they are written: up to
    20 an odd number is the absent and the next even number the present value of a plain kind, 21 and 22
    are sequences and maps, 23 is the marker, 24 / 25 the absent / present signature, 26 is "no arm". -/
theorem shape_of_valid {k : Kind} {v : Val} (hwf : wfKind k = true) (hv : validV k v = true) :
    Shape k v := by
  revert hv
  fun_cases validV k v <;> intro hv
  case case2 o n => exact .present (.natural o (of_decide_eq_true hv))
  case case4 w o n =>
    refine .present (.fixedUint o ?_ (of_decide_eq_true hv))
    simpa only [wfKind, Bool.or_eq_true, beq_iff_eq, or_assoc] using hwf
  case case6 o ns =>
    simp only [Bool.and_eq_true, decide_eq_true_eq] at hv
    exact .present (.time o hv.1 hv.2)
  case case8 => exact .present .bool
  case case10 => exact .present (.binary (of_decide_eq_true hv))
  case case12 o b => exact .present (.string o (of_decide_eq_true hv))
  case case14 => exact .present (.wire (of_decide_eq_true hv))
  case case16 => exact .present (.name hv)
  case case18 =>
    simp only [Bool.and_eq_true, Bool.not_eq_true'] at hv
    exact .present (.interestName hv.1 hv.2)
  case case20 o fs vs =>
    simp only [Bool.and_eq_true, decide_eq_true_eq] at hv
    exact .present (.struct o hwf hv.1 hv.2)
  case case21 => exact .seq (wfKind_seq hwf).1 (wfKind_seq hwf).2 hv
  case case22 =>
    obtain ⟨h1, h2, h3, h4⟩ := wfKind_map hwf
    simp only [Bool.and_eq_true] at hv
    exact .map h1 h2 h3 h4 hv.1 hv.2
  case case25 => exact .present (.signature (of_decide_eq_true hv))
  case case26 => cases hv
  all_goals cases hv; exact .absent rfl rfl

theorem present_of_valid {k : Kind} {v : Val} (hwf : wfKind k = true) (hm : k.multi = 0)
    (hv : validV k v = true) (hp : v ≠ .absent) : Present k v := by
  cases shape_of_valid hwf hv with
  | absent => exact absurd rfl hp
  | present h => exact h
  | seq => cases hm
  | map => cases hm

namespace Present

theorem multi {k : Kind} {v : Val} (h : Present k v) : k.multi = 0 := by
  cases h <;> rfl

theorem ne_absent {k : Kind} {v : Val} (h : Present k v) : v ≠ .absent := by
  cases h <;> exact Val.noConfusion

theorem hasTyp {k : Kind} {v : Val} (h : Present k v) : k.hasTyp = true := by
  cases h <;> rfl

end Present

theorem encNatTLV_eq (t n : Nat) : encNatTLV t n = encTL t ++ encTL (encNat n).length ++ encNat n := by
  rw [encNat_length, encTL_small (x := natLen n) (by have := natLen_le8 n; omega)]; rfl

theorem encKind_eq_tlv {k : Kind} {v : Val} (h : Present k v) (t : Nat) :
    encKind k t v = encTL t ++ encTL (bodyOf k v).length ++ bodyOf k v := by
  cases h with
  | natural => exact encNatTLV_eq t _
  | time => exact encNatTLV_eq t _
  | @fixedUint w o n hw =>
    show encTL t ++ [w] ++ be w n = encTL t ++ encTL (be w n).length ++ be w n
    rw [be_length, encTL_small (x := w) (by omega)]
  | bool => exact (List.append_nil _).symm
  | _ => rfl

theorem nameOk_length {n : Name} (h : nameOk n = true) : (encComps n).length < maxLen := by
  simp only [nameOk, Bool.and_eq_true, decide_eq_true_eq] at h
  exact h.2

theorem bodyOf_length_lt {k : Kind} {v : Val} (h : Present k v) : (bodyOf k v).length < 2 ^ 63 := by
  have hmax : maxLen < 2 ^ 63 := by decide
  cases h with
  | @natural o n => show (encNat n).length < _; rw [encNat_length]; have := natLen_le8 n; omega
  | @time o ns => show (encNat (timeMs ns)).length < _; rw [encNat_length]; have := natLen_le8 (timeMs ns); omega
  | @fixedUint w o n hw => show (be w n).length < _; rw [be_length]; omega
  | bool => decide
  | binary hb => exact Nat.lt_trans hb hmax
  | string o hb => exact Nat.lt_trans hb hmax
  | wire hb => exact Nat.lt_trans hb hmax
  | signature hb => exact Nat.lt_trans hb hmax
  | name hn => exact Nat.lt_trans (nameOk_length hn) hmax
  | @interestName n hn hd =>
    show (encComps (stripDigest n)).length < _
    rw [stripDigest_id n hd]; exact Nat.lt_trans (nameOk_length hn) hmax
  | struct o _ _ hl => exact Nat.lt_trans hl hmax

theorem readWire_body (b rest : Bytes) (h : b.length < 2 ^ 63) :
    readWire b.length (b ++ rest) = .ok (.bytes b, rest) 0 := by
  unfold readWire
  rw [if_neg (goInt_nonneg h), if_neg, if_neg (by simp), List.take_left, List.drop_left]
  intro ⟨h1, h2⟩
  rw [List.append_eq_nil_iff] at h1
  rw [h1.1] at h2
  exact Nat.lt_irrefl _ h2

/-- the reader of the plain kind `k` reads the value bytes of a present value back: `ItemOk` of
    RoundTripLemmas.lean with its two hypotheses on the value in the form every user has them -/
def Reads (k : Kind) : Prop :=
  ∀ v, Present k v → ∀ (ic : Bool) (rest : Bytes),
    ∃ a, readKind k (bodyOf k v).length ic (bodyOf k v ++ rest) = .ok (v, rest) a

theorem readKind_prim (k : Kind) (hns : ∀ o fs, k ≠ .struct o fs) : Reads k := by
  intro v h ic rest
  have hmax : maxLen < 2 ^ 63 := by decide
  cases h with
  | natural o hn => exact ⟨0, readNatLoop_encNat hn rest⟩
  | @time o ns h1 h2 =>
    refine ⟨0 + 0, ?_⟩
    simp only [readKind, bodyOf, readNatLoop_encNat (timeMs_lt ns h2) rest, Res.bind, timeMs_back ns h1 h2]
  | @fixedUint w o n hw hn =>
    refine ⟨0, ?_⟩
    have hl := readUintLoop_spec w (be w n) rest (by rw [be_length]; omega) n (beDec_be w n hn) hn
    rcases hw with rfl | rfl | rfl | rfl
    · have : n % 256 = n := Nat.mod_eq_of_lt hn
      simp only [readKind, bodyOf, be, Nat.pow_zero, Nat.div_one, this, List.cons_append, List.nil_append]
    · exact hl
    · exact hl
    · exact hl
  | bool => exact ⟨0, rfl⟩
  | @binary b hb =>
    refine ⟨b.length * 1 + 0, ?_⟩
    have hf : fits b.length (b ++ rest) = true := by simp [fits]
    simp only [readKind, bodyOf, hf, Bool.not_true, Bool.false_eq_true, if_false]
    rw [goMake_ok _ _ (by omega) (by simp only [maxAlloc, maxLen] at hb ⊢; omega),
      List.take_left, List.drop_left]
    rfl
  | @string o b hb =>
    refine ⟨b.length, ?_⟩
    show readKind (.string o) b.length ic (b ++ rest) = _
    rw [readKind, if_neg (goInt_nonneg (by omega)), if_neg (by simp), List.take_left, List.drop_left]
  | @wire b hb => exact ⟨0, readWire_body b rest (by omega)⟩
  | @signature b hb => exact ⟨0, readWire_body b rest (by omega)⟩
  | name hn => exact readName_spec _ rest hn
  | @interestName n hn hd =>
    show ∃ a, readName (encComps (stripDigest n)).length (encComps (stripDigest n) ++ rest) = _
    rw [stripDigest_id n hd]
    exact readName_spec n rest hn
  | struct o => exact absurd rfl (hns o _)

/-- a struct field ends as its inner model does on the body: whatever body the inner model accepts is
    accepted as the field's value, and a body it refuses is refused -/
theorem readStruct_ends (ord : Bool) (fs : Fields) (body : Bytes) (ic : Bool) (rest : Bytes) (o : Option Vals)
    (hb : body.length < 2 ^ 63) (h : (runSlots ord (compile fs) ic body).Ends o) :
    (readKind (.struct ord fs) body.length ic (body ++ rest)).Ends (o.map fun vs => (.struct vs, rest)) := by
  simp only [readKind, delegate_exact body rest hb]
  exact (Res.ends_bind_pure _ _ _).2 ⟨o, h, rfl⟩

end Ndn.C13
