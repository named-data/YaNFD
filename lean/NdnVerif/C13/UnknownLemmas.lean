/-
  C13/UnknownLemmas.lean — an edit of the item list of a valid encoding happens inside the items of one field
  (`insert_at`, `replace_at`); it leaves the stream one that ends in the same value, or makes it one that
  ends in a refused element (`Str … (some vs)` / `Str … none`; `str_head`, `str_bad`, `str_tail`).
-/
import NdnVerif.C13.RoundTrip
import NdnVerif.C13.LoopOFail
namespace Ndn.C13

theorem split_at {α : Type} : ∀ (l : List α) (i : Nat) (a : α), l[i]? = some a →
    l = l.take i ++ a :: l.drop (i + 1) := by
  intro l i a h
  obtain ⟨hi, rfl⟩ := List.getElem?_eq_some_iff.mp h
  rw [← List.drop_eq_getElem_cons hi, List.take_append_drop]

theorem struct_item {t : Nat} {k : Kind} {t' : Nat} {o : Bool} {ifs : Fields} {ivs : Vals}
    (h : FieldItem t k (t', .struct o ifs, .struct ivs)) :
    t' = t ∧ wfFields ifs = true ∧ validVs ifs ivs = true ∧ (encFields ifs ivs).length < maxLen ∧
    (∀ x, x ∈ fieldsTypes ifs → x ∈ kindTypes k) ∧
    (∀ l ic r, readKind k l ic r = readKind (.struct o ifs) l ic r) := by
  generalize hit : (t', Kind.struct o ifs, Val.struct ivs) = it at h
  cases h with
  | plain h => cases hit; cases h with
    | struct _ h1 h2 h3 => exact ⟨rfl, h1, h2, h3, fun x hx => hx, fun _ _ _ => rfl⟩
  | elem h => cases hit; cases h with
    | struct _ h1 h2 h3 => exact ⟨rfl, h1, h2, h3, fun x hx => hx, fun l ic r => by conv => lhs; rw [readKind]⟩
  | pair => cases hit

theorem struct_item_facts : ∀ (fs : Fields) (vs : Vals), wfFields fs = true → validVs fs vs = true →
    ∀ (t' : Nat) (o : Bool) (ifs : Fields) (ivs : Vals),
    (t', Kind.struct o ifs, Val.struct ivs) ∈ liveItems fs vs →
    wfFields ifs = true ∧ validVs ifs ivs = true ∧ (encFields ifs ivs).length < maxLen ∧
    (∀ x, x ∈ fieldsTypes ifs → x ∈ fieldsTypes fs)
  | .nil, vs, _, _, t', o, ifs, ivs, hmem => by cases hmem
  | .cons _ _ _, .nil, _, hv, _, _, _, _, _ => by cases hv
  | .cons t k fs, .cons v vs, hwf, hv, t', o, ifs, ivs, hmem => by
    obtain ⟨hk, hv1, hfs, hv2⟩ := field_cons hwf hv
    rw [liveItems_cons, List.mem_append] at hmem
    rw [fieldsTypes]
    rcases hmem with hmem | hmem
    · obtain ⟨_, h1, h2, h3, h4, _⟩ := struct_item ((head_group t k v hk hv1).1 _ hmem)
      exact ⟨h1, h2, h3, fun x hx => List.mem_cons_of_mem _ (List.mem_append_left _ (h4 x hx))⟩
    · obtain ⟨h1, h2, h3, h4⟩ := struct_item_facts fs vs hfs hv2 t' o ifs ivs hmem
      exact ⟨h1, h2, h3, fun x hx => List.mem_cons_of_mem _ (List.mem_append_right _ (h4 x hx))⟩

theorem knownTyp_compile (jt : Nat) : ∀ fs : Fields, jt ∉ fieldsTypes fs → knownTyp (compile fs) jt = false
  | .nil, _ => rfl
  | .cons t k fs, h => by
    simp only [fieldsTypes, List.mem_cons, List.mem_append, not_or] at h
    have ih := knownTyp_compile jt fs h.2.2
    simp only [knownTyp] at ih
    simp only [compile_cons, knownTyp, List.any_cons, ih, Bool.or_false, Bool.and_eq_false_iff]
    right
    simp only [beq_eq_false_iff_ne, ne_eq]
    exact fun h' => h.1 h'.symm

theorem groupOk_of_same_vals (all : List Slot) (ic : Bool) (s : Slot) (g g' : List El)
    (hg : GroupOk all ic s g) (hel : ∀ e ∈ g', ElOk all ic s e) (hv : itemVals g' = itemVals g) :
    GroupOk all ic s g' ∧ slotResult s g' = slotResult s g := by
  obtain ⟨_, h2, h3, h4⟩ := hg
  exact ⟨⟨hel, hv ▸ h2, hv ▸ h3, h4⟩, by rw [slotResult, hv]; rfl⟩

/-- What the caller tolerates: the conditions of `ElOk` for a junk element.  A skipped body is shorter than
    2^63 because `skipN` converts the length with `goInt` (a negative `int` is an error); an element that is
    refused (`BadHead.critical`, `insert_refused`) is refused before its length is looked at, so there 2^64
    is enough. -/
def JunkOk (all : List Slot) (ic : Bool) (jt : Nat) (jbody : Bytes) : Prop :=
  jt < 2 ^ 64 ∧ jbody.length < 2 ^ 63 ∧ knownTyp all jt = false ∧ (ic = true ∨ critical jt = false)

theorem group_insert (all : List Slot) (ic : Bool) (s : Slot) (g : List El) (j jt : Nat) (jbody : Bytes)
    (hg : GroupOk all ic s g) (hJ : JunkOk all ic jt jbody) :
    GroupOk all ic s (g.take j ++ .junk jt jbody :: g.drop j) ∧
    slotResult s (g.take j ++ .junk jt jbody :: g.drop j) = slotResult s g := by
  refine groupOk_of_same_vals all ic s g _ hg (fun e he => ?_) ?_
  · rcases List.mem_append.1 he with he | he
    · exact hg.1 e (List.mem_of_mem_take he)
    · rcases List.mem_cons.1 he with rfl | he
      · exact hJ
      · exact hg.1 e (List.mem_of_mem_drop he)
  · rw [itemVals_append]
    show itemVals (g.take j) ++ itemVals (g.drop j) = _
    rw [← itemVals_append, List.take_append_drop]

theorem group_replace (all : List Slot) (ic : Bool) (s : Slot) (g : List El) (i l : Nat) (body : Bytes) (v : Val)
    (l' : Nat) (body' : Bytes)
    (hg : GroupOk all ic s g) (hi : g[i]? = some (.item l body v)) (hl' : l' < 2 ^ 64)
    (hread : ∀ rest : Bytes, ∃ a, s.read l' ic (body' ++ rest) = .ok (v, rest) a) :
    GroupOk all ic s (g.take i ++ .item l' body' v :: g.drop (i + 1)) ∧
    slotResult s (g.take i ++ .item l' body' v :: g.drop (i + 1)) = slotResult s g := by
  have hold : ElOk all ic s (.item l body v) := hg.1 _ (List.mem_of_getElem? hi)
  refine groupOk_of_same_vals all ic s g _ hg (fun e he => ?_) ?_
  · rcases List.mem_append.1 he with he | he
    · exact hg.1 e (List.mem_of_mem_take he)
    · rcases List.mem_cons.1 he with rfl | he
      · exact ⟨hold.1, hold.2.1, hl', hread, hold.2.2.2.2⟩
      · exact hg.1 e (List.mem_of_mem_drop he)
  · conv => rhs; rw [split_at g i _ hi]
    rw [itemVals_append, itemVals_append]
    rfl

theorem str_run (fs : Fields) (ord ic : Bool) (b : Bytes) (o : Option Vals) (hwf : wfFields fs = true)
    (h : Str (compile fs) ic (compile fs) b o) : (runSlots ord (compile fs) ic b).Ends o :=
  sound ord _ ic b o (distinct_compile fs hwf) h

/-- the encoding of a valid value is a stream of its model, inside any model `all` -/
theorem str_enc (all : List Slot) (ic : Bool) (fs : Fields) (vs : Vals) (hwf : wfFields fs = true)
    (hv : validVs fs vs = true) : Str all ic (compile fs) (encItems (liveItems fs vs)) (some vs) := by
  have := Str.of_groups (groups_ok loopSpec fs hwf all ic vs hv)
  rwa [groupsBytes_mkGroups fs vs hwf hv, ← encItems_live_eq, expected_mkGroups fs vs hwf hv] at this

section
variable (all : List Slot) (ic : Bool) (t : Nat) (k : Kind) (fs : Fields) (v : Val) (vs : Vals)
  (hwf : wfFields (.cons t k fs) = true) (hv : validVs (.cons t k fs) (.cons v vs) = true)
include hwf hv

theorem head_groupOk :
    GroupOk all ic (slotOf t k) (mkGroup t k v) :=
  (groups_ok loopSpec (.cons t k fs) hwf all ic (.cons v vs) hv).1

theorem str_head (g' : List El) (h1 : GroupOk all ic (slotOf t k) g')
    (h2 : slotResult (slotOf t k) g' = slotResult (slotOf t k) (mkGroup t k v)) :
    Str all ic (compile (.cons t k fs)) (groupBytes t g' ++ encItems (liveItems fs vs)) (some (.cons v vs)) := by
  obtain ⟨hk, hv1, hfs, hv2⟩ := field_cons hwf hv
  have := Str.group h1 (str_enc all ic fs vs hfs hv2)
  rwa [h2, mkGroup_result k t v hk hv1, ← compile_cons] at this

theorem str_tail (B : Bytes) (o : Option Vals) (h : Str all ic (compile fs) B o) :
    Str all ic (compile (.cons t k fs)) (encItems (headLive t k v) ++ B) (o.map (.cons v)) := by
  obtain ⟨hk, hv1, _, _⟩ := field_cons hwf hv
  have := Str.group (head_groupOk all ic t k fs v vs hwf hv) h
  rw [encItems_headLive, ← mkGroup_bytes k t v hk hv1]
  rwa [mkGroup_result k t v hk hv1, ← compile_cons] at this

theorem str_bad (j : Nat) (bad T : Bytes) (hbad : BadHead all ic (slotOf t k) ((mkGroup t k v).take j) bad) :
    Str all ic (compile (.cons t k fs)) (encItems ((headLive t k v).take j) ++ bad ++ T) none := by
  obtain ⟨hk, hv1, _, _⟩ := field_cons hwf hv
  have c2 := (head_group t k v hk hv1).1
  have := Str.bad (ss := compile fs) T
    (fun e he => (head_groupOk all ic t k fs v vs hwf hv).1 e (List.mem_of_mem_take he)) hbad
  rw [← compile_cons] at this
  rw [List.append_assoc, ← groupBytes_map_elOf _ (fun it h => c2 it (List.mem_of_mem_take h)), List.map_take]
  exact this

end

/-- Bytes `X` put in the place of the `d` items from index `j` on, at a position `C` allows, make a stream
    that ends in `o vs` (`o` is `some`, or `fun _ => none`): the position lies among the items of the first
    field (`head`) or further down (`str_tail` carries the edit past the first field); in a model without
    fields `X` stands alone (`base`).  `insert_at` and `replace_at` are the two uses. -/
theorem edit_at (all : List Slot) (ic : Bool) (o : Vals → Option Vals)
    (ho : ∀ v vs, (o vs).map (.cons v) = o (.cons v vs)) (X : Bytes) (d : Nat)
    (C : List (Nat × Kind × Val) → Nat → Prop)
    (hC : ∀ h r j, C (h ++ r) j → j + d ≤ h.length ∧ C h j ∨ h.length ≤ j ∧ C r (j - h.length))
    (base : ∀ j, C [] j → Str all ic [] X (o .nil))
    (head : ∀ t k fs v vs, wfFields (.cons t k fs) = true → validVs (.cons t k fs) (.cons v vs) = true →
      ∀ j, j + d ≤ (headLive t k v).length → C (headLive t k v) j → Str all ic (compile (.cons t k fs))
        (encItems ((headLive t k v).take j) ++ X ++ encItems ((headLive t k v).drop (j + d)) ++
          encItems (liveItems fs vs)) (o (.cons v vs))) :
    ∀ (fs : Fields) (vs : Vals), wfFields fs = true → validVs fs vs = true →
    ∀ j, C (liveItems fs vs) j → Str all ic (compile fs)
      (encItems ((liveItems fs vs).take j) ++ X ++ encItems ((liveItems fs vs).drop (j + d))) (o vs)
  | .nil, .nil, _, _, j, hj => by
    rw [liveItems_nil_left, List.take_nil, List.drop_nil]
    exact (List.append_nil X).symm ▸ base j hj
  | .nil, .cons _ _, _, hv, _, _ => by cases hv
  | .cons _ _ _, .nil, _, hv, _, _ => by cases hv
  | .cons t k fs, .cons v vs, hwf, hv, j, hj => by
    obtain ⟨_, _, hfs, hv2⟩ := field_cons hwf hv
    rw [liveItems_cons] at hj ⊢
    rcases hC _ _ j hj with ⟨hjl, hc⟩ | ⟨hle, hc⟩
    · have := head t k fs v vs hwf hv j hjl hc
      rw [List.take_append_of_le_length (Nat.le_trans (Nat.le_add_right j d) hjl),
        List.drop_append_of_le_length hjl, encItems_append]
      simpa only [List.append_assoc] using this
    · have := str_tail all ic t k fs v vs hwf hv _ _ (edit_at all ic o ho X d C hC base head fs vs hfs hv2 _ hc)
      rw [ho] at this
      rw [List.take_append, List.drop_append, List.take_of_length_le hle,
        List.drop_of_length_le (Nat.le_trans hle (Nat.le_add_right j d)), encItems_append,
        show j + d - (headLive t k v).length = j - (headLive t k v).length + d by omega]
      simpa only [List.append_assoc, List.nil_append] using this

theorem insert_at (all : List Slot) (ic : Bool) (o : Vals → Option Vals)
    (ho : ∀ v vs, (o vs).map (.cons v) = o (.cons v vs)) (X : Bytes) (base : Str all ic [] X (o .nil))
    (head : ∀ t k fs v vs, wfFields (.cons t k fs) = true → validVs (.cons t k fs) (.cons v vs) = true →
      ∀ j, j ≤ (headLive t k v).length → Str all ic (compile (.cons t k fs))
        (encItems ((headLive t k v).take j) ++ X ++ encItems ((headLive t k v).drop j) ++ encItems (liveItems fs vs))
        (o (.cons v vs)))
    (fs : Fields) (vs : Vals) (hwf : wfFields fs = true) (hv : validVs fs vs = true)
    (j : Nat) (hj : j ≤ (liveItems fs vs).length) :
    Str all ic (compile fs) (encItems ((liveItems fs vs).take j) ++ X ++ encItems ((liveItems fs vs).drop j)) (o vs) :=
  edit_at all ic o ho X 0 (fun l j => j ≤ l.length)
    (fun h r j hj => by
      rw [List.length_append] at hj
      by_cases hjl : j ≤ h.length
      · exact .inl ⟨hjl, hjl⟩
      · exact .inr ⟨by omega, by omega⟩)
    (fun _ _ => base)
    (fun t k fs v vs hwf hv j hj _ => head t k fs v vs hwf hv j hj) fs vs hwf hv j hj

theorem replace_at (all : List Slot) (ic : Bool) (o : Vals → Option Vals)
    (ho : ∀ v vs, (o vs).map (.cons v) = o (.cons v vs)) (it : Nat × Kind × Val) (X : Bytes)
    (head : ∀ t k fs v vs, wfFields (.cons t k fs) = true → validVs (.cons t k fs) (.cons v vs) = true →
      ∀ i, (headLive t k v)[i]? = some it → Str all ic (compile (.cons t k fs))
        (encItems ((headLive t k v).take i) ++ X ++ encItems ((headLive t k v).drop (i + 1)) ++
          encItems (liveItems fs vs)) (o (.cons v vs)))
    (fs : Fields) (vs : Vals) (hwf : wfFields fs = true) (hv : validVs fs vs = true)
    (i : Nat) (hi : (liveItems fs vs)[i]? = some it) :
    Str all ic (compile fs)
      (encItems ((liveItems fs vs).take i) ++ X ++ encItems ((liveItems fs vs).drop (i + 1))) (o vs) :=
  edit_at all ic o ho X 1 (fun l i => l[i]? = some it)
    (fun h r i hi => by
      by_cases hil : i < h.length
      · exact .inl ⟨hil, by rwa [List.getElem?_append_left hil] at hi⟩
      · have hle : h.length ≤ i := Nat.le_of_not_lt hil
        rw [List.getElem?_append_right hle] at hi
        exact .inr ⟨hle, hi⟩)
    (fun _ hi => by cases hi)
    (fun t k fs v vs hwf hv i _ hi => head t k fs v vs hwf hv i hi) fs vs hwf hv i hi

theorem head_splice_bytes (t : Nat) (k : Kind) (v : Val) (hwf : wfKind k = true) (hv : validV k v = true)
    (j j' : Nat) (e : El) :
    groupBytes t ((mkGroup t k v).take j ++ e :: (mkGroup t k v).drop j') =
      encItems ((headLive t k v).take j) ++ El.bytes t e ++ encItems ((headLive t k v).drop j') := by
  have c2 := (head_group t k v hwf hv).1
  rw [groupBytes_append, mkGroup, ← List.map_take, ← List.map_drop,
    groupBytes_map_elOf _ (fun it h => c2 it (List.mem_of_mem_take h))]
  show _ ++ (El.bytes t e ++ groupBytes t _) = _
  rw [groupBytes_map_elOf _ (fun it h => c2 it (List.mem_of_mem_drop h)), List.append_assoc]

theorem insert_edited (all : List Slot) (ic : Bool) (jt : Nat) (jbody : Bytes) (hJ : JunkOk all ic jt jbody) :
    ∀ (fs : Fields) (vs : Vals), wfFields fs = true → validVs fs vs = true →
    ∀ j, j ≤ (liveItems fs vs).length →
    Str all ic (compile fs)
      (encItems ((liveItems fs vs).take j) ++ tlv jt jbody ++ encItems ((liveItems fs vs).drop j)) (some vs) := by
  refine insert_at all ic some (fun _ _ => rfl) (tlv jt jbody)
    (List.append_nil (tlv jt jbody) ▸ Str.junk jt jbody hJ.1 hJ.2.1 hJ.2.2.1 hJ.2.2.2 .nil)
    (fun t k fs v vs hwf hv j _ => ?_)
  obtain ⟨hk, hv1, _, _⟩ := field_cons hwf hv
  obtain ⟨r1, r2⟩ := group_insert all ic (slotOf t k) (mkGroup t k v) j jt jbody
    (head_groupOk all ic t k fs v vs hwf hv) hJ
  have := str_head all ic t k fs v vs hwf hv _ r1 r2
  rwa [head_splice_bytes t k v hk hv1] at this

theorem head_struct_item (t : Nat) (k : Kind) (v : Val) (hk : wfKind k = true) (hv : validV k v = true)
    (i t' : Nat) (o : Bool) (ifs : Fields) (ivs : Vals)
    (hi : (headLive t k v)[i]? = some (t', .struct o ifs, .struct ivs)) :
    t' = t ∧ (mkGroup t k v)[i]? = some (itemOf (.struct o ifs) (.struct ivs)) ∧
    ∀ l ic r, readKind k l ic r = readKind (.struct o ifs) l ic r := by
  have hf := struct_item ((head_group t k v hk hv).1 _ (List.mem_of_getElem? hi))
  exact ⟨hf.1, by rw [mkGroup, List.getElem?_map, hi]; rfl, hf.2.2.2.2.2⟩

theorem replace_edited (all : List Slot) (ic : Bool) (t' : Nat) (o : Bool) (ifs : Fields) (ivs : Vals)
    (nb : Bytes) (hnb : nb.length < 2 ^ 63) (hrun : ∃ a, runSlots o (compile ifs) ic nb = .ok ivs a) :
    ∀ (fs : Fields) (vs : Vals), wfFields fs = true → validVs fs vs = true →
    ∀ i, (liveItems fs vs)[i]? = some (t', .struct o ifs, .struct ivs) →
    Str all ic (compile fs)
      (encItems ((liveItems fs vs).take i) ++ tlv t' nb ++ encItems ((liveItems fs vs).drop (i + 1))) (some vs) := by
  refine replace_at all ic some (fun _ _ => rfl) _ (tlv t' nb) (fun t k fs v vs hwf hv i hi => ?_)
  obtain ⟨hk, hv1, _, _⟩ := field_cons hwf hv
  obtain ⟨rfl, hgi, hrd⟩ := head_struct_item t k v hk hv1 i t' o ifs ivs hi
  obtain ⟨r1, r2⟩ := group_replace all ic (slotOf t' k) (mkGroup t' k v) i _ _ _ nb.length nb
    (head_groupOk all ic t' k fs v vs hwf hv) hgi (by omega)
    (fun rest => by
      show ∃ a, readKind k nb.length ic (nb ++ rest) = _
      rw [hrd]
      exact readStruct_ends o ifs nb ic rest (some ivs) hnb hrun)
  have := str_head all ic t' k fs v vs hwf hv _ r1 r2
  rwa [head_splice_bytes t' k v hk hv1] at this

theorem itemVals_take_le (g : List El) (j : Nat) : (itemVals (g.take j)).length ≤ (itemVals g).length := by
  have := congrArg List.length (itemVals_append (g.take j) (g.drop j))
  rw [List.take_append_drop, List.length_append] at this
  omega

theorem insert_refused (all : List Slot) (jt : Nat) (jbody : Bytes) (ht : jt < 2 ^ 64)
    (hb : jbody.length < 2 ^ 64) (hu : knownTyp all jt = false) (hc : critical jt = true) :
    ∀ (fs : Fields) (vs : Vals), wfFields fs = true → validVs fs vs = true →
    ∀ j, j ≤ (liveItems fs vs).length →
    Str all false (compile fs)
      (encItems ((liveItems fs vs).take j) ++ tlv jt jbody ++ encItems ((liveItems fs vs).drop j)) none := by
  refine insert_at all false (fun _ => none) (fun _ _ => rfl) (tlv jt jbody)
    (List.append_nil (tlv jt jbody) ▸ Str.crit jt jbody [] ht hb hu rfl hc)
    (fun t k fs v vs hwf hv j _ => ?_)
  have := str_bad all false t k fs v vs hwf hv j (tlv jt jbody)
    (encItems ((headLive t k v).drop j) ++ encItems (liveItems fs vs))
    (.critical jt jbody ht hb hu rfl hc fun hm =>
      Nat.le_trans (itemVals_take_le _ j) ((head_groupOk all false t k fs v vs hwf hv).2.1 hm))
  simpa only [List.append_assoc] using this

theorem replace_refused (all : List Slot) (t' : Nat) (o : Bool) (ifs : Fields) (ivs : Vals)
    (nb : Bytes) (hnb : nb.length < 2 ^ 63) (hrun : ∃ a, runSlots o (compile ifs) false nb = .err a) :
    ∀ (fs : Fields) (vs : Vals), wfFields fs = true → validVs fs vs = true →
    ∀ i, (liveItems fs vs)[i]? = some (t', .struct o ifs, .struct ivs) →
    Str all false (compile fs)
      (encItems ((liveItems fs vs).take i) ++ tlv t' nb ++ encItems ((liveItems fs vs).drop (i + 1))) none := by
  refine replace_at all false (fun _ => none) (fun _ _ => rfl) _ (tlv t' nb) (fun t k fs v vs hwf hv i hi => ?_)
  obtain ⟨hk, hv1, _, _⟩ := field_cons hwf hv
  obtain ⟨rfl, hgi, hrd⟩ := head_struct_item t k v hk hv1 i t' o ifs ivs hi
  have hg := head_groupOk all false t' k fs v vs hwf hv
  have hold := hg.1 _ (List.mem_of_getElem? hgi)
  have := str_bad all false t' k fs v vs hwf hv i (encTL t' ++ encTL nb.length ++ nb)
    (encItems ((headLive t' k v).drop (i + 1)) ++ encItems (liveItems fs vs))
    (.inner (s := slotOf t' k) nb.length nb hold.1 hold.2.1 (by omega)
      (fun rest => by
        show ∃ a, readKind k nb.length false (nb ++ rest) = _
        rw [hrd]
        exact readStruct_ends o ifs nb false rest none hnb hrun)
      (fun hm => by
        -- a plain slot has one item: the one at index `i`
        have h1 := hg.2.1 hm
        rw [split_at _ i _ hgi, itemVals_append] at h1
        simp only [itemVals, List.length_append, List.length_cons] at h1
        exact List.eq_nil_of_length_eq_zero (by omega)))
  simpa only [tlv, List.append_assoc] using this

theorem not_tolerated {ic : Bool} {jt : Nat} (h : ¬ (ic = true ∨ critical jt = false)) :
    ic = false ∧ critical jt = true :=
  ⟨Bool.eq_false_iff.2 fun h1 => h (.inl h1), Bool.not_eq_false _ ▸ fun h2 => h (.inr h2)⟩

theorem insAt_nil (fs : Fields) (vs : Vals) (k : Nat) (junk b : Bytes) (h : insAt fs vs [] k junk = some b) :
    k ≤ (liveItems fs vs).length ∧
    b = encItems ((liveItems fs vs).take k) ++ junk ++ encItems ((liveItems fs vs).drop k) := by
  simp only [insAt] at h
  split at h
  · rename_i hk
    exact ⟨hk, (Option.some.inj h).symm⟩
  · cases h

theorem insAt_cons (fs : Fields) (vs : Vals) (i : Nat) (sel : List Nat) (k : Nat) (junk b : Bytes)
    (h : insAt fs vs (i :: sel) k junk = some b) :
    ∃ t o ifs ivs nb, (liveItems fs vs)[i]? = some (t, .struct o ifs, .struct ivs) ∧
      insAt ifs ivs sel k junk = some nb ∧
      b = encItems ((liveItems fs vs).take i) ++ tlv t nb ++ encItems ((liveItems fs vs).drop (i + 1)) := by
  simp only [insAt] at h
  split at h
  · rename_i t o ifs ivs heq
    cases hn : insAt ifs ivs sel k junk with
    | none => rw [hn] at h; cases h
    | some nb =>
      rw [hn] at h
      exact ⟨t, o, ifs, ivs, nb, heq, hn, (Option.some.inj h).symm⟩
  · cases h

/-- the edited encoding is at most five times as long as the original one, plus the new element:
    every enclosing length field grows by at most 8 bytes and was at least one byte long -/
theorem insAt_length (k : Nat) (junk : Bytes) : ∀ (sel : List Nat) (fs : Fields) (vs : Vals) (b : Bytes),
    insAt fs vs sel k junk = some b → b.length ≤ 5 * (encFields fs vs).length + junk.length
  | [], fs, vs, b, h => by
    obtain ⟨_, rfl⟩ := insAt_nil fs vs k junk b h
    have e := congrArg List.length (encItems_live_eq fs vs)
    rw [← List.take_append_drop k (liveItems fs vs), encItems_append] at e
    simp only [List.length_append] at e ⊢
    omega
  | i :: sel, fs, vs, b, h => by
    obtain ⟨t, o, ifs, ivs, nb, hi, hn, rfl⟩ := insAt_cons fs vs i sel k junk b h
    have ih := insAt_length k junk sel ifs ivs nb hn
    have e := encItems_live_eq fs vs
    rw [split_at _ i _ hi, encItems_append] at e
    have e' := congrArg List.length e
    have hit : encItems ((t, Kind.struct o ifs, Val.struct ivs) :: (liveItems fs vs).drop (i + 1)) =
        tlv t (encFields ifs ivs) ++ encItems ((liveItems fs vs).drop (i + 1)) := rfl
    rw [hit] at e'
    simp only [List.length_append, tlv_length, tlvLen] at e' ⊢
    have := tlLen_pos t
    have := tlLen_pos (encFields ifs ivs).length
    have := tlLen_le9 nb.length
    omega

end Ndn.C13
