/-
  C03/LemmasFinal.lean — where the decoder files meet (Props.lean lifts `readData_Z` / `readInterest_Z` to every healthy
  reader by `readData_sim` / `readInterest_sim` and `sim_Z`), and the segments a caller hands to `NewWireReader`.
-/
import NdnVerif.C03.LemmasWf
import NdnVerif.C03.LemmasInterest
import NdnVerif.C03.LemmasLiftRd
namespace Ndn.C03

/-- the segments handed to `NewWireReader` by a caller: all non-empty -/
def NonEmptySegs (segs : List Bytes) : Prop := ∀ s ∈ segs, s ≠ []

theorem NonEmptySegs.index {segs : List Bytes} (h : NonEmptySegs segs) :
    ∀ i, 0 < i → i < segs.length → segs.getD i [] ≠ [] := by
  intro i _ hi
  have : segs.getD i [] = segs[i] := by simp [List.getD, List.getElem?_eq_getElem hi]
  rw [this]; exact h _ (List.getElem_mem hi)

theorem at_newWireReader_ne (segs : List Bytes) (h : NonEmptySegs segs) :
    At (newWireReader segs) segs.flatten 0 :=
  at_newWireReader segs h.index

end Ndn.C03
