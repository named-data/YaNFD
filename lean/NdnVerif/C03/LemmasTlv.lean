/-
  C03/LemmasTlv.lean — an element is `encTV (t, v)`; every generated field encoder writes one (or nothing);
  lengths of the compound values from the length-pass facts (their hypotheses are the statements of `EncSpecs`).
  That a sub-structure encoder writes a sequence `encTVs l` is in LemmasWf.lean.
-/
import NdnVerif.C03.LemmasDefs
namespace Ndn.C03

theorem bind_eq_of_ok {α β : Type} {x : Res α} {a : α} (h : x = .ok a) (f : α → Res β) : (x >>= f) = f a := by
  rw [h]; rfl

theorem drop_eq_cons (b : Bytes) (p : Nat) (h : p < b.length) : b.drop p = b.getD p 0 :: b.drop (p + 1) := by
  rw [List.drop_eq_getElem_cons h, List.getD_eq_getElem?_getD, List.getElem?_eq_getElem h, Option.getD_some]

theorem drop_append_len {b : Bytes} {p : Nat} {x t : Bytes} (hp : p ≤ b.length) (h : b.drop p = x ++ t) :
    p + x.length ≤ b.length ∧ (b.drop p).take x.length = x ∧ b.drop (p + x.length) = t := by
  have hl := congrArg List.length h
  rw [List.length_drop, List.length_append] at hl
  exact ⟨by omega, by rw [h, List.take_left], by rw [← List.drop_drop, h, List.drop_left]⟩

theorem length_range {V : Bytes} {s e : Nat} (he : e ≤ V.length) : ((V.drop s).take (e - s)).length = e - s := by
  rw [List.length_take, List.length_drop, Nat.min_eq_left (Nat.sub_le_sub_right he s)]

@[simp] theorem optB_none {α : Type} (f : α → Bytes) : optB none f = [] := rfl
@[simp] theorem optB_some {α : Type} (a : α) (f : α → Bytes) : optB (some a) f = f a := rfl

theorem optB_length {α : Type} (o : Option α) (f : α → Bytes) (g : α → Nat)
    (h : ∀ a, (f a).length = g a) : (optB o f).length = optN o g := by
  cases o with
  | none => rfl
  | some a => exact h a

theorem optB_ite {α : Type} (c : Prop) [Decidable c] (a : α) (f : α → Bytes) :
    optB (if c then some a else none) f = if c then f a else [] := by
  split <;> rfl

theorem optN_some_le {α : Type} (o : Option α) (f : α → Nat) (a : α) (h : o = some a) : f a ≤ optN o f := by
  subst h; exact Nat.le_refl _

theorem contentLen_eq (c : List Bytes) : contentLen c = c.flatten.length := by
  simp [contentLen, List.length_flatten]

theorem pow_natLen_le (x : Nat) : 256 ^ natLen x ≤ u64 := by
  rcases natLen_cases x with h | h | h | h <;> rw [h] <;> decide

abbrev TV := Nat × Bytes

def encTV (p : TV) : Bytes := encTL p.1 ++ encTL p.2.length ++ p.2
def encTVs (l : List TV) : Bytes := l.flatMap encTV

@[simp] theorem encTVs_nil : encTVs [] = [] := rfl
@[simp] theorem encTVs_cons (p : TV) (l : List TV) : encTVs (p :: l) = encTV p ++ encTVs l := rfl
theorem encTVs_append (a b : List TV) : encTVs (a ++ b) = encTVs a ++ encTVs b := by
  simp [encTVs]
theorem encTVs_single (p : TV) : encTVs [p] = encTV p := by simp [encTVs]

theorem encTV_length (p : TV) : (encTV p).length = tlLen p.1 + tlLen p.2.length + p.2.length := by
  simp only [encTV, List.length_append, encTL_length]

theorem encTV_length_le {p : TV} {l : List TV} (h : p ∈ l) : (encTV p).length ≤ (encTVs l).length := by
  induction l with
  | nil => cases h
  | cons q l ih =>
    rw [encTVs_cons, List.length_append]
    rcases List.mem_cons.mp h with rfl | h
    · omega
    · have := ih h; omega

theorem val_length_le {p : TV} {l : List TV} (h : p ∈ l) : p.2.length ≤ (encTVs l).length := by
  have := encTV_length_le h
  rw [encTV_length] at this; omega

theorem encTV_pos (p : TV) : 0 < (encTV p).length := by
  rw [encTV_length]
  exact Nat.lt_of_lt_of_le (tlLen_pos _) (Nat.le_trans (Nat.le_add_right ..) (Nat.le_add_right ..))

theorem elemVal_lt {tv : TV} {rest : Bytes} {n : Nat} (h : (encTV tv ++ rest).length < n) : tv.2.length < n := by
  rw [List.length_append, encTV_length] at h
  exact Nat.lt_of_le_of_lt (Nat.le_trans (Nat.le_add_left ..) (Nat.le_add_right ..)) h

theorem optVal_lt {α : Type} {o : Option α} {f val : α → Bytes} {ty n : Nat} {rest : Bytes}
    (hf : ∀ a, f a = encTV (ty, val a)) (h : (optB o f ++ rest).length < n) : ∀ a, o = some a → (val a).length < n := by
  intro a ha
  subst ha
  rw [optB_some, hf] at h
  exact elemVal_lt h

theorem tail_lt {a b : Bytes} {n : Nat} (h : (a ++ b).length < n) : b.length < n :=
  Nat.lt_of_le_of_lt (List.length_append ▸ Nat.le_add_left ..) h

theorem natVal_lt (x : Nat) : (be (natLen x) x).length < 2 ^ 62 := by
  rw [be_length]; exact Nat.lt_of_le_of_lt (natLen_le8 x) (by decide)

theorem tlv_eq {t n : Nat} {v : Bytes} (h : v.length = n) : encTL t ++ encTL n ++ v = encTV (t, v) := by
  subst h; rfl

theorem encNatField_eq (t x : Nat) : encNatField t x = encTV (t, be (natLen x) x) := by
  have h : encTL (natLen x) = [natLen x] := encTL_small (Nat.le_trans (natLen_le8 x) (by decide))
  simp only [encNatField, encTV, be_length, h]

theorem encBinField_eq (t : Nat) (v : Bytes) : encBinField t v = encTV (t, v) := rfl

theorem boolField_true (t : Nat) : boolField t true = encTV (t, []) := by
  simp only [encTV, List.append_nil]; rfl

theorem encNonce_eq (x : Nat) : encNonce x = encTV (10, be 4 x) := by
  simp only [encNonce, encTV, be_length]; rfl

theorem encHopLimit_eq (x : Nat) : encHopLimit x = encTV (34, [x % 256]) := rfl

theorem encNameField_eq (E : EncSpecs) (t : Nat) (n : Name) : encNameField t n = encTV (t, encNameInner n) :=
  tlv_eq (E.nameLen_eq n)

theorem encNatField_length (t x : Nat) : (encNatField t x).length = natFieldLen t x := by
  have h : tlLen (natLen x) = 1 := tlLen_small (Nat.le_trans (natLen_le8 x) (by decide))
  simp only [encNatField_eq, encTV_length, be_length, h, natFieldLen]

theorem encBinField_length (t : Nat) (v : Bytes) : (encBinField t v).length = binFieldLen t v :=
  encTV_length (t, v)

theorem encValidity_length (v : Bytes × Bytes) : (encValidity v).length = validityLen v := by
  simp only [encValidity, validityLen, List.length_append, encBinField_length]

theorem nameLen_cons (c : Component) (n : Name) : nameLen (c :: n) = compLen c + nameLen n := by
  simp [nameLen]

theorem nameLen_append (a b : Name) : nameLen (a ++ b) = nameLen a + nameLen b := by
  simp [nameLen, List.sum_append]

theorem encNameInner_cons (c : Component) (n : Name) : encNameInner (c :: n) = encComp c ++ encNameInner n := by
  simp [encNameInner]

theorem encNameInner_append (a b : Name) : encNameInner (a ++ b) = encNameInner a ++ encNameInner b := by
  simp [encNameInner]

theorem compLen_pos (c : Component) : 2 ≤ compLen c := by
  have := tlLen_pos c.typ
  have := tlLen_pos c.val.length
  unfold compLen; omega

/-- a name of `k` components is at least `2k` bytes long: the bound behind `make(enc.Name, l/2+1)` -/
theorem length_le_nameLen (n : Name) : 2 * n.length ≤ nameLen n := by
  induction n with
  | nil => simp [nameLen]
  | cons c cs ih => have := compLen_pos c; rw [nameLen_cons, List.length_cons]; omega

theorem stripDigest_subset {n : Name} {c : Component} (h : c ∈ stripDigest n) : c ∈ n := by
  unfold stripDigest at h
  split at h
  · split at h
    · exact List.dropLast_subset _ h
    · exact h
  · exact h

theorem interestName_eq (n : Name) (b : Bool) :
    interestName n b = if b then stripDigest n ++ [digestComp (List.replicate 32 0)] else stripDigest n := rfl

theorem nameLen_digest (base : Name) (v : Bytes) (hv : v.length = 32) :
    nameLen (base ++ [digestComp v]) = nameLen base + 34 := by
  rw [nameLen_append]
  simp [nameLen, compLen, digestComp, hv, tlLen]

theorem nameValid_final (i : InterestIn) (H : Bytes → Bytes) (sv : Bytes) (hv : NameValid i.name) :
    NameValid (interestFinalName i H sv) := by
  intro c hc
  unfold interestFinalName at hc
  split at hc
  · rcases List.mem_append.mp hc with hc | hc
    · exact hv c (stripDigest_subset hc)
    · cases List.mem_singleton.mp hc; exact (by decide : (2 : Nat) < 2 ^ 64)
  · exact hv c (stripDigest_subset hc)

theorem nameLen_final (i : InterestIn) (H : Bytes → Bytes) (sv : Bytes) (hH : ∀ x, (H x).length = 32) :
    nameLen (interestFinalName i H sv) = nameLen (interestName i.name i.ap.isSome) := by
  rw [interestName_eq, interestFinalName]
  split
  · rw [nameLen_digest _ _ (hH _), nameLen_digest _ _ (List.length_replicate ..)]
  · rfl

/-! ### lengths of the values, from the lengths of their parts

The hypotheses are the statements of the length pass (`EncSpecs.nameLen_eq`, …): the encoder proofs supply
them as theorems, the decoder proofs from their `EncSpecs`. -/

theorem tlv_length {t n : Nat} {v : Bytes} (ht : t ≤ 0xfc) (h : v.length = n) :
    (encTL t ++ encTL n ++ v).length = 1 + tlLen n + n := by
  simp only [List.length_append, encTL_length, tlLen_small ht, h]

theorem boolField_length (t : Nat) (ht : t ≤ 0xfc) (b : Bool) : (boolField t b).length = boolFieldLen b := by
  cases b
  · rfl
  · simp only [boolField_true, encTV_length, tlLen_small ht]; rfl

theorem sigValue_length (t : Nat) (ht : t ≤ 0xfc) (est : Nat) (sv : Bytes) :
    (if est > 0 then encTL t ++ encTL sv.length ++ sv else []).length
      = if est > 0 then 1 + tlLen sv.length + sv.length else 0 := by
  split
  · exact tlv_length ht rfl
  · rfl

theorem encNameField_length (hn : ∀ n : Name, (encNameInner n).length = nameLen n)
    (t : Nat) (n : Name) : (encNameField t n).length = nameFieldLen t n := by
  simp only [encNameField, nameFieldLen, List.length_append, encTL_length, hn]

theorem sigInfoTLV_length (hs : ∀ s : SigInfo, (encSigInfo s).length = sigInfoLen s)
    (t : Nat) (ht : t ≤ 0xfc) (si : Option SigInfo) :
    (optB si (fun s => encTL t ++ encTL (sigInfoLen s) ++ encSigInfo s)).length
      = optN si (fun s => 1 + tlLen (sigInfoLen s) + sigInfoLen s) :=
  optB_length _ _ _ (fun s => tlv_length ht (hs s))

theorem contentTLV_length (t : Nat) (ht : t ≤ 0xfc) (c : Option (List Bytes)) :
    (optB c (fun c => encTL t ++ encTL (contentLen c) ++ c.flatten)).length
      = optN c (fun c => 1 + tlLen (contentLen c) + contentLen c) :=
  optB_length _ _ _ (fun c => tlv_length ht (contentLen_eq c).symm)

theorem dataHead_length (hn : ∀ n : Name, (encNameInner n).length = nameLen n)
    (hm : ∀ m : MetaInfo, (encMeta m).length = metaLen m) (d : DataIn) :
    (dataHead d).length = nameFieldLen 7 d.name + (1 + tlLen (metaLen d.mi) + metaLen d.mi) := by
  rw [dataHead, List.length_append, encNameField_length hn, tlv_length (by decide) (hm d.mi)]

theorem dataValue_length (hn : ∀ n : Name, (encNameInner n).length = nameLen n)
    (hm : ∀ m : MetaInfo, (encMeta m).length = metaLen m)
    (hs : ∀ s : SigInfo, (encSigInfo s).length = sigInfoLen s) (d : DataIn) (sv : Bytes) :
    (dataValue d sv).length = nameFieldLen 7 d.name + (1 + tlLen (metaLen d.mi) + metaLen d.mi)
      + optN d.content (fun c => 1 + tlLen (contentLen c) + contentLen c)
      + optN d.si (fun s => 1 + tlLen (sigInfoLen s) + sigInfoLen s)
      + (if d.est > 0 then 1 + tlLen sv.length + sv.length else 0) := by
  simp only [dataValue, List.length_append, dataHead_length hn hm, contentTLV_length 21 (by decide),
    sigInfoTLV_length hs 22 (by decide), sigValue_length 23 (by decide)]

theorem interestHead_length (hn : ∀ n : Name, (encNameInner n).length = nameLen n)
    (hl : ∀ ns : List Name, (encLinks ns).length = linksLen ns) (i : InterestIn) (fn : Name) :
    (interestHead i fn).length = interestHeadLen i fn := by
  simp only [interestHead, interestHeadLen, List.length_append, encNameField_length hn,
    boolField_length 33 (by decide), boolField_length 18 (by decide),
    optB_length _ _ _ (fun ns => tlv_length (show 30 ≤ 0xfc by decide) (hl ns)),
    optB_length i.nonce encNonce (fun _ => 6) (fun x => by rw [encNonce_eq, encTV_length, be_length]; rfl),
    optB_length _ _ _ (encNatField_length 12),
    optB_length i.hl encHopLimit (fun _ => 3) (fun _ => rfl)]

/-- the head elements behind the Name (CanBePrefix … HopLimit) in front of `rest`, nested to the right: the form in
    which the decoder walks them and the digest patch finds the Name at the front of the first segment -/
def headRest (i : InterestIn) (rest : Bytes) : Bytes :=
  boolField 33 i.cbp ++ (boolField 18 i.mbf ++ (optB i.fh (fun ns => encTL 30 ++ encTL (linksLen ns) ++ encLinks ns)
    ++ (optB i.nonce encNonce ++ (optB i.lt (encNatField 12) ++ (optB i.hl encHopLimit ++ rest)))))

theorem interestHead_append (i : InterestIn) (fn : Name) (rest : Bytes) :
    interestHead i fn ++ rest = encNameField 7 fn ++ headRest i rest := by
  simp only [interestHead, headRest, List.append_assoc]

theorem interestParamsPortion_length (hs : ∀ s : SigInfo, (encSigInfo s).length = sigInfoLen s)
    (i : InterestIn) (sv : Bytes) :
    (interestParamsPortion i sv).length = optN i.ap (fun c => 1 + tlLen (contentLen c) + contentLen c)
      + optN i.si (fun s => 1 + tlLen (sigInfoLen s) + sigInfoLen s)
      + (if i.est > 0 then 1 + tlLen sv.length + sv.length else 0) := by
  simp only [interestParamsPortion, List.length_append, contentTLV_length 36 (by decide),
    sigInfoTLV_length hs 44 (by decide), sigValue_length 46 (by decide)]

theorem interestValue_length (hn : ∀ n : Name, (encNameInner n).length = nameLen n)
    (hs : ∀ s : SigInfo, (encSigInfo s).length = sigInfoLen s)
    (hl : ∀ ns : List Name, (encLinks ns).length = linksLen ns) (i : InterestIn) (fn : Name) (sv : Bytes) :
    (interestValue i fn sv).length = interestHeadLen i fn
      + optN i.ap (fun c => 1 + tlLen (contentLen c) + contentLen c)
      + optN i.si (fun s => 1 + tlLen (sigInfoLen s) + sigInfoLen s)
      + (if i.est > 0 then 1 + tlLen sv.length + sv.length else 0) := by
  rw [interestValue, List.length_append, interestHead_length hn hl, interestParamsPortion_length hs]
  omega

/-- what `fixSigValueLength` and ShrinkLength take off the announced length leaves the length with the actual
    SignatureValue TLV -/
theorem sigShrink_arith (a t est n : Nat) (ht : t ≤ 0xfc) (h : est > 0 → n ≤ est) :
    a + sigTLLen t est - (if est > 0 then fixSigShrink est n else 0) = a + (if est > 0 then 1 + tlLen n + n else 0)
    ∧ (if est > 0 then fixSigShrink est n else 0) ≤ a + sigTLLen t est := by
  unfold sigTLLen fixSigShrink
  by_cases he : est > 0
  · rw [if_pos he, if_pos he, if_pos he, tlLen_small ht]
    -- with `est = n + d` and `tlLen est = tlLen n + e` no truncated subtraction is left
    obtain ⟨e, hx⟩ := Nat.exists_eq_add_of_le (tlLen_mono (h he))
    obtain ⟨d, rfl⟩ := Nat.exists_eq_add_of_le (h he)
    rw [hx, Nat.add_sub_cancel_left, Nat.add_sub_cancel_left]
    exact ⟨Nat.sub_eq_of_eq_add (by omega), by omega⟩
  · rw [if_neg he, if_neg he, if_neg he]
    exact ⟨rfl, Nat.zero_le _⟩

/-- the signature value is not longer than estimated, so neither is its TLV -/
theorem sigTLLen_ge (t est : Nat) (sv : Bytes) (ht : t ≤ 0xfc) (h : est > 0 → sv.length ≤ est) :
    (if est > 0 then 1 + tlLen sv.length + sv.length else 0) ≤ sigTLLen t est := by
  have := (sigShrink_arith 0 t est sv.length ht h).1
  omega

theorem dataValue_length_le (E : EncSpecs) (d : DataIn) (sv : Bytes) (hs : d.est > 0 → sv.length ≤ d.est) :
    (dataValue d sv).length ≤ dataLen d := by
  have := sigTLLen_ge 23 d.est sv (by decide) hs
  rw [dataValue_length E.nameLen_eq E.metaLen_eq E.sigInfoLen_eq, dataLen]; omega

theorem interestValue_length_le (E : EncSpecs) (i : InterestIn) (fn : Name) (sv : Bytes)
    (hs : i.est > 0 → sv.length ≤ i.est) : (interestValue i fn sv).length ≤ interestLen i fn := by
  have := sigTLLen_ge 46 i.est sv (by decide) hs
  rw [interestValue_length E.nameLen_eq E.sigInfoLen_eq E.linksLen_eq, interestLen]; omega

theorem interestLen_congr (i : InterestIn) {fn fn' : Name} (h : nameLen fn = nameLen fn') :
    interestLen i fn = interestLen i fn' := by
  unfold interestLen interestHeadLen nameFieldLen; rw [h]

theorem dataLen_lt {d : DataIn} (hv : d.Valid) : dataLen d < 2 ^ 62 :=
  Nat.lt_of_le_of_lt (Nat.le_add_right _ 16) hv.2.2.2

theorem interestLen_lt {i : InterestIn} (hv : i.Valid) : interestLen i (interestName i.name i.ap.isSome) < 2 ^ 62 :=
  Nat.lt_of_le_of_lt (Nat.le_add_right _ 16) hv.2.2.2.2.2.2.2

/-- the value of a built Data is no longer than announced, and `Valid` bounds what is announced -/
theorem dataValue_lt (E : EncSpecs) (d : DataIn) (sign : Bytes → Bytes) (e : Encoded) (hv : d.Valid)
    (hm : makeData d sign = .ok e) : (dataValue d e.sigVal).length < 2 ^ 62 :=
  Nat.lt_of_le_of_lt (dataValue_length_le E d _ fun h0 => ((E.makeData_flatten d sign e hv hm).2.1 h0).2.2)
    (dataLen_lt hv)

/-- the same for an Interest: the final name is as long as the one the length was announced for -/
theorem interestValue_lt (E : EncSpecs) (i : InterestIn) (sign H : Bytes → Bytes) (e : Encoded) (fn : Name)
    (hv : i.Valid) (hH : ∀ x, (H x).length = 32) (hm : makeInterest i sign H = .ok (e, fn)) :
    (interestValue i fn e.sigVal).length < 2 ^ 62 := by
  obtain ⟨hfn, _, hs, _⟩ := E.makeInterest_flatten i sign H e fn hv hH hm
  refine Nat.lt_of_le_of_lt (interestValue_length_le E i fn _ fun hp => (hs hp).2.2) ?_
  rw [hfn, interestLen_congr i (nameLen_final i H e.sigVal hH)]
  exact interestLen_lt hv

end Ndn.C03
