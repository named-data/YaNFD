/-
  C03/LemmasParse.lean — what the parser proofs share below the readers: the uint64 accumulator of `ReadTLNum`,
  `ReadTLNum` and the byte loop it shares with `readNat` over ANY healthy reader in both outcomes (`readBytesAcc_spec`,
  `rdTL`, `readTL_spec`: what C12 inverts), the digest mark of a name (`sigEndAux`), and the `progress` loop of the
  ordered models (`absFold`, `ordLoop_hit`).
-/
import NdnVerif.C03.LemmasTlv
namespace Ndn.C03

def accBytes (acc : Nat) (bs : Bytes) : Nat := bs.foldl (fun a x => (a * 256 + x) % u64) acc

/-- the reader's uint64 accumulator holds the big-endian value mod 2^64 -/
theorem accBytes_eq (acc : Nat) (bs : Bytes) (h : acc < u64) :
    accBytes acc bs = (acc * 256 ^ bs.length + beDec bs) % u64 := by
  rw [accBytes, ← foldl_be_mod, Nat.mod_eq_of_lt h]

theorem accBytes_be (k x : Nat) (hx : x < 256 ^ k) (hk : 256 ^ k ≤ u64) : accBytes 0 (be k x) = x := by
  rw [accBytes_eq 0 _ (by decide), Nat.zero_mul, Nat.zero_add, beDec_be k x hx, Nat.mod_eq_of_lt (Nat.lt_of_lt_of_le hx hk)]

theorem encTL_ne_nil (x : Nat) : encTL x ≠ [] := Ndn.encTL_ne_nil x

/-- `ReadTLNum` on the bytes in front of a reader: value and number of bytes consumed; `none` = the reader runs off
    the end. (Agrees with `decTL` on well-formed bytes, see `C12.rdTL_decTL`; the reader accumulates in a uint64.) -/
def _root_.Ndn.C12.rdTL : Bytes → Option (Nat × Nat)
  | [] => none
  | y :: rest =>
    if y ≤ 0xfc then some (y, 1)
    else if rest.length < tlExtra y then none
    else some (accBytes 0 (rest.take (tlExtra y)), 1 + tlExtra y)

theorem _root_.Ndn.C12.rdTL_encTL (x : Nat) (hx : x < 2 ^ 64) (rest : Bytes) :
    C12.rdTL (encTL x ++ rest) = some (x, tlLen x) := by
  obtain ⟨y, he, hl, _, hs, hb⟩ := encTL_form x
  rw [he, hl, List.cons_append, C12.rdTL]
  by_cases hy : y ≤ 0xfc
  · rw [if_pos hy, ← hs hy, tlExtra_small (hs hy ▸ hy)]
  · have hc := tlExtra_of_gt hy
    rw [if_neg hy, List.length_append, be_length, if_neg (Nat.not_lt.mpr (Nat.le_add_right ..)),
      List.take_left' (be_length ..), accBytes_be _ x (hb hy hx)]
    rcases hc with e | e | e <;> rw [e] <;> decide

theorem le8_of_pow_le {k : Nat} (hk : 256 ^ k ≤ u64) : k ≤ 8 := by
  rcases Nat.lt_or_ge 8 k with h | h
  · have : 256 ^ 9 ≤ 256 ^ k := Nat.pow_le_pow_right (by omega) h
    have : u64 < 256 ^ 9 := by decide
    omega
  · exact h

/-- position of the last ParametersSha256Digest component start (`sigCoverEnd` of the Interest name) -/
def sigEndAux : Nat → Name → Nat → Nat
  | _, [], cur => cur
  | p, c :: cs, cur => sigEndAux (p + compLen c) cs (if c.typ = 2 then p else cur)

theorem sigEndAux_snoc (c : Component) : ∀ (base : Name) (p cur : Nat),
    sigEndAux p (base ++ [c]) cur = if c.typ = 2 then p + nameLen base else sigEndAux p base cur := by
  intro base
  induction base with
  | nil => intro p cur; simp [sigEndAux, nameLen]
  | cons b base ih =>
    intro p cur
    simp only [List.cons_append, sigEndAux, ih, nameLen_cons]
    split
    · omega
    · rfl

section
variable (R : ReaderSpecs)
include R

/-- the byte loop of `ReadTLNum`/`readNat` on a healthy reader, both outcomes -/
theorem readBytesAcc_spec : ∀ (k : Nat) (r : Rd) (buf : Bytes) (p acc : Nat), At r buf p →
    (p + k ≤ buf.length ∧ ∃ r', readBytesAcc k r acc = .ok (accBytes acc ((buf.drop p).take k), r') ∧ At r' buf (p + k))
    ∨ (buf.length < p + k ∧ readBytesAcc k r acc = .err) := by
  intro k
  induction k with
  | zero => intro r buf p acc h; exact .inl ⟨h.2.2, r, rfl, h⟩
  | succ k ih =>
    intro r buf p acc h
    have e : p + (k + 1) = p + 1 + k := by rw [Nat.add_assoc, Nat.add_comm 1 k]
    rcases Nat.lt_or_ge p buf.length with hlt | hge
    · obtain ⟨r1, h1, a1, _⟩ := R.readByte_ok r buf p h hlt
      rcases ih r1 buf (p + 1) ((acc * 256 + buf.getD p 0) % u64) a1 with ⟨hle, r2, h2, a2⟩ | ⟨hgt, h2⟩
      · refine .inl ⟨e ▸ hle, r2, ?_, e ▸ a2⟩
        simp only [readBytesAcc, h1, Res.bind_ok, h2, drop_eq_cons buf p hlt, List.take_succ_cons, accBytes,
          List.foldl_cons]
      · exact .inr ⟨e ▸ hgt, by simp only [readBytesAcc, h1, Res.bind_ok, h2]⟩
    · exact .inr ⟨Nat.lt_of_le_of_lt hge (Nat.lt_add_of_pos_right (Nat.succ_pos k)),
        by simp only [readBytesAcc, R.readByte_eof r buf p h hge, Res.bind_err]⟩

/-- `ReadTLNum` on a healthy reader is `rdTL` of the bytes in front of it -/
theorem readTL_spec (r : Rd) (buf : Bytes) (p : Nat) (h : At r buf p) :
    (C12.rdTL (buf.drop p) = none ∧ readTL r = .err)
    ∨ ∃ x k r', C12.rdTL (buf.drop p) = some (x, k) ∧ readTL r = .ok (x, r') ∧ At r' buf (p + k) := by
  rcases Nat.lt_or_ge p buf.length with hlt | hge
  · obtain ⟨r1, e1, a1, _⟩ := R.readByte_ok r buf p h hlt
    rw [drop_eq_cons buf p hlt]
    by_cases hs : buf.getD p 0 ≤ 0xfc
    · exact .inr ⟨buf.getD p 0, 1, r1, by simp only [C12.rdTL, if_pos hs],
        by simp only [readTL, e1, Res.bind_ok, if_pos hs, Res.pure_eq], a1⟩
    · rcases readBytesAcc_spec R (tlExtra (buf.getD p 0)) r1 buf (p + 1) 0 a1 with ⟨hle, r2, e2, a2⟩ | ⟨hgt, e2⟩
      · have hn : ¬ ((buf.drop (p + 1)).length < tlExtra (buf.getD p 0)) := by
          rw [List.length_drop]; exact Nat.not_lt.mpr (Nat.le_sub_of_add_le' hle)
        exact .inr ⟨accBytes 0 ((buf.drop (p + 1)).take (tlExtra (buf.getD p 0))), 1 + tlExtra (buf.getD p 0), r2,
          by simp only [C12.rdTL, if_neg hs, if_neg hn],
          by simp only [readTL, e1, Res.bind_ok, if_neg hs, e2], Nat.add_assoc .. ▸ a2⟩
      · have hn : (buf.drop (p + 1)).length < tlExtra (buf.getD p 0) := by
          rw [List.length_drop]; exact Nat.sub_lt_left_of_lt_add a1.2.2 hgt
        exact .inl ⟨by simp only [C12.rdTL, if_neg hs, if_pos hn], by simp only [readTL, e1, Res.bind_ok, if_neg hs, e2]⟩
  · rw [List.drop_eq_nil_of_le hge]
    exact .inl ⟨rfl, by simp only [readTL, R.readByte_eof r buf p h hge, Res.bind_err]⟩

theorem readNat_at (r : Rd) (buf : Bytes) (p k x w : Nat) (t : Bytes) (h : At r buf p)
    (hb : buf.drop p = be k x ++ t) (hx : x < 256 ^ k) (hk : 256 ^ k ≤ u64) (hlen : buf.length < 2 ^ 63) :
    ∃ r', readNat r k w = .ok (x % 2 ^ w, r') ∧ At r' buf (p + k) ∧ buf.drop (p + k) = t := by
  obtain ⟨hle, htk, hrest⟩ := drop_append_len h.2.2 hb
  rw [be_length] at hle htk hrest
  obtain ⟨r1, e1, a1⟩ := ((readBytesAcc_spec R k r buf p 0 h).resolve_right fun h' => Nat.not_le_of_lt h'.1 hle).2
  refine ⟨r1, ?_, a1, hrest⟩
  have hg : ¬ (k > r.length - r.pos) := by
    rw [R.pos_eq r buf p h, R.length_eq r buf p h]; exact Nat.not_lt_of_le (Nat.le_sub_of_add_le' hle)
  -- `k < 2^63` is a non-negative `int`
  have hn : negInt k = false :=
    decide_eq_false (Nat.not_le_of_lt (Nat.lt_of_le_of_lt (Nat.le_trans (Nat.le_add_left k p) hle) hlen))
  simp only [readNat, hn, Bool.false_eq_true, if_false, if_neg hg, e1, Res.bind_ok, htk, accBytes_be k x hx hk,
    Res.pure_eq]

end

/-- the absent-actions of slots `q, q+1, …, q+c-1` at element start `sp` -/
def absFold {σ : Type} (absent : Nat → σ → Nat → Rd → σ) (sp : Nat) (r : Rd) : Nat → Nat → σ → σ
  | 0, _, st => st
  | c + 1, q, st => absFold absent sp r c (q + 1) (absent q st sp r)

theorem absFold_add {σ : Type} (absent : Nat → σ → Nat → Rd → σ) (sp : Nat) (r : Rd) :
    ∀ (a b q : Nat) (st : σ), absFold absent sp r (a + b) q st = absFold absent sp r b (q + a) (absFold absent sp r a q st) := by
  intro a
  induction a with
  | zero => intro b q st; simp [absFold]
  | succ a ih =>
    intro b q st
    rw [show a + 1 + b = (a + b) + 1 by omega]
    simp only [absFold]
    rw [ih]; congr 1; omega

theorem absFold_id {σ : Type} (absent : Nat → σ → Nat → Rd → σ) (sp : Nat) (r : Rd) (lo hi : Nat)
    (h : ∀ q st, lo ≤ q → q < hi → absent q st sp r = st) :
    ∀ (c q : Nat) (st : σ), lo ≤ q → q + c ≤ hi → absFold absent sp r c q st = st := by
  intro c
  induction c with
  | zero => intro q st _ _; rfl
  | succ c ih =>
    intro q st h1 h2
    rw [absFold, h q st h1 (by omega)]
    exact ih (q + 1) st (by omega) (by omega)

theorem ordFinish_eq {σ : Type} (absent : Nat → σ → Nat → Rd → σ) (r : Rd) :
    ∀ (c q : Nat) (st : σ), ordFinish absent r c q st = absFold absent r.pos r c q st := by
  intro c
  induction c with
  | zero => intro q st; rfl
  | succ c ih => intro q st; simp only [ordFinish, absFold]; rw [ih]

/-- what `Parse` of an ordered model of `n` slots does with the loop's result: the absent-actions of the slots never
    reached -/
def ordEnd {σ : Type} (absent : Nat → σ → Nat → Rd → σ) (n : Nat) (x : (σ × Nat) × Rd) : Res σ :=
  pure (ordFinish absent x.2 (n - x.1.2) x.1.2 x.1.1)

theorem parseInterest_eq (s0 : InterestSt) (r : Rd) :
    parseInterest s0 r = (tlvLoop interestBody (loopFuel r) ({ s0 with v := {} }, 0) r >>= ordEnd interestAbsent 15) := rfl

/-- a known element of slot `k ≥ q`: the skipped slots `q..k-1` get their absent-actions, then the handler of `k` runs -/
theorem ordLoop_hit {σ : Type} (n : Nat) (idx : Nat → Option Nat)
    (handle : Nat → σ → Nat → Nat → Rd → Res (σ × Rd)) (absent : Nat → σ → Nat → Rd → σ)
    (typ l sp k : Nat) (hk : idx typ = some k) (hkn : k ≤ n) :
    ∀ (d fuel q : Nat) (st : σ) (r : Rd), q + d = k → d < fuel →
      ordLoop n idx handle absent typ l sp fuel q st r
        = (handle k (absFold absent sp r d q st) l sp r >>= fun x => pure ((x.1, k + 1), x.2)) := by
  intro d
  induction d with
  | zero =>
    intro fuel q st r hq hf
    cases fuel with
    | zero => omega
    | succ f =>
      have hq' : q = k := by omega
      subst hq'
      have : ¬ q > n := by omega
      simp only [ordLoop, this, ↓reduceIte, hk, absFold]
  | succ d ih =>
    intro fuel q st r hq hf
    cases fuel with
    | zero => omega
    | succ f =>
      have h1 : ¬ q > n := by omega
      have h2 : ¬ q = k := by omega
      simp only [ordLoop, h1, ↓reduceIte, hk, h2, absFold]
      exact ih f (q + 1) _ r (by omega) (by omega)

end Ndn.C03
