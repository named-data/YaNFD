/-
  C03/LemmasDefs.lean — definitions shared by the proof files: reader invariant and abstraction,
  validity guards of the inputs, normal forms of the encoder output, and the INTERFACES between the
  proof files (Prop-valued bundles: a file that needs a fact proved elsewhere takes the bundle as a
  hypothesis; Props.lean instantiates everything, so no statement is ever assumed in the end).
-/
import NdnVerif.C03.Parse
import NdnVerif.C03.Spec
namespace Ndn.C03

/-! ### reader invariant and abstraction (refinement map WireReader/BufferReader → (buffer, position)) -/

def WireR.Inv (w : WireR) : Prop :=
  w.seg ≤ w.wire.length
  ∧ (w.seg < w.wire.length → w.pos ≤ (w.segAt w.seg).length)
  ∧ (w.seg = w.wire.length → w.pos = 0)
  ∧ (∀ i, 0 < i → i < w.wire.length → w.segAt i ≠ [])
  ∧ w.base ≤ w.absPos

/-- abstraction: the logical buffer of the reader and the logical position in it -/
def Rd.view : Rd → BufR
  | .buf b => b
  | .wire w => ⟨w.wire.flatten.drop w.base, w.absPos - w.base⟩

def Rd.Inv : Rd → Prop
  | .buf b => b.pos ≤ b.buf.length
  | .wire w => w.Inv

/-- the reader is not parked past its last segment (true after every successful ReadByte; Go's
    `WireReader.Skip` indexes `r.wire[r.seg]` unconditionally) -/
def Rd.Live : Rd → Prop
  | .buf _ => True
  | .wire w => w.seg < w.wire.length

/-- reader `r` is a healthy reader over logical buffer `buf` at logical position `p` -/
def At (r : Rd) (buf : Bytes) (p : Nat) : Prop := r.Inv ∧ r.view = ⟨buf, p⟩ ∧ p ≤ buf.length

/-- Operation-level refinement WireReader ⊑ BufferReader: on every healthy reader (BufferReader, or
    WireReader over any segmentation whose segments after the first are non-empty) each ParseReader
    operation behaves exactly as the BufferReader operation on the logical buffer. -/
structure ReaderSpecs : Prop where
  pos_eq : ∀ r buf p, At r buf p → r.pos = p
  length_eq : ∀ r buf p, At r buf p → r.length = buf.length
  readByte_ok : ∀ r buf p, At r buf p → p < buf.length →
    ∃ r', r.readByte = .ok (buf.getD p 0, r') ∧ At r' buf (p + 1) ∧ r'.Live
  readByte_eof : ∀ r buf p, At r buf p → p ≥ buf.length → r.readByte = .err
  readBuf_ok : ∀ r buf p l, At r buf p → p + l ≤ buf.length →
    ∃ r', r.readBuf l = .ok ((buf.drop p).take l, r') ∧ At r' buf (p + l)
  readBuf_err : ∀ r buf p l, At r buf p → p + l > buf.length → r.readBuf l = .err
  readWire_ok : ∀ r buf p l, At r buf p → p + l ≤ buf.length →
    ∃ r', r.readWire l = .ok ((buf.drop p).take l, r') ∧ At r' buf (p + l)
  readWire_err : ∀ r buf p l, At r buf p → p + l > buf.length → r.readWire l = .err
  readFull_ok : ∀ r buf p l, At r buf p → p + l ≤ buf.length →
    ∃ r', r.readFull l = .ok ((buf.drop p).take l, r') ∧ At r' buf (p + l)
  readFull_err : ∀ r buf p l, At r buf p → p + l > buf.length → r.readFull l = .err
  skip_ok : ∀ r buf p n, At r buf p → r.Live → p + n ≤ buf.length →
    ∃ r', r.skip n = .ok r' ∧ At r' buf (p + n)
  skip_err : ∀ r buf p n, At r buf p → r.Live → p + n > buf.length → r.skip n = .err
  range_eq : ∀ r buf p s e, At r buf p → s ≤ e → e ≤ buf.length → r.range s e = (buf.drop s).take (e - s)
  delegate_ok : ∀ r buf p l, At r buf p → p + l ≤ buf.length →
    ∃ sub r', r.delegate l = .ok (sub, r') ∧ At sub ((buf.drop p).take l) 0 ∧ At r' buf (p + l)

/-! ### validity guards (what the Go types can hold; all satisfiable, see the examples in Props) -/

def CompValid (c : Component) : Prop := c.typ < 2 ^ 64

def NameValid (n : Name) : Prop := ∀ c ∈ n, CompValid c

def SigInfoValid (s : SigInfo) : Prop :=
  s.typ < 2 ^ 64 ∧ s.addDesc = false
  ∧ (∀ k, s.keyLoc = some k → ∀ n, k.name = some n → NameValid n)
  ∧ (∀ t, s.time = some t → t < 2 ^ 64) ∧ (∀ q, s.seq = some q → q < 2 ^ 64)

def MetaValid (m : MetaInfo) : Prop :=
  (∀ x, m.ct = some x → x < 2 ^ 64) ∧ (∀ x, m.fresh = some x → x < 2 ^ 64)

/-! ### normal forms of the encoder output -/

def optTLV (t : Nat) (o : Option Bytes) : Bytes := optB o (fun v => encTL t ++ encTL v.length ++ v)

/-- value of the Data element for signature value `sv` -/
def dataValue (d : DataIn) (sv : Bytes) : Bytes :=
  dataHead d
  ++ optB d.content (fun c => encTL 21 ++ encTL (contentLen c) ++ c.flatten)
  ++ optB d.si (fun s => encTL 22 ++ encTL (sigInfoLen s) ++ encSigInfo s)
  ++ (if d.est > 0 then encTL 23 ++ encTL sv.length ++ sv else [])

/-- the part of the Data value a signature covers -/
def dataCovered (d : DataIn) : Bytes :=
  dataHead d
  ++ optB d.content (fun c => encTL 21 ++ encTL (contentLen c) ++ c.flatten)
  ++ optB d.si (fun s => encTL 22 ++ encTL (sigInfoLen s) ++ encSigInfo s)

def DataIn.Valid (d : DataIn) : Prop :=
  NameValid d.name ∧ MetaValid d.mi ∧ (∀ s, d.si = some s → SigInfoValid s)
  ∧ dataLen d + 16 < 2 ^ 62

/-- what a decoder must return for a Data built from `d` with signature value `sv` -/
def dataExpect (d : DataIn) (sv : Bytes) : DataP :=
  { name := some d.name, mi := some d.mi, content := d.content.map List.flatten, si := d.si,
    sv := if d.est > 0 then some sv else none }

/-- the name without a trailing ParametersSha256Digest component -/
def stripDigest (n : Name) : Name :=
  match n.getLast? with
  | some c => if c.typ = 2 then n.dropLast else n
  | none => n

/-- ApplicationParameters … end of the Interest value: what the parameters digest covers -/
def interestParamsPortion (i : InterestIn) (sv : Bytes) : Bytes :=
  optB i.ap (fun c => encTL 36 ++ encTL (contentLen c) ++ c.flatten)
  ++ optB i.si (fun s => encTL 44 ++ encTL (sigInfoLen s) ++ encSigInfo s)
  ++ (if i.est > 0 then encTL 46 ++ encTL sv.length ++ sv else [])

/-- the name finally carried by the Interest -/
def interestFinalName (i : InterestIn) (H : Bytes → Bytes) (sv : Bytes) : Name :=
  if i.ap.isSome then stripDigest i.name ++ [digestComp (H (interestParamsPortion i sv))] else stripDigest i.name

def interestValue (i : InterestIn) (fn : Name) (sv : Bytes) : Bytes :=
  interestHead i fn ++ interestParamsPortion i sv

/-- the bytes an Interest signature covers: name components before the digest, then
    ApplicationParameters and SignatureInfo -/
def interestCovered (i : InterestIn) : Bytes :=
  encNameInner (stripDigest i.name)
  ++ optB i.ap (fun c => encTL 36 ++ encTL (contentLen c) ++ c.flatten)
  ++ optB i.si (fun s => encTL 44 ++ encTL (sigInfoLen s) ++ encSigInfo s)

def InterestIn.Valid (i : InterestIn) : Prop :=
  NameValid i.name ∧ (∀ ns, i.fh = some ns → ∀ n ∈ ns, NameValid n)
  ∧ (∀ x, i.nonce = some x → x < 2 ^ 32) ∧ (∀ x, i.lt = some x → x < 2 ^ 64) ∧ (∀ x, i.hl = some x → x < 256)
  ∧ (∀ s, i.si = some s → SigInfoValid s)
  ∧ (i.est > 0 → i.ap.isSome)
  ∧ interestLen i (interestName i.name i.ap.isSome) + 16 < 2 ^ 62

def interestExpect (i : InterestIn) (fn : Name) (sv : Bytes) : InterestP :=
  { name := some fn, cbp := i.cbp, mbf := i.mbf, fh := i.fh, nonce := i.nonce, lt := i.lt, hl := i.hl,
    ap := i.ap.map List.flatten, si := i.si, sv := if i.est > 0 then some sv else none }

/-- Facts about the ENCODER proved in LemmasEnc.lean and consumed by the round-trip proofs. -/
structure EncSpecs : Prop where
  /-- the length pass announces what EncodeInto writes -/
  nameLen_eq : ∀ n : Name, (encNameInner n).length = nameLen n
  metaLen_eq : ∀ m : MetaInfo, (encMeta m).length = metaLen m
  keyLocLen_eq : ∀ k : KeyLoc, (encKeyLoc k).length = keyLocLen k
  sigInfoLen_eq : ∀ s : SigInfo, (encSigInfo s).length = sigInfoLen s
  linksLen_eq : ∀ ns : List Name, (encLinks ns).length = linksLen ns
  /-- MakeData output in normal form: one TLV of type 6 with an exact length -/
  makeData_flatten : ∀ (d : DataIn) (sign : Bytes → Bytes) (e : Encoded), d.Valid → makeData d sign = .ok e →
    e.wire.flatten = encTL 6 ++ encTL (dataValue d e.sigVal).length ++ dataValue d e.sigVal
    ∧ (d.est > 0 → e.sigVal = sign (dataCovered d) ∧ e.sigCovered = some (dataCovered d) ∧ e.sigVal.length ≤ d.est)
    ∧ (d.est = 0 → e.sigCovered = none)
  /-- MakeInterest output in normal form, with the parameters digest in place -/
  makeInterest_flatten : ∀ (i : InterestIn) (sign H : Bytes → Bytes) (e : Encoded) (fn : Name), i.Valid →
    (∀ x, (H x).length = 32) → makeInterest i sign H = .ok (e, fn) →
    fn = interestFinalName i H e.sigVal
    ∧ e.wire.flatten = encTL 5 ++ encTL (interestValue i fn e.sigVal).length ++ interestValue i fn e.sigVal
    ∧ (i.est > 0 → e.sigVal = sign (interestCovered i) ∧ e.sigCovered = some (interestCovered i) ∧ e.sigVal.length ≤ i.est)
    ∧ (i.est = 0 → e.sigCovered = none ∧ e.sigVal = [])

/-- an Interest WITHOUT parameters must not end (after the encoder dropped one trailing digest
    component) in yet another ParametersSha256Digest component: the decoder rejects a trailing
    digest without parameters -/
def NoTrailingDigest (i : InterestIn) : Prop :=
  i.ap = none → ∀ c, (stripDigest i.name).getLast? = some c → c.typ ≠ 2

/-- SignatureInfo parses back over a healthy reader (on the contiguous one: `parseSigInfo_Z`, LemmasData.lean) -/
def SigInfoParseSpec : Prop :=
  ∀ (r : Rd) (s : SigInfo), At r (encSigInfo s) 0 → SigInfoValid s → sigInfoLen s < 2 ^ 62 → parseSigInfo r = .ok s

end Ndn.C03
