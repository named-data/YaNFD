/-
  C03 — the property theorems (the lemmas are in Lemmas*.lean; nothing is assumed: the hypothesis
  bundles `ReaderSpecs` / `EncSpecs` used between the proof files are instantiated here by
  `readerSpecs` / `encSpecs`).  All statements are unbounded: every name, field subset, buffer
  split, abstract signer, reader kind and segmentation.

  Guards: `DataIn.Valid` / `InterestIn.Valid` = what the Go types can hold (component types and
  natural values < 2^64, nonce < 2^32, hop limit < 256) and a total size < 2^62;
  `NoTrailingDigest` = an Interest WITHOUT parameters does not end, after the encoder dropped one
  trailing digest component, in yet another ParametersSha256Digest component (the decoder rejects a
  trailing digest without parameters by design).  `(H x).length = 32` is SHA-256's output size.
-/
import NdnVerif.C03.LemmasEncPlan
import NdnVerif.C03.LemmasFinal
import NdnVerif.C03.Examples
namespace Ndn.C03

/-! ### two-pass encoder: the length pass announces exactly what is written -/

theorem lengthPass_exact :
    (∀ n : Name, (encNameInner n).length = nameLen n) ∧ (∀ m : MetaInfo, (encMeta m).length = metaLen m)
    ∧ (∀ k : KeyLoc, (encKeyLoc k).length = keyLocLen k) ∧ (∀ s : SigInfo, (encSigInfo s).length = sigInfoLen s)
    ∧ (∀ ns : List Name, (encLinks ns).length = linksLen ns) :=
  ⟨encSpecs.nameLen_eq, encSpecs.metaLen_eq, encSpecs.keyLocLen_eq, encSpecs.sigInfoLen_eq, encSpecs.linksLen_eq⟩

/-- the wire plan computed by `Init` matches what `EncodeInto` writes: same number of buffers, every
    allocated buffer exactly the announced size (0-entries: the caller's nocopy buffers and the
    signature slot) — for every Data / Interest, no side condition -/
theorem wirePlan_exact :
    (∀ d : DataIn, PlanMatches (dataPlan d) (dataSegs d))
    ∧ (∀ (i : InterestIn) (fn : Name), PlanMatches (interestPlan i fn) (interestSegs i fn)) :=
  ⟨dataPlan_matches, interestPlan_matches⟩

/-- MakeData: the joined output wire is ONE TLV of type 6 whose length field is exact, with the
    actual signature length re-encoded and the bytes handed to the signer = the signed portion -/
theorem makeData_normalForm (d : DataIn) (sign : Bytes → Bytes) (e : Encoded) (hv : d.Valid)
    (hm : makeData d sign = .ok e) :
    e.wire.flatten = encTL 6 ++ encTL (dataValue d e.sigVal).length ++ dataValue d e.sigVal
    ∧ (d.est > 0 → e.sigVal = sign (dataCovered d) ∧ e.sigCovered = some (dataCovered d) ∧ e.sigVal.length ≤ d.est)
    ∧ (d.est = 0 → e.sigCovered = none) :=
  encSpecs.makeData_flatten d sign e hv hm

theorem makeInterest_normalForm (i : InterestIn) (sign H : Bytes → Bytes) (e : Encoded) (fn : Name) (hv : i.Valid)
    (hH : ∀ x, (H x).length = 32) (hm : makeInterest i sign H = .ok (e, fn)) :
    fn = interestFinalName i H e.sigVal
    ∧ e.wire.flatten = encTL 5 ++ encTL (interestValue i fn e.sigVal).length ++ interestValue i fn e.sigVal
    ∧ (i.est > 0 → e.sigVal = sign (interestCovered i) ∧ e.sigCovered = some (interestCovered i) ∧ e.sigVal.length ≤ i.est)
    ∧ (i.est = 0 → e.sigCovered = none ∧ e.sigVal = []) :=
  encSpecs.makeInterest_flatten i sign H e fn hv hH hm

/-! ### well-formed TLV with exact lengths (independent walker) -/

theorem makeData_wellFormed (d : DataIn) (sign : Bytes → Bytes) (e : Encoded) (hv : d.Valid)
    (hm : makeData d sign = .ok e) : Spec.wfData e.wire.flatten = true := by
  rw [(encSpecs.makeData_flatten d sign e hv hm).1]
  exact wfData_enc encSpecs d e.sigVal hv.1 hv.2.2.1
    (Nat.lt_trans (dataValue_lt encSpecs d sign e hv hm) (by decide))

theorem makeInterest_wellFormed (i : InterestIn) (sign H : Bytes → Bytes) (e : Encoded) (fn : Name)
    (hv : i.Valid) (hH : ∀ x, (H x).length = 32) (hm : makeInterest i sign H = .ok (e, fn)) :
    Spec.wfInterest e.wire.flatten = true := by
  obtain ⟨hfn, hfl, _⟩ := encSpecs.makeInterest_flatten i sign H e fn hv hH hm
  rw [hfl]
  exact wfInterest_enc encSpecs i fn e.sigVal (hfn ▸ nameValid_final i H e.sigVal hv.1) hv.2.1 hv.2.2.2.2.2.1
    (Nat.lt_trans (interestValue_lt encSpecs i sign H e fn hv hH hm) (by decide))

/-- Operation-level refinement: on every healthy reader — a BufferReader, or a WireReader over ANY
    segmentation whose segments after the first are non-empty, at any position, including the
    sub-readers produced by `Delegate` — each ParseReader operation (Pos, Length, ReadByte, ReadBuf,
    ReadWire, Read/ReadFull, Skip, Range, Delegate) returns what the BufferReader operation returns
    on the joined buffer, in the success AND the failure direction. -/
theorem wireReader_refines_bufferReader : ReaderSpecs := readerSpecs

/-- Parser-level refinement, for ALL input bytes (well-formed or not): decoding over a WireReader on
    any segmentation (segments after the first non-empty) gives exactly the result of decoding the
    joined bytes with a BufferReader — same value, same signed portion, same error/panic outcome. -/
theorem segmented_decode_eq_contiguous (H : Bytes → Bytes) (segs : List Bytes)
    (h : ∀ i, 0 < i → i < segs.length → segs.getD i [] ≠ []) :
    readData (newWireReader segs) = readData (newBufferReader segs.flatten)
    ∧ readInterest H (newWireReader segs) = readInterest H (newBufferReader segs.flatten)
    ∧ readPacket H (newWireReader segs) = readPacket H (newBufferReader segs.flatten) :=
  have hs := sim_new segs h
  ⟨readData_sim readerSpecs readerSpecsX _ _ hs, readInterest_sim readerSpecs readerSpecsX H _ _ hs,
   readPacket_sim readerSpecs readerSpecsX H _ _ hs⟩

/-- … and more generally for any two healthy readers over the same logical buffer and position
    (including the sub-readers `Delegate` produces) -/
theorem decode_depends_on_view_only (H : Bytes → Bytes) (r1 r2 : Rd) (h : Sim r1 r2) :
    readData r1 = readData r2 ∧ readInterest H r1 = readInterest H r2 ∧ readPacket H r1 = readPacket H r2 :=
  ⟨readData_sim readerSpecs readerSpecsX r1 r2 h, readInterest_sim readerSpecs readerSpecsX H r1 r2 h,
   readPacket_sim readerSpecs readerSpecsX H r1 r2 h⟩

/-- a WireReader freshly built over non-empty segments is healthy over the joined bytes -/
theorem newWireReader_healthy (segs : List Bytes) (h : NonEmptySegs segs) :
    At (newWireReader segs) segs.flatten 0 := at_newWireReader_ne segs h

/-- ReadData on the bytes of MakeData — over ANY healthy reader (contiguous or segmented) — returns
    the name, MetaInfo fields, content (concatenation of the buffers), SignatureInfo and signature
    value that were encoded, and the signed portion that was handed to the signer. -/
theorem readData_makeData (d : DataIn) (sign : Bytes → Bytes) (e : Encoded) (r : Rd) (hv : d.Valid)
    (hm : makeData d sign = .ok e) (hr : At r e.wire.flatten 0) :
    ∃ cov, readData r = .ok (dataExpect d e.sigVal, cov) ∧ (d.est > 0 → e.sigCovered = some cov) ∧ (d.est = 0 → cov = []) := by
  obtain ⟨_, hs, _⟩ := encSpecs.makeData_flatten d sign e hv hm
  rw [readData_sim readerSpecs readerSpecsX _ _ (sim_Z hr), readData_Z encSpecs d sign e hv hm]
  exact ⟨_, rfl, fun he => by rw [(hs he).2.1, if_pos he], fun he => if_neg (he ▸ Nat.lt_irrefl 0)⟩

theorem readInterest_makeInterest (i : InterestIn) (sign H : Bytes → Bytes) (e : Encoded) (fn : Name) (r : Rd)
    (hv : i.Valid) (hnt : NoTrailingDigest i) (hH : ∀ x, (H x).length = 32)
    (hm : makeInterest i sign H = .ok (e, fn)) (hr : At r e.wire.flatten 0) :
    ∃ cov, readInterest H r = .ok (interestExpect i fn e.sigVal, cov) ∧ (i.est > 0 → e.sigCovered = some cov) := by
  obtain ⟨cov, h1, h2⟩ := readInterest_Z encSpecs i sign H e fn hv hnt hH hm
  obtain ⟨_, _, hs, _⟩ := encSpecs.makeInterest_flatten i sign H e fn hv hH hm
  rw [readInterest_sim readerSpecs readerSpecsX H _ _ (sim_Z hr)]
  exact ⟨cov, h1, fun he => by rw [(hs he).2.1, h2 he]⟩

/-- for EVERY segmentation into non-empty segments the segmented decode equals the contiguous one -/
theorem readData_segmented (d : DataIn) (sign : Bytes → Bytes) (e : Encoded) (segs : List Bytes) (hv : d.Valid)
    (hm : makeData d sign = .ok e) (hne : NonEmptySegs segs) (hj : segs.flatten = e.wire.flatten) :
    readData (newWireReader segs) = readData (newBufferReader e.wire.flatten)
    ∧ ∃ cov, readData (newWireReader segs) = .ok (dataExpect d e.sigVal, cov) := by
  obtain ⟨cov, h1, _⟩ := readData_makeData d sign e _ hv hm (hj ▸ at_newWireReader_ne segs hne)
  exact ⟨hj ▸ readData_sim readerSpecs readerSpecsX _ _ (sim_new segs hne.index), cov, h1⟩

theorem readInterest_segmented (i : InterestIn) (sign H : Bytes → Bytes) (e : Encoded) (fn : Name) (segs : List Bytes)
    (hv : i.Valid) (hnt : NoTrailingDigest i) (hH : ∀ x, (H x).length = 32)
    (hm : makeInterest i sign H = .ok (e, fn)) (hne : NonEmptySegs segs) (hj : segs.flatten = e.wire.flatten) :
    ∃ c1 c2, readInterest H (newWireReader segs) = .ok (interestExpect i fn e.sigVal, c1)
      ∧ readInterest H (newBufferReader e.wire.flatten) = .ok (interestExpect i fn e.sigVal, c2)
      ∧ (i.est > 0 → c1 = c2) := by
  obtain ⟨c, h1, _⟩ := readInterest_makeInterest i sign H e fn _ hv hnt hH hm (hj ▸ at_newWireReader_ne segs hne)
  exact ⟨c, c, h1, by rw [← hj, ← readInterest_sim readerSpecs readerSpecsX H _ _ (sim_new segs hne.index)]; exact h1, fun _ => rfl⟩

theorem readPacket_makeData (d : DataIn) (sign H : Bytes → Bytes) (e : Encoded) (r : Rd) (hv : d.Valid)
    (hm : makeData d sign = .ok e) (hr : At r e.wire.flatten 0) :
    ∃ cov, readPacket H r = .ok (.data (dataExpect d e.sigVal) cov) :=
  ⟨_, (readPacket_sim readerSpecs readerSpecsX H _ _ (sim_Z hr)).trans (readPacket_data_Z encSpecs d sign H e hv hm)⟩

theorem readPacket_makeInterest (i : InterestIn) (sign H : Bytes → Bytes) (e : Encoded) (fn : Name) (r : Rd)
    (hv : i.Valid) (hnt : NoTrailingDigest i) (hH : ∀ x, (H x).length = 32)
    (hm : makeInterest i sign H = .ok (e, fn)) (hr : At r e.wire.flatten 0) :
    ∃ cov, readPacket H r = .ok (.interest (interestExpect i fn e.sigVal) cov) ∧ (i.est > 0 → e.sigCovered = some cov) := by
  obtain ⟨cov, h1, h2⟩ := readPacket_interest_Z encSpecs i sign H e fn hv hnt hH hm
  obtain ⟨_, _, hs, _⟩ := encSpecs.makeInterest_flatten i sign H e fn hv hH hm
  exact ⟨cov, (readPacket_sim readerSpecs readerSpecsX H _ _ (sim_Z hr)).trans h1, fun he => by rw [(hs he).2.1, h2 he]⟩

theorem nameBytes_eq_packetName (n : Name) :
    nameBytes n = encNameField 7 n ∧ nameBytes n = Spec.encName n
    ∧ ∀ (d : DataIn) (sv : Bytes), d.name = n → ∃ rest, dataValue d sv = nameBytes n ++ rest := by
  refine ⟨rfl, ?_, ?_⟩
  · have hinner : encNameInner n = n.flatMap Spec.encComp := rfl
    rw [nameBytes, Spec.encName, ← hinner, encNameInner_length]
  · intro d sv hd
    exact ⟨_, by rw [dataValue_layout, dataHead, ← hd, List.append_assoc]; rfl⟩

theorem nameFromBytes_nameBytes (n : Name) (hv : NameValid n) (hl : nameLen n < 2 ^ 62) :
    nameFromBytes (nameBytes n) = .ok n := by
  have hb : newBufferReader (nameBytes n) = Z [] (encTL 7 ++ (encTL (nameLen n) ++ encNameInner n)) := by
    rw [nameBytes, List.append_assoc]; rfl
  have e1 := Z_readTL [] (encTL (nameLen n) ++ encNameInner n) 7 (by decide)
  have e2 := Z_readTL (encTL 7) (encNameInner n) (nameLen n) (Nat.lt_trans hl (by decide))
  have e3 := Z_readNameLoop n ((nameBytes n).length + 1) (encTL 7 ++ encTL (nameLen n)) [] hv hl (by
    have := length_le_nameLen n
    rw [nameBytes, List.length_append, encNameInner_length]; omega)
  rw [List.nil_append] at e1 e3
  simp only [nameFromBytes, hb, e1, Res.bind_ok, ne_eq, not_true_eq_false, if_false, e2, e3, Z_room, encNameInner_length,
    Res.pure_eq]

theorem componentFromBytes_compBytes (c : Component) (hc : CompValid c) (hl : c.val.length < 2 ^ 62) :
    componentFromBytes (encComp c) = .ok c := by
  have e := Z_readComponent [] [] c hc (Nat.lt_trans hl (by decide))
  rw [List.append_nil] at e
  exact bind_eq_of_ok e _

/-! ### non-vacuity: a concrete signed Data (a 300-byte component, three content buffers, estimate 300
    with a 200-byte signature, so the 3-byte length field is narrowed to 1 byte and the packet
    shrunk) and a concrete signed Interest with parameters and forwarding hint meet every hypothesis
    of the theorems above (`Valid`, successful build, `NoTrailingDigest`, hash size, non-empty
    segments, healthy readers via `at_newBufferReader` / `at_newWireReader_ne`, which is `newWireReader_healthy`) -/

set_option maxRecDepth 100000 in
example : ∃ e, makeData exData exSign = .ok e ∧ e.sigVal.length = 200 := exData_made
set_option maxRecDepth 100000 in
example : ∃ e fn, makeInterest exInterest exSign32 exHash = .ok (e, fn) ∧ e.sigVal.length = 30 ∧ fn.length = 2 :=
  exInterest_made
example : NoTrailingDigest exInterest := by intro h; cases h
example : ∀ x, (exHash x).length = 32 := by intro x; simp [exHash]

example : ∀ i, 0 < i → i < ([[1, 2], [3]] : List Bytes).length → ([[1, 2], [3]] : List Bytes).getD i [] ≠ [] := by
  intro i h1 h2; have : i = 1 := by simp at h2; omega
  subst this; simp
example : Sim (newWireReader [[6], [0]]) (newBufferReader [6, 0]) :=
  ⟨[6, 0], 0, at_newWireReader_ne [[6], [0]] (by intro s hs; simp at hs; rcases hs with h | h <;> simp [h]), at_newBufferReader _⟩
example : NonEmptySegs [[1, 2], [3]] := by intro s hs; simp at hs; rcases hs with h | h <;> simp [h]
example : At (newBufferReader [6, 0]) [6, 0] 0 := at_newBufferReader _
example : NameValid exKey ∧ nameLen exKey < 2 ^ 62 := ⟨exKey_valid, by decide⟩

end Ndn.C03
