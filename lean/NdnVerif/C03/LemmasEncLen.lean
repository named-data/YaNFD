/-
  C03/LemmasEncLen.lean — the length pass of the encoder announces what EncodeInto writes
  (first five fields of `EncSpecs`).
-/
import NdnVerif.C03.LemmasTlv
namespace Ndn.C03

theorem tlLen_pos_enc (x : Nat) : 0 < tlLen x := tlLen_pos x

theorem encComp_length (c : Component) : (encComp c).length = compLen c :=
  encTV_length (c.typ, c.val)

theorem encNameInner_length (n : Name) : (encNameInner n).length = nameLen n := by
  induction n with
  | nil => rfl
  | cons c t ih => rw [encNameInner_cons, nameLen_cons, List.length_append, encComp_length, ih]

theorem encMeta_length (m : MetaInfo) : (encMeta m).length = metaLen m := by
  simp only [encMeta, metaLen, List.length_append,
    optB_length _ _ _ (encNatField_length 24), optB_length _ _ _ (encNatField_length 25),
    optB_length _ _ _ (encBinField_length 26)]

theorem encKeyLoc_length (k : KeyLoc) : (encKeyLoc k).length = keyLocLen k := by
  simp only [encKeyLoc, keyLocLen, List.length_append,
    optB_length _ _ _ (encNameField_length encNameInner_length 7), optB_length _ _ _ (encBinField_length 29)]

theorem encSigInfo_length (s : SigInfo) : (encSigInfo s).length = sigInfoLen s := by
  have h253 : tlLen 253 = 3 := by decide
  have hv : ∀ v : Bytes × Bytes, (encTL 253 ++ encTL (validityLen v) ++ encValidity v).length
      = 3 + tlLen (validityLen v) + validityLen v := fun v => by
    simp only [List.length_append, encTL_length, encValidity_length, h253]
  simp only [encSigInfo, sigInfoLen, List.length_append, encNatField_length,
    optB_length _ _ _ (fun k => tlv_length (show 28 ≤ 0xfc by omega) (encKeyLoc_length k)), optB_length _ _ _ hv,
    optB_length _ _ _ (encBinField_length 38), optB_length _ _ _ (encNatField_length 40),
    optB_length _ _ _ (encNatField_length 42)]

theorem encLinks_length (ns : List Name) : (encLinks ns).length = linksLen ns := by
  induction ns with
  | nil => rfl
  | cons c t ih =>
    simp only [encLinks, linksLen, List.flatMap_cons, List.length_append, List.map_cons,
      List.sum_cons, encNameField_length encNameInner_length] at ih ⊢
    rw [ih]

end Ndn.C03
