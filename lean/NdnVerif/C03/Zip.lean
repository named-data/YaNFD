/-
  C03/Zip.lean — the BufferReader as a zipper: `Z pre suf` has consumed `pre` and has `suf` left.  On it every
  reader operation, `ReadTLNum`, every field value the encoders write and one step of the TLV loop is an
  unconditional rewrite rule.  Decoding depends only on the logical buffer and position of a healthy reader
  (LemmasLift.lean), so what the decoders return on encoded input is proved on `Z [] buf` alone.
-/
import NdnVerif.C03.LemmasParse
namespace Ndn.C03

def Z (pre suf : Bytes) : Rd := .buf ⟨pre ++ suf, pre.length⟩

theorem Z_pos (pre suf : Bytes) : (Z pre suf).pos = pre.length := rfl
theorem Z_length (pre suf : Bytes) : (Z pre suf).length = pre.length + suf.length := List.length_append
theorem Z_room (pre suf : Bytes) : (Z pre suf).length - (Z pre suf).pos = suf.length := by
  rw [Z_pos, Z_length, Nat.add_sub_cancel_left]

theorem at_Z (pre suf : Bytes) : At (Z pre suf) (pre ++ suf) pre.length :=
  have h : pre.length ≤ (pre ++ suf).length := List.length_append ▸ Nat.le_add_right ..
  ⟨h, rfl, h⟩

theorem at_Z_nil (buf : Bytes) : At (Z [] buf) buf 0 := at_Z [] buf

theorem at_newBufferReader (b : Bytes) : At (newBufferReader b) b 0 := at_Z_nil b

theorem Z_move (pre v t : Bytes) : Rd.buf ⟨pre ++ (v ++ t), pre.length + v.length⟩ = Z (pre ++ v) t := by
  rw [Z, List.append_assoc, List.length_append]

theorem Z_readByte (pre : Bytes) (a : Nat) (t : Bytes) : (Z pre (a :: t)).readByte = .ok (a, Z (pre ++ [a]) t) := by
  have h : ¬ pre.length ≥ (pre ++ a :: t).length := by rw [List.length_append, List.length_cons]; omega
  have hg : (pre ++ a :: t).getD pre.length 0 = a := by simp [List.getD]
  simp only [Z, Rd.readByte, BufR.readByte, if_neg h, hg, Res.bind_ok, Res.pure_eq]
  exact congrArg _ (congrArg _ (Z_move pre [a] t))

/-- `ReadBuf`, `ReadWire`, `io.ReadFull` of exactly the next `v.length` bytes -/
theorem Z_take (pre v t : Bytes) :
    (Z pre (v ++ t)).readBuf v.length = .ok (v, Z (pre ++ v) t) ∧ (Z pre (v ++ t)).readWire v.length = .ok (v, Z (pre ++ v) t)
    ∧ (Z pre (v ++ t)).readFull v.length = .ok (v, Z (pre ++ v) t) := by
  have h : ¬ pre.length + v.length > (pre ++ (v ++ t)).length := by simp only [List.length_append]; omega
  have h' : ¬ (pre.length ≥ (pre ++ (v ++ t)).length ∧ v.length > 0) := by simp only [List.length_append]; omega
  have hd : ((pre ++ (v ++ t)).drop pre.length).take v.length = v := by rw [List.drop_left, List.take_left]
  simp only [Z, Rd.readBuf, Rd.readWire, Rd.readFull, BufR.readBuf, BufR.readWire, BufR.readFull, if_neg h, if_neg h', hd,
    Res.bind_ok, Res.pure_eq, Z_move, and_self]

theorem Z_readWire (pre v t : Bytes) : (Z pre (v ++ t)).readWire v.length = .ok (v, Z (pre ++ v) t) :=
  (Z_take pre v t).2.1

theorem Z_delegate (pre v t : Bytes) : (Z pre (v ++ t)).delegate v.length = .ok (Z [] v, Z (pre ++ v) t) := by
  have h : ¬ pre.length + v.length > (pre ++ (v ++ t)).length := by simp only [List.length_append]; omega
  have hd : ((pre ++ (v ++ t)).drop pre.length).take v.length = v := by rw [List.drop_left, List.take_left]
  simp only [Z, Rd.delegate, BufR.delegate, if_neg h, hd, Z_move, List.nil_append, List.length_nil]

theorem Z_skip (pre v t : Bytes) : (Z pre (v ++ t)).skip v.length = .ok (Z (pre ++ v) t) := by
  have h : ¬ pre.length + v.length > (pre ++ (v ++ t)).length := by simp only [List.length_append]; omega
  simp only [Z, Rd.skip, BufR.skip, if_neg h, Res.bind_ok, Res.pure_eq, Z_move]

/-- `Range(s, end)` up to the end of a prefix `A` of the whole buffer, wherever the reader stands -/
theorem Z_range {pre suf : Bytes} (A C : Bytes) (s : Nat) (h : pre ++ suf = A ++ C) :
    (Z pre suf).range s A.length = A.drop s := by
  simp only [Z, Rd.range, BufR.range, h]
  by_cases hs : s ≤ A.length
  · rw [if_neg (by simp only [List.length_append]; omega), List.drop_append_of_le_length hs,
      List.take_left' (by rw [List.length_drop])]
  · rw [if_pos (Or.inr (by omega)), List.drop_eq_nil_of_le (by omega)]

theorem Z_lenGuard (pre v t : Bytes) : lenGuard (Z pre (v ++ t)) v.length = .ok () := by
  have h : ¬ v.length > (v ++ t).length := by rw [List.length_append]; omega
  rw [lenGuard, Z_room, if_neg h]

theorem Z_readBytesAcc (bs : Bytes) : ∀ (pre t : Bytes) (acc : Nat),
    readBytesAcc bs.length (Z pre (bs ++ t)) acc = .ok (accBytes acc bs, Z (pre ++ bs) t) := by
  induction bs with
  | nil => intro pre t acc; rw [List.append_nil]; rfl
  | cons b bs ih =>
    intro pre t acc
    rw [List.length_cons, readBytesAcc, List.cons_append, Z_readByte]
    simp only [Res.bind_ok, ih, List.append_assoc, List.singleton_append]
    rfl

theorem Z_readTL (pre t : Bytes) (x : Nat) (hx : x < 2 ^ 64) :
    readTL (Z pre (encTL x ++ t)) = .ok (x, Z (pre ++ encTL x) t) := by
  obtain ⟨y, he, _, _, hs, hb⟩ := encTL_form x
  rw [he, List.cons_append, readTL, Z_readByte]
  by_cases hy : y ≤ 0xfc
  · obtain rfl := hs hy
    simp only [Res.bind_ok, if_pos hy, tlExtra_small hy, be, List.nil_append, Res.pure_eq]
  · have e := Z_readBytesAcc (be (tlExtra y) x) (pre ++ [y]) t 0
    rw [be_length] at e
    simp only [Res.bind_ok, if_neg hy, e, List.append_assoc, List.singleton_append,
      accBytes_be _ x (hb hy hx) (by rcases tlExtra_of_gt hy with h | h | h <;> rw [h] <;> decide)]

theorem Z_readNat (pre t : Bytes) (k x w : Nat) (hx : x < 256 ^ k) (hk : 256 ^ k ≤ u64) :
    readNat (Z pre (be k x ++ t)) k w = .ok (x % 2 ^ w, Z (pre ++ be k x) t) := by
  have hn : negInt k = false :=
    decide_eq_false (Nat.not_le_of_lt (Nat.lt_of_le_of_lt (le8_of_pow_le hk) (by decide)))
  have hg : ¬ k > (be k x ++ t).length := by rw [List.length_append, be_length]; omega
  have e := Z_readBytesAcc (be k x) pre t 0
  rw [be_length] at e
  rw [readNat, hn, Z_room]
  simp only [Bool.false_eq_true, if_false, if_neg hg, e, accBytes_be k x hx hk, Res.bind_ok, Res.pure_eq]

theorem Z_readNatural (pre t : Bytes) (x : Nat) (hx : x < 2 ^ 64) :
    readNatural (Z pre (be (natLen x) x ++ t)) (be (natLen x) x).length = .ok (x, Z (pre ++ be (natLen x) x) t) := by
  rw [be_length, readNatural_natLen, Z_readNat pre t _ x 64 (lt_pow_natLen hx) (pow_natLen_le x), Nat.mod_eq_of_lt hx]

theorem Z_readString (pre v t : Bytes) (hv : v.length < 2 ^ 63) :
    readString (Z pre (v ++ t)) v.length = .ok (v, Z (pre ++ v) t) := by
  have hn : negInt v.length = false := decide_eq_false (Nat.not_le_of_lt hv)
  simp only [readString, hn, Bool.false_eq_true, if_false, (Z_take pre v t).2.2]

/-- a binary field: the length guard, then `io.ReadFull` -/
theorem Z_bin {β : Type} (pre v t : Bytes) (f : Bytes × Rd → Res β) :
    (lenGuard (Z pre (v ++ t)) v.length >>= fun _ => (Z pre (v ++ t)).readFull v.length >>= f) = f (v, Z (pre ++ v) t) := by
  rw [Z_lenGuard, (Z_take pre v t).2.2]; rfl

/-- the three reads of one name component -/
theorem Z_comp (pre t : Bytes) (c : Component) (hc : CompValid c) (hl : c.val.length < 2 ^ 64) :
    ∃ r1 r2, readTL (Z pre (encComp c ++ t)) = .ok (c.typ, r1) ∧ readTL r1 = .ok (c.val.length, r2)
      ∧ r2.readBuf c.val.length = .ok (c.val, Z (pre ++ encComp c) t) := by
  refine ⟨Z (pre ++ encTL c.typ) (encTL c.val.length ++ (c.val ++ t)),
    Z (pre ++ encTL c.typ ++ encTL c.val.length) (c.val ++ t), ?_, Z_readTL _ _ _ hl, ?_⟩
  · rw [encComp, List.append_assoc, List.append_assoc]; exact Z_readTL _ _ _ hc
  · simp only [(Z_take _ c.val t).1, encComp, List.append_assoc]

theorem Z_nameLoop : ∀ (n : Name) (fuel : Nat) (pre t : Bytes) (acc : Name) (sigEnd : Nat),
    NameValid n → nameLen n < 2 ^ 62 → n.length ≤ fuel →
    nameLoop fuel (Z pre (encNameInner n ++ t)) (pre.length + nameLen n) acc sigEnd
      = .ok (acc ++ n, sigEndAux pre.length n sigEnd, Z (pre ++ encNameInner n) t) := by
  intro n
  induction n with
  | nil =>
    intro fuel pre t acc sigEnd _ _ _
    cases fuel <;> simp [nameLoop, Z_pos, nameLen, sigEndAux, encNameInner]
  | cons c cs ih =>
    intro fuel pre t acc sigEnd hv hlen hf
    obtain ⟨f, rfl⟩ : ∃ f, fuel = f + 1 := ⟨fuel - 1, (Nat.succ_pred_eq_of_pos (Nat.lt_of_lt_of_le (Nat.succ_pos _) hf)).symm⟩
    have hcl := compLen_pos c
    rw [nameLen_cons] at hlen ⊢
    have hlt : ¬ (pre.length ≥ pre.length + (compLen c + nameLen cs)) := by omega
    obtain ⟨r1, r2, e1, e2, e3⟩ := Z_comp pre (encNameInner cs ++ t) c (hv c (List.mem_cons_self ..))
      (by unfold compLen at hlen; omega)
    have e4 := ih f (pre ++ encComp c) t (acc ++ [c]) (if c.typ = 2 then pre.length else sigEnd)
      (fun x hx => hv x (List.mem_cons_of_mem _ hx)) (by omega) (Nat.le_of_succ_le_succ hf)
    have hce : (encComp c).length = compLen c := encTV_length (c.typ, c.val)
    rw [List.length_append, hce, Nat.add_assoc] at e4
    rw [encNameInner_cons, List.append_assoc]
    simp only [nameLoop, Z_pos, if_neg hlt, e1, Res.bind_ok, e2, e3, e4, sigEndAux, List.append_assoc, List.cons_append,
      List.nil_append]

/-- a name field of a valid name as the encoder writes it (its announced length is exact) -/
theorem Z_readNameField (pre t : Bytes) (n : Name) (hlenEq : (encNameInner n).length = nameLen n)
    (hv : NameValid n) (hlen : nameLen n < 2 ^ 62) :
    readNameField (Z pre (encNameInner n ++ t)) (encNameInner n).length
      = .ok (n, sigEndAux pre.length n (pre.length + nameLen n), Z (pre ++ encNameInner n) t) := by
  have := length_le_nameLen n
  rw [readNameField, Z_lenGuard, Res.bind_ok, Z_pos, hlenEq, Z_nameLoop n _ pre t [] _ hv hlen (by omega), List.nil_append]

theorem tlvLoop_Z_nil {σ : Type} (body : σ → Nat → Nat → Nat → Rd → Res (σ × Rd)) (fuel : Nat) (st : σ) (pre : Bytes) :
    tlvLoop body (fuel + 1) st (Z pre []) = .ok (st, Z pre []) := by
  have h : (Z pre []).pos ≥ (Z pre []).length := by rw [Z_pos, Z_length]; exact Nat.le_refl _
  simp only [tlvLoop, if_pos h]

/-- one iteration on an element: the body runs on the reader behind T and L -/
theorem tlvLoop_Z_cons {σ : Type} (body : σ → Nat → Nat → Nat → Rd → Res (σ × Rd)) (fuel : Nat) (st : σ) (pre : Bytes)
    (ty : Nat) (v rest : Bytes) (hty : ty < 2 ^ 64) (hv : v.length < 2 ^ 64) :
    tlvLoop body (fuel + 1) st (Z pre (encTV (ty, v) ++ rest))
      = (body st ty v.length pre.length (Z (pre ++ (encTL ty ++ encTL v.length)) (v ++ rest))
          >>= fun x => tlvLoop body fuel x.1 x.2) := by
  have h : ¬ (Z pre (encTV (ty, v) ++ rest)).pos ≥ (Z pre (encTV (ty, v) ++ rest)).length := by
    rw [Z_pos, Z_length, List.length_append]
    exact Nat.not_le_of_lt (Nat.lt_add_of_pos_right (Nat.lt_of_lt_of_le (encTV_pos _) (Nat.le_add_right ..)))
  simp only [tlvLoop, if_neg h]
  rw [encTV, List.append_assoc, List.append_assoc, Z_readTL _ _ _ hty, Res.bind_ok, Z_readTL _ _ _ hv, Res.bind_ok,
    Z_pos, List.append_assoc]

/-- a buffer that is exactly one TLV whose handler delegates the value to a parser `f` and stores the result by
    `g` (a packet that is one Data or one Interest): the loop is `f` on the value.  An equation, so that it serves
    decoding what was encoded and inverting a successful decode of arbitrary bytes alike. -/
theorem tlvLoop_single {σ α : Type} (body : σ → Nat → Nat → Nat → Rd → Res (σ × Rd))
    (f : Rd → Res α) (g : α → σ) (st : σ) (t : Nat) (V : Bytes) (ht : t < 2 ^ 64) (hL : V.length < 2 ^ 62)
    (hbody : ∀ r2, body st t V.length 0 r2 = (r2.delegate V.length >>= fun x => f x.1 >>= fun a => pure (g a, x.2))) :
    tlvLoop body (loopFuel (Z [] (encTV (t, V)))) st (Z [] (encTV (t, V)))
      = (f (Z [] V) >>= fun a => .ok (g a, Z (encTV (t, V)) [])) := by
  obtain ⟨n, hn⟩ : ∃ n, (encTV (t, V)).length = n + 1 := ⟨_, (Nat.succ_pred_eq_of_pos (encTV_pos _)).symm⟩
  have e := tlvLoop_Z_cons body (n + 1) st [] t V [] ht (Nat.lt_trans hL (by decide))
  rw [List.append_nil, List.length_nil, List.nil_append] at e
  rw [loopFuel, Z_room, hn, e, hbody, Z_delegate, Res.bind_ok]
  cases f (Z [] V) with
  | ok a => simp only [Res.bind_ok, Res.pure_eq]; exact tlvLoop_Z_nil body n _ _
  | _ => rfl

/-! ### walking the loop over encoded elements

A walk starts with the layout of the buffer (`start`), is extended element by element, and ends when nothing is
left (`finish`).  What is said per element is which rule consumes its value and what the body stores. -/

/-- from loop state `s` at reader `r` the loop over `body` arrives at loop state `s'` at reader `r'`
    (for every sufficient fuel) -/
def LoopReach {σ : Type} (body : σ → Nat → Nat → Nat → Rd → Res (σ × Rd)) (s : σ) (r : Rd) (s' : σ) (r' : Rd) : Prop :=
  ∀ fuel, r.length - r.pos < fuel → ∃ fuel', r'.length - r'.pos < fuel' ∧ tlvLoop body fuel s r = tlvLoop body fuel' s' r'

namespace LoopReach
variable {σ : Type} {body : σ → Nat → Nat → Nat → Rd → Res (σ × Rd)} {s0 : σ} {r0 : Rd}

theorem refl (body : σ → Nat → Nat → Nat → Rd → Res (σ × Rd)) (s : σ) (r : Rd) : LoopReach body s r s r :=
  fun fuel hf => ⟨fuel, hf, rfl⟩

theorem start (body : σ → Nat → Nat → Nat → Rd → Res (σ × Rd)) (s : σ) {buf L : Bytes} (h : buf = L) :
    LoopReach body s (Z [] buf) s (Z [] L) :=
  h ▸ refl body s _

theorem finish' {sF : σ} {P : Bytes} (hR : LoopReach body s0 r0 sF (Z P [])) (fuel : Nat) (hf : r0.length - r0.pos < fuel) :
    tlvLoop body fuel s0 r0 = .ok (sF, Z P []) := by
  obtain ⟨f, hf', e⟩ := hR fuel hf
  obtain ⟨f, rfl⟩ : ∃ f', f = f' + 1 := ⟨f - 1, (Nat.succ_pred_eq_of_pos (Nat.lt_of_le_of_lt (Nat.zero_le _) hf')).symm⟩
  rw [e, tlvLoop_Z_nil]

theorem finish {sF : σ} {P : Bytes} (hR : LoopReach body s0 r0 sF (Z P [])) :
    tlvLoop body (loopFuel r0) s0 r0 = .ok (sF, Z P []) :=
  hR.finish' _ (Nat.lt_succ_self _)

/-- one element whose value the body consumes exactly; `P` is what is consumed up to the value -/
theorem elem {st st' : σ} {pre : Bytes} {ty : Nat} {v rest : Bytes}
    (hR : LoopReach body s0 r0 st (Z pre (encTV (ty, v) ++ rest))) (hty : ty < 2 ^ 64) (hv : v.length < 2 ^ 62)
    (hbody : ∀ P, P = pre ++ (encTL ty ++ encTL v.length) →
      body st ty v.length pre.length (Z P (v ++ rest)) = .ok (st', Z (P ++ v) rest)) :
    LoopReach body s0 r0 st' (Z (pre ++ encTV (ty, v)) rest) := by
  intro fuel hf
  obtain ⟨f1, hf1, e1⟩ := hR fuel hf
  rw [Z_room, List.length_append] at hf1
  obtain ⟨f, rfl⟩ : ∃ f, f1 = f + 1 := ⟨f1 - 1, (Nat.succ_pred_eq_of_pos (Nat.lt_of_le_of_lt (Nat.zero_le _) hf1)).symm⟩
  refine ⟨f, ?_, ?_⟩
  · rw [Z_room]
    exact Nat.lt_of_lt_of_le (Nat.lt_add_of_pos_left (encTV_pos (ty, v))) (Nat.le_of_lt_succ hf1)
  rw [e1, tlvLoop_Z_cons body f st pre ty v rest hty (Nat.lt_trans hv (by decide)), hbody _ rfl]
  simp only [Res.bind_ok, encTV, List.append_assoc]

/-- an optional element: nothing written, nothing read -/
theorem optElem {α : Type} {st : σ} {o : Option α} {f val : α → Bytes} {ty : Nat} {pre rest : Bytes}
    (hR : LoopReach body s0 r0 st (Z pre (optB o f ++ rest))) (set : Option α → σ)
    (hf : ∀ a, f a = encTV (ty, val a)) (hty : ty < 2 ^ 64) (hv : ∀ a, o = some a → (val a).length < 2 ^ 62)
    (h0 : set none = st)
    (hbody : ∀ a, o = some a → ∀ P, P = pre ++ (encTL ty ++ encTL (val a).length) →
      body st ty (val a).length pre.length (Z P (val a ++ rest)) = .ok (set (some a), Z (P ++ val a) rest)) :
    LoopReach body s0 r0 (set o) (Z (pre ++ optB o f) rest) := by
  cases o with
  | none => rw [optB_none, List.append_nil, h0]; rwa [optB_none, List.nil_append] at hR
  | some a =>
    rw [optB_some, hf] at hR ⊢
    exact hR.elem hty (hv a rfl) (hbody a rfl)

/-- one known element of an ordered model at slot `k`, arriving with `progress` at `q ≤ k` -/
theorem ordElem {σ : Type} {body : σ × Nat → Nat → Nat → Nat → Rd → Res ((σ × Nat) × Rd)} {s0 : σ × Nat} {n F : Nat}
    {idx : Nat → Option Nat} {handle : Nat → σ → Nat → Nat → Rd → Res (σ × Rd)} {absent : Nat → σ → Nat → Rd → σ}
    (hord : ∀ s typ l sp r, body s typ l sp r = ordLoop n idx handle absent typ l sp F s.2 s.1 r)
    {st st' : σ} {q k : Nat} {pre : Bytes} {ty : Nat} {v rest : Bytes}
    (hR : LoopReach body s0 r0 (st, q) (Z pre (encTV (ty, v) ++ rest))) (hty : ty < 2 ^ 64) (hv : v.length < 2 ^ 62)
    (hk : idx ty = some k) (hq : q ≤ k) (hkn : k ≤ n) (hF : k < F)
    (hh : ∀ P, P = pre ++ (encTL ty ++ encTL v.length) →
      handle k (absFold absent pre.length (Z P (v ++ rest)) (k - q) q st) v.length pre.length (Z P (v ++ rest))
        = .ok (st', Z (P ++ v) rest)) :
    LoopReach body s0 r0 (st', k + 1) (Z (pre ++ encTV (ty, v)) rest) :=
  hR.elem hty hv (fun P hP => by
    rw [hord, ordLoop_hit n idx handle absent ty v.length pre.length k hk hkn (k - q) F q st _ (Nat.add_sub_of_le hq)
      (Nat.lt_of_le_of_lt (Nat.sub_le k q) hF), hh P hP]
    rfl)

/-- an optional element of an ordered model: `progress` moves past slot `k` only if it is there -/
theorem ordOptElem {σ α : Type} {body : σ × Nat → Nat → Nat → Nat → Rd → Res ((σ × Nat) × Rd)} {s0 : σ × Nat} {n F : Nat}
    {idx : Nat → Option Nat} {handle : Nat → σ → Nat → Nat → Rd → Res (σ × Rd)} {absent : Nat → σ → Nat → Rd → σ}
    (hord : ∀ s typ l sp r, body s typ l sp r = ordLoop n idx handle absent typ l sp F s.2 s.1 r)
    {st : σ} {o : Option α} {f val : α → Bytes} {q k ty : Nat} {pre rest : Bytes}
    (hR : LoopReach body s0 r0 (st, q) (Z pre (optB o f ++ rest))) (set : Option α → σ)
    (hf : ∀ a, f a = encTV (ty, val a)) (hty : ty < 2 ^ 64) (hv : ∀ a, o = some a → (val a).length < 2 ^ 62)
    (h0 : set none = st) (hk : idx ty = some k) (hq : q ≤ k) (hkn : k ≤ n) (hF : k < F)
    (hh : ∀ a, o = some a → ∀ P, P = pre ++ (encTL ty ++ encTL (val a).length) →
      handle k (absFold absent pre.length (Z P (val a ++ rest)) (k - q) q st) (val a).length pre.length (Z P (val a ++ rest))
        = .ok (set (some a), Z (P ++ val a) rest)) :
    ∃ q', q ≤ q' ∧ q' ≤ k + 1 ∧ LoopReach body s0 r0 (set o, q') (Z (pre ++ optB o f) rest) := by
  cases o with
  | none =>
    refine ⟨q, Nat.le_refl q, Nat.le_succ_of_le hq, ?_⟩
    rw [optB_none, List.append_nil, h0]; rwa [optB_none, List.nil_append] at hR
  | some a =>
    rw [optB_some, hf] at hR ⊢
    exact ⟨k + 1, Nat.le_succ_of_le hq, Nat.le_refl _, hR.ordElem hord hty (hv a rfl) hk hq hkn hF (hh a rfl)⟩

end LoopReach

end Ndn.C03
