/-
  C03/Reader.lean — models of std/encoding/readers.go: BufferReader and WireReader (seg/pos over a
  list of segments), as the sum type `Rd` (WireReader.Delegate returns either kind).

  Every ParseReader operation used by the generated parsers is modelled, branch by branch, with Go
  index panics as explicit `.panic` outcomes.  The model describes readers.go AFTER the two repairs
  of this property (Range: middle segments stored at `ret[i-startSeg]`, empty range returns an empty
  wire; ReadBuf: a zero-length read at the end of the wire returns an empty buffer) — the pinned
  behaviour is kept in corpus/C03 as replays.

  Convention (documented in design/C03.md): the position API presented to the parsers (`Rd.pos`,
  `Rd.length`, `Rd.range`) is relative to the logical start of the reader.  Go's shared-wire
  delegate (`&WireReader{wire: r.wire[0:seg+1], seg: startSeg, pos: startPos, …}`) works in the
  absolute coordinates of its parent; the ghost field `base` records that constant shift, the
  underlying operations (`WireR.absPos`, `WireR.rangeAbs`, …) stay in absolute coordinates exactly
  as coded.
-/
import NdnVerif.Base.Num
namespace Ndn.C03

/-- outcome of a model operation. `err` = the Go function returned a non-nil error (kinds are not
    observable in the property), `panic` = Go run-time panic, `alloc` = allocation sized by an
    untrusted length far beyond the input (F-04a class, property C04), `oom` = out of model
    (LpPacket; AdditionalDescription; a `ShrinkLength` that needs a longer length field; loop fuel used up). -/
inductive Res (α : Type) where
  | ok (a : α)
  | err
  | panic (msg : String)
  | alloc
  | oom
deriving Repr

@[inline] def Res.bind {α β : Type} (x : Res α) (f : α → Res β) : Res β :=
  match x with
  | .ok a => f a
  | .err => .err
  | .panic m => .panic m
  | .alloc => .alloc
  | .oom => .oom

instance : Monad Res where
  pure := Res.ok
  bind := Res.bind

@[simp] theorem Res.bind_ok {α β : Type} (a : α) (f : α → Res β) : (Res.ok a >>= f) = f a := rfl
@[simp] theorem Res.bind_err {α β : Type} (f : α → Res β) : ((Res.err : Res α) >>= f) = .err := rfl
@[simp] theorem Res.pure_eq {α : Type} (a : α) : (pure a : Res α) = .ok a := rfl

def Res.isOk {α : Type} : Res α → Bool
  | .ok _ => true
  | _ => false

/-! ### BufferReader -/

structure BufR where
  buf : Bytes
  pos : Nat
deriving Repr

namespace BufR

def rest (r : BufR) : Bytes := r.buf.drop r.pos

/-- `ReadByte` -/
def readByte (r : BufR) : Res (Nat × BufR) :=
  if r.pos ≥ r.buf.length then .err else .ok (r.buf.getD r.pos 0, { r with pos := r.pos + 1 })

/-- `ReadBuf(l)` -/
def readBuf (r : BufR) (l : Nat) : Res (Bytes × BufR) :=
  if r.pos + l > r.buf.length then .err
  else .ok ((r.buf.drop r.pos).take l, { r with pos := r.pos + l })

/-- `ReadWire(l)` (the result is compared after `Join`) -/
def readWire (r : BufR) (l : Nat) : Res (Bytes × BufR) :=
  if r.pos ≥ r.buf.length ∧ l > 0 then .err
  else if r.pos + l > r.buf.length then .err
  else .ok ((r.buf.drop r.pos).take l, { r with pos := r.pos + l })

/-- `io.ReadFull(reader, make([]byte, l))` / `io.CopyN(&builder, reader, l)` through `Read` -/
def readFull (r : BufR) (l : Nat) : Res (Bytes × BufR) :=
  if r.pos + l > r.buf.length then .err
  else .ok ((r.buf.drop r.pos).take l, { r with pos := r.pos + l })

/-- `Skip(n)` -/
def skip (r : BufR) (n : Nat) : Res BufR :=
  if r.pos + n > r.buf.length then .err else .ok { r with pos := r.pos + n }

/-- `Range(start, end)`; `nil` is the empty byte string after `Join` -/
def range (r : BufR) (s e : Nat) : Bytes :=
  if e > r.buf.length ∨ s > e then [] else (r.buf.drop s).take (e - s)

/-- `Delegate(l)`: the sub-reader and the advanced parent (not advanced when out of range) -/
def delegate (r : BufR) (l : Nat) : BufR × BufR :=
  if r.pos + l > r.buf.length then (⟨[], 0⟩, r)
  else (⟨(r.buf.drop r.pos).take l, 0⟩, { r with pos := r.pos + l })

end BufR

/-! ### WireReader -/

structure WireR where
  wire : List Bytes
  seg : Nat
  pos : Nat
  base : Nat     -- ghost: absolute offset of the logical start (never read by the operations)
deriving Repr

/-- `accSz[i]` -/
def accSz (w : List Bytes) (i : Nat) : Nat := ((w.take i).map List.length).sum

namespace WireR

def segAt (r : WireR) (i : Nat) : Bytes := r.wire.getD i []

/-- the `for r.seg < len(r.wire) && r.pos >= len(r.wire[r.seg]) { r.seg++; r.pos = 0 }` of `nextSeg` -/
def nextSegLoop : Nat → WireR → WireR
  | 0, r => r
  | fuel + 1, r =>
    if r.seg < r.wire.length ∧ r.pos ≥ (r.segAt r.seg).length then nextSegLoop fuel { r with seg := r.seg + 1, pos := 0 }
    else r

/-- `nextSeg()` -/
def nextSeg (r : WireR) : WireR × Bool :=
  let r' := nextSegLoop (r.wire.length + 1) r
  (r', r'.seg < r'.wire.length)

/-- `Pos()` (absolute) -/
def absPos (r : WireR) : Nat := r.pos + accSz r.wire r.seg

/-- `Length()` (absolute) -/
def absLength (r : WireR) : Nat := accSz r.wire r.wire.length

/-- `ReadByte` -/
def readByte (r : WireR) : Res (Nat × WireR) :=
  let (r, ok) := r.nextSeg
  if !ok then .err else .ok ((r.segAt r.seg).getD r.pos 0, { r with pos := r.pos + 1 })

/-- the copy loop shared by `ReadWire`, `ReadBuf` (multi-segment branch) and `Read`-based reads:
    gathers `l` bytes starting at (seg,pos); `none` = ran off the wire (io.ErrUnexpectedEOF) -/
def gather : Nat → WireR → Nat → Bytes → Option (Bytes × WireR)
  | _, r, 0, acc => some (acc, r)
  | 0, _, _ + 1, _ => none
  | fuel + 1, r, l + 1, acc =>
    if r.seg ≥ r.wire.length then none
    else
      let s := r.segAt r.seg
      if r.pos + (l + 1) > s.length then
        gather fuel { r with seg := r.seg + 1, pos := 0 } (l + 1 - (s.length - r.pos)) (acc ++ s.drop r.pos)
      else some (acc ++ (s.drop r.pos).take (l + 1), { r with pos := r.pos + (l + 1) })

/-- `ReadWire(l)` -/
def readWire (r : WireR) (l : Nat) : Res (Bytes × WireR) :=
  let (r, ok) := r.nextSeg
  if !ok ∧ l > 0 then .err
  else if l > r.absLength - r.absPos then .err
  else match gather (r.wire.length + 1) r l [] with
    | some x => .ok x
    | none => .err

/-- `ReadBuf(l)` (after the repairs: length guard first; `l == 0` at the end of the wire gives an
    empty buffer) -/
def readBuf (r : WireR) (l : Nat) : Res (Bytes × WireR) :=
  if l > r.absLength - r.absPos then .err else
  let (r, ok) := r.nextSeg
  if !ok then (if l > 0 then .err else .ok ([], r))
  else
    let s := r.segAt r.seg
    if r.pos + l ≤ s.length then .ok ((s.drop r.pos).take l, { r with pos := r.pos + l })
    else match gather (r.wire.length + 1) r l [] with
      | some x => .ok x
      | none => .err

/-- `io.ReadFull` / `io.CopyN` over `Read`: each `Read` copies from the current segment only -/
def readFull (r : WireR) (l : Nat) : Res (Bytes × WireR) :=
  if l = 0 then .ok ([], r)
  else
    let (r, ok) := r.nextSeg
    if !ok then .err
    else match gather (r.wire.length + 1) r l [] with
      | some x => .ok x
      | none => .err

/-- the `for r.pos > len(r.wire[r.seg])` loop of `Delegate` (unguarded index) -/
def advance : Nat → WireR → Res WireR
  | 0, _ => .err
  | fuel + 1, r =>
    if r.seg ≥ r.wire.length then .panic "index out of range (WireReader.Delegate)"
    else if r.pos > (r.segAt r.seg).length then
      let r' := { r with pos := r.pos - (r.segAt r.seg).length, seg := r.seg + 1 }
      if r'.seg ≥ r'.wire.length then .err else advance fuel r'
    else .ok r

/-- the `for r.seg < len(r.wire) && r.pos > len(r.wire[r.seg])` loop of `Skip` -/
def skipLoop : Nat → WireR → Res WireR
  | 0, _ => .err
  | fuel + 1, r =>
    if r.seg < r.wire.length ∧ r.pos > (r.segAt r.seg).length then
      let r' := { r with pos := r.pos - (r.segAt r.seg).length, seg := r.seg + 1 }
      if r'.seg ≥ r'.wire.length then .err else skipLoop fuel r'
    else .ok r

/-- `Skip(n)` -/
def skip (r : WireR) (n : Nat) : Res WireR :=
  if n > r.absLength - r.absPos then .err
  else skipLoop (r.wire.length + 1) { r with pos := r.pos + n }

/-- the scan of `Range` for the start: the last `i` with `accSz[i] ≤ start < accSz[i+1]` -/
def findStart (w : List Bytes) (start : Nat) : Nat × Nat :=
  (List.range w.length).foldl (fun acc i =>
    if accSz w i ≤ start ∧ accSz w (i + 1) > start then (i, start - accSz w i) else acc) (0, 0)

/-- the scan of `Range` for the end: the last `i` with `accSz[i] < end ≤ accSz[i+1]` -/
def findEnd (w : List Bytes) (e : Nat) : Nat × Nat :=
  (List.range w.length).foldl (fun acc i =>
    if accSz w i < e ∧ accSz w (i + 1) ≥ e then (i, e - accSz w i) else acc) (0, 0)

/-- `Range(start, end)` in absolute coordinates (after the repair), joined -/
def rangeAbs (r : WireR) (s e : Nat) : Bytes :=
  if e > r.absLength ∨ s > e then []
  else if s = e then []
  else
    let (ss, sp) := findStart r.wire s
    let (es, ep) := findEnd r.wire e
    if ss = es then ((r.segAt ss).drop sp).take (ep - sp)
    else (r.segAt ss).drop sp ++ (((r.wire.drop (ss + 1)).take (es - ss - 1)).flatten) ++ (r.segAt es).take ep

end WireR

/-! ### the reader handed to a parser -/

inductive Rd where
  | buf (b : BufR)
  | wire (w : WireR)
deriving Repr

namespace WireR

/-- `Delegate(l)` -/
def delegate (r : WireR) (l : Nat) : Res (Rd × WireR) :=
  if r.seg ≥ r.wire.length ∨ l > r.absLength - r.absPos then .ok (.buf ⟨[], 0⟩, r)
  else
    let s := r.segAt r.seg
    if r.pos + l ≤ s.length then
      .ok (.buf ⟨(s.drop r.pos).take l, 0⟩, { r with pos := r.pos + l })
    else
      let startSeg := r.seg
      let startPos := r.pos
      -- the advance loop, returning an empty BufferReader when it runs off the wire
      match advance (r.wire.length + 1) { r with pos := r.pos + l } with
      | .err =>
        -- Go leaves the parent at seg = len(wire); only Pos() ≥ Length() is observable afterwards
        .ok (.buf ⟨[], 0⟩, { r with seg := r.wire.length, pos := 0 })
      | .ok r' =>
        if r'.pos = (r'.segAt r'.seg).length then
          .ok (.wire { wire := r'.wire.take (r'.seg + 1), seg := startSeg, pos := startPos,
                       base := startPos + accSz r.wire startSeg }, r')
        else
          let nw := (r'.wire.drop startSeg).take (r'.seg + 1 - startSeg)
          let nw := match nw with
            | [] => []
            | h :: t => h.drop startPos :: t
          let nw := nw.take (nw.length - 1) ++ [(nw.getD (nw.length - 1) []).take r'.pos]
          .ok (.wire { wire := nw, seg := 0, pos := 0, base := 0 }, r')
      | .panic m => .panic m
      | .alloc => .alloc
      | .oom => .oom

end WireR

def newWireReader (w : List Bytes) : Rd := .wire { wire := w, seg := 0, pos := 0, base := 0 }
def newBufferReader (b : Bytes) : Rd := .buf ⟨b, 0⟩

namespace Rd

def pos : Rd → Nat
  | .buf b => b.pos
  | .wire w => w.absPos - w.base

def length : Rd → Nat
  | .buf b => b.buf.length
  | .wire w => w.absLength - w.base

def readByte : Rd → Res (Nat × Rd)
  | .buf b => do let (x, b) ← b.readByte; pure (x, .buf b)
  | .wire w => do let (x, w) ← w.readByte; pure (x, .wire w)

def readBuf : Rd → Nat → Res (Bytes × Rd)
  | .buf b, l => do let (x, b) ← b.readBuf l; pure (x, .buf b)
  | .wire w, l => do let (x, w) ← w.readBuf l; pure (x, .wire w)

def readWire : Rd → Nat → Res (Bytes × Rd)
  | .buf b, l => do let (x, b) ← b.readWire l; pure (x, .buf b)
  | .wire w, l => do let (x, w) ← w.readWire l; pure (x, .wire w)

def readFull : Rd → Nat → Res (Bytes × Rd)
  | .buf b, l => do let (x, b) ← b.readFull l; pure (x, .buf b)
  | .wire w, l => do let (x, w) ← w.readFull l; pure (x, .wire w)

def skip : Rd → Nat → Res Rd
  | .buf b, n => do let b ← b.skip n; pure (.buf b)
  | .wire w, n => do let w ← w.skip n; pure (.wire w)

def range : Rd → Nat → Nat → Bytes
  | .buf b, s, e => b.range s e
  | .wire w, s, e => w.rangeAbs (s + w.base) (e + w.base)

/-- `Delegate(l)`: (sub-reader, advanced parent) -/
def delegate : Rd → Nat → Res (Rd × Rd)
  | .buf b, l => let (s, b) := b.delegate l; .ok (.buf s, .buf b)
  | .wire w, l => do let (s, w) ← w.delegate l; pure (s, .wire w)

/-- the bytes still to be read (abstraction function of the refinement) -/
def rest : Rd → Bytes
  | .buf b => b.rest
  | .wire w => (w.wire.flatten).drop w.absPos

end Rd

end Ndn.C03
