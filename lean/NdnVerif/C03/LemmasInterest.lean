/-
  C03/LemmasInterest.lean — decoding the bytes produced by the Interest encoder model returns what was
  encoded, on the contiguous reader `Z [] buf` (Props.lean lifts the result to every healthy reader): Links
  (ForwardingHint), the ordered-model loop, the Name element (`el_name`), the head elements behind it walked like the
  sub-structures of LemmasData.lean (`head_rest_reach`), the part behind the offset markers from any loop state
  (`tail_Z`: C12 continues there behind an altered Name), `parseInterest` on the normal form of the Interest value,
  `readInterest`.
-/
import NdnVerif.C03.LemmasData
namespace Ndn.C03

namespace Res
theorem bind_assoc {α β γ : Type} (x : Res α) (f : α → Res β) (g : β → Res γ) :
    ((x >>= f) >>= g) = (x >>= fun a => f a >>= g) := by
  cases x <;> rfl
end Res

theorem optB_none_int {α : Type} (f : α → Bytes) : optB (none : Option α) f = [] := rfl

theorem interestBody_eq (s : InterestSt × Nat) (typ l sp : Nat) (r : Rd) :
    interestBody s typ l sp r = ordLoop 15 interestIdx interestHandle interestAbsent typ l sp 17 s.2 s.1 r := rfl

theorem interestBody_hit (typ l sp k q : Nat) (st : InterestSt) (r : Rd) (hk : interestIdx typ = some k)
    (hq : q ≤ k) (hk15 : k ≤ 15) :
    interestBody (st, q) typ l sp r
      = (interestHandle k (absFold interestAbsent sp r (k - q) q st) l sp r >>= fun x => pure ((x.1, k + 1), x.2)) :=
  ordLoop_hit 15 interestIdx interestHandle interestAbsent typ l sp k hk hk15 (k - q) 17 q st r
    (by omega) (by omega)

theorem interestAbsent_id (q : Nat) (st : InterestSt) (sp : Nat) (r : Rd) (h : q < 9 ∨ (10 < q ∧ q < 14)) :
    interestAbsent q st sp r = st := by
  unfold interestAbsent
  rw [if_neg (by omega), if_neg (by omega), if_neg (by omega)]

theorem absFold_head (sp : Nat) (r : Rd) : ∀ (c q : Nat) (st : InterestSt), q + c ≤ 9 →
    absFold interestAbsent sp r c q st = st :=
  fun c q st h => absFold_id interestAbsent sp r 0 9 (fun q st _ h => interestAbsent_id q st sp r (Or.inl h))
    c q st (Nat.zero_le q) h

theorem absFold_head_le (sp : Nat) (r : Rd) {q k : Nat} (st : InterestSt) (hq : q ≤ k) (hk : k ≤ 9) :
    absFold interestAbsent sp r (k - q) q st = st :=
  absFold_head sp r (k - q) q st (Nat.le_trans (Nat.le_of_eq (Nat.add_sub_of_le hq)) hk)

theorem absFold_split {σ : Type} (absent : Nat → σ → Nat → Rd → σ) (sp : Nat) (r : Rd) {q m k : Nat} (st : σ)
    (hqm : q ≤ m) (hmk : m ≤ k) :
    absFold absent sp r (k - q) q st = absFold absent sp r (k - m) m (absFold absent sp r (m - q) q st) := by
  rw [← Nat.sub_add_sub_cancel hmk hqm, Nat.add_comm, absFold_add, Nat.add_sub_of_le hqm]

/-- the first element after the offset markers (slot 11, 12 or 13) coming from the head part -/
theorem absFold_markers (sp : Nat) (r : Rd) (q k : Nat) (st : InterestSt) (hq : q ≤ 9) (hk : 11 ≤ k) (hk2 : k ≤ 13) :
    absFold interestAbsent sp r (k - q) q st = { st with sigCoverStart := sp, digestCoverStart := sp } := by
  rw [absFold_split _ _ _ st (Nat.le_trans hq (by decide)) hk, absFold_split _ _ _ st hq (by decide : 9 ≤ 11),
    absFold_head_le sp r st hq (Nat.le_refl 9)]
  exact absFold_id interestAbsent sp r 11 14 (fun q st h1 h2 => interestAbsent_id q st sp r (Or.inr ⟨h1, h2⟩))
    (k - 11) 11 _ (Nat.le_refl _) (Nat.le_trans (Nat.le_of_eq (Nat.add_sub_of_le hk)) (Nat.le_succ_of_le hk2))

theorem absFold_v (sp : Nat) (r : Rd) : ∀ (c q : Nat) (st : InterestSt),
    (absFold interestAbsent sp r c q st).v = st.v := by
  intro c
  induction c with
  | zero => intro q st; rfl
  | succ c ih =>
    intro q st
    rw [absFold, ih]; unfold interestAbsent
    repeat' split
    all_goals rfl

theorem parseLinks_Z (E : EncSpecs) (ns : List Name) (hv : ∀ n ∈ ns, NameValid n) (hl : (encLinks ns).length < 2 ^ 62) :
    parseLinks (Z [] (encLinks ns)) = .ok ns := by
  have key : ∀ (ms acc : List Name) (pre : Bytes),
      LoopReach linksBody [] (Z [] (encLinks ns)) acc (Z pre (encLinks ms)) → (∀ n ∈ ms, NameValid n) →
      (encLinks ms).length < 2 ^ 62 → ∃ P, LoopReach linksBody [] (Z [] (encLinks ns)) (acc ++ ms) (Z P []) := by
    intro ms
    induction ms with
    | nil => intro acc pre hR _ _; exact ⟨pre, by rw [List.append_nil]; exact hR⟩
    | cons n ms ih =>
      intro acc pre hR hvm hlm
      have hb : encLinks (n :: ms) = encTV (7, encNameInner n) ++ encLinks ms := by rw [← encNameField_eq E 7]; rfl
      rw [hb] at hR hlm
      have hn := elemVal_lt hlm
      have R1 := hR.elem (st' := acc ++ [n]) (by decide) hn (fun P _ => bind_eq_of_ok
        (Z_readNameField P _ n (E.nameLen_eq n) (hvm n (List.mem_cons_self ..)) (E.nameLen_eq n ▸ hn)) _)
      obtain ⟨P, R2⟩ := ih (acc ++ [n]) _ R1 (fun m hm => hvm m (List.mem_cons_of_mem _ hm)) (tail_lt hlm)
      exact ⟨P, by rw [List.append_cons]; exact R2⟩
  obtain ⟨P, R⟩ := key ns [] [] (LoopReach.refl _ _ _) hv hl
  exact bind_eq_of_ok R.finish _

def Reach (s : InterestSt × Nat) (r : Rd) (s' : InterestSt × Nat) (r' : Rd) : Prop :=
  LoopReach interestBody s r s' r'

section
variable {s0 : InterestSt × Nat} {r0 : Rd} {st : InterestSt} {q : Nat} {pre rest : Bytes}

theorem el_name (E : EncSpecs) (fn : Name) (hR : Reach s0 r0 (st, q) (Z pre (encNameField 7 fn ++ rest)))
    (hv : NameValid fn) (hlen : nameLen fn < 2 ^ 62) (hq : q ≤ 2) :
    ∃ X, (∀ base v, fn = base ++ [⟨2, v⟩] → X = encNameInner base) ∧
      Reach s0 r0 ({ st with v := { st.v with name := some fn }, sigCovered := st.sigCovered ++ X }, 3)
        (Z (pre ++ encNameField 7 fn) rest) := by
  rw [encNameField_eq E 7] at hR ⊢
  obtain ⟨P, hP⟩ : ∃ P, P = pre ++ (encTL 7 ++ encTL (encNameInner fn).length) := ⟨_, rfl⟩
  refine ⟨(Z (P ++ encNameInner fn) rest).range P.length (sigEndAux P.length fn (P.length + nameLen fn)), ?_,
    hR.ordElem interestBody_eq (by decide) (E.nameLen_eq fn ▸ hlen) (show interestIdx 7 = some 2 from rfl) hq
      (by decide) (by decide) (fun P' hP' => ?_)⟩
  · intro base v hfn
    subst hfn
    rw [sigEndAux_snoc, if_pos rfl, ← E.nameLen_eq base, ← List.length_append,
      Z_range (P ++ encNameInner base) (encNameInner [⟨2, v⟩] ++ rest) _
        (by simp only [encNameInner_append, List.append_assoc]), List.drop_left]
  · rw [absFold_head_le _ _ _ hq (by decide), hP', ← hP]
    simp only [interestHandle, ↓reduceIte, Z_pos, Z_readNameField P rest fn (E.nameLen_eq fn) hv hlen, Res.bind_ok,
      Res.pure_eq]

/-- CanBePrefix (slot 3) and MustBeFresh (slot 4): the (empty) value is not skipped -/
theorem el_bool (ty k : Nat) (b : Bool) (set : Bool → InterestSt) (hR : Reach s0 r0 (st, q) (Z pre (boolField ty b ++ rest)))
    (hk : interestIdx ty = some k) (hty : ty < 2 ^ 64) (hk9 : k ≤ 9) (h0 : set false = st)
    (hh : ∀ sp r2, interestHandle k st 0 sp r2 = .ok (set true, r2)) (hq : q ≤ k) :
    ∃ q', q' ≤ k + 1 ∧ Reach s0 r0 (set b, q') (Z (pre ++ boolField ty b) rest) := by
  cases b with
  | false =>
    have e : boolField ty false = [] := rfl
    rw [e, List.nil_append] at hR
    exact ⟨q, Nat.le_succ_of_le hq, by rw [e, List.append_nil, h0]; exact hR⟩
  | true =>
    rw [boolField_true] at hR ⊢
    exact ⟨k + 1, Nat.le_refl _, hR.ordElem interestBody_eq hty (by decide) hk hq (Nat.le_trans hk9 (by decide))
      (Nat.lt_of_le_of_lt hk9 (by decide)) (fun P _ => by
        rw [absFold_head_le _ _ _ hq hk9, List.append_nil]; exact hh _ _)⟩

end

/-- what the decoder proof needs to know about the encoded Interest (all consequences of
    `InterestIn.Valid` and of the normal form of `makeInterest`) -/
structure InterestReady (i : InterestIn) (fn : Name) (sv : Bytes) : Prop where
  nameValid : NameValid fn
  nameLen : nameLen fn < 2 ^ 62
  fhValid : ∀ ns, i.fh = some ns → ∀ n ∈ ns, NameValid n
  fhLen : ∀ ns, i.fh = some ns → linksLen ns < 2 ^ 62
  nonce : ∀ x, i.nonce = some x → x < 2 ^ 32
  lt : ∀ x, i.lt = some x → x < 2 ^ 64
  hl : ∀ x, i.hl = some x → x < 256
  apLen : ∀ c, i.ap = some c → contentLen c < 2 ^ 62
  siValid : ∀ s, i.si = some s → SigInfoValid s
  siLen : ∀ s, i.si = some s → sigInfoLen s < 2 ^ 62
  svLen : sv.length < 2 ^ 62
  est : i.est > 0 → i.ap.isSome
  digest : i.ap.isSome → ∃ v, fn = stripDigest i.name ++ [⟨2, v⟩]

theorem absFold_tail (sp : Nat) (r : Rd) (c q : Nat) (st : InterestSt) (h1 : 11 ≤ q) (h2 : q + c ≤ 14) :
    absFold interestAbsent sp r c q st = st :=
  absFold_id interestAbsent sp r 11 14 (fun q st h1 h2 => interestAbsent_id q st sp r (Or.inr ⟨by omega, h2⟩))
    c q st h1 h2

/-- the absent-actions at the end when ApplicationParameters were seen: the range marker (slot 14) -/
theorem finish_tail (r : Rd) (q : Nat) (st : InterestSt) (h1 : 12 ≤ q) (h2 : q ≤ 14) :
    ordFinish interestAbsent r (15 - q) q st = { st with digestCovered := r.range st.digestCoverStart r.pos } := by
  rw [ordFinish_eq, absFold_split _ _ _ st h2 (by decide : 14 ≤ 15),
    absFold_tail r.pos r (14 - q) q st (Nat.le_trans (by decide) h1) (Nat.le_of_eq (Nat.add_sub_of_le h2))]
  rfl

/-- the part after the offset markers: ApplicationParameters, SignatureInfo, SignatureValue, and the
    absent-actions at the end; from any loop state from which the start of that part is reached -/
theorem tail_Z (E : EncSpecs) (i : InterestIn) (fn : Name) (sv : Bytes) (hr : InterestReady i fn sv)
    {s0 : InterestSt × Nat} {r0 : Rd} {P7 : Bytes} {q7 : Nat} {X : Bytes} {v7 : InterestP} (hq7 : q7 ≤ 9)
    (RH : Reach s0 r0 (({ v := v7, sigCovered := X } : InterestSt), q7) (Z P7 (interestParamsPortion i sv)))
    (hap : v7.ap = none) (hsi : v7.si = none) (hsv : v7.sv = none) :
    ∃ fs, (∀ fuel, r0.length - r0.pos < fuel → (tlvLoop interestBody fuel s0 r0 >>= ordEnd interestAbsent 15) = .ok fs)
      ∧ fs.v = { v7 with ap := i.ap.map List.flatten, si := i.si, sv := if i.est > 0 then some sv else none }
      ∧ (i.ap.isSome → fs.digestCovered = interestParamsPortion i sv)
      ∧ (i.est > 0 → fs.sigCovered = X ++ (optB i.ap (fun c => encTL 36 ++ encTL (contentLen c) ++ c.flatten)
            ++ optB i.si (fun s => encTL 44 ++ encTL (sigInfoLen s) ++ encSigInfo s))) := by
  obtain ⟨nm, cbp, mbf, fh, nonce, lt, hl, ap, si, sv'⟩ := v7
  cases hap; cases hsi; cases hsv
  have hsiv : ∀ s, i.si = some s → (encSigInfo s).length < 2 ^ 62 := fun s hs => E.sigInfoLen_eq s ▸ hr.siLen s hs
  have hd7 : interestParamsPortion i sv = optB i.ap (fun c => encTL 36 ++ encTL (contentLen c) ++ c.flatten)
      ++ (optB i.si (fun s => encTL 44 ++ encTL (sigInfoLen s) ++ encSigInfo s)
      ++ (optB (if i.est > 0 then some sv else none) (fun sv => encTL 46 ++ encTL sv.length ++ sv) ++ [])) := by
    rw [interestParamsPortion, optB_ite, List.append_nil, List.append_assoc]
  rw [hd7] at RH ⊢
  cases hiap : i.ap with
  | none =>
    -- no parameters, hence unsigned: SignatureInfo (slot 12) arrives from the head part
    have hest : ¬ i.est > 0 := fun h => by have := hr.est h; rw [hiap] at this; cases this
    rw [hiap, optB_none, List.nil_append, if_neg hest, optB_none, List.nil_append] at RH
    obtain ⟨q8, _, hq8, R8⟩ := LoopReach.ordOptElem interestBody_eq RH
      (fun o => match o with
        | none => ({ v := ⟨nm, cbp, mbf, fh, nonce, lt, hl, none, none, none⟩, sigCovered := X } : InterestSt)
        | some s => { v := ⟨nm, cbp, mbf, fh, nonce, lt, hl, none, some s, none⟩, sigCovered := X,
                      sigCoverStart := P7.length, digestCoverStart := P7.length })
      (fun s => tlv_eq (E.sigInfoLen_eq s)) (by decide) hsiv rfl
      (show interestIdx 44 = some 12 from rfl) (Nat.le_trans hq7 (by decide)) (by decide) (by decide) (fun s hs P _ => by
        rw [absFold_markers P7.length _ q7 12 _ hq7 (by decide) (by decide)]
        exact (bind_eq_of_ok (Z_delegate P _ _) _).trans
          (bind_eq_of_ok (parseSigInfo_Z E s (hr.siValid s hs) (hsiv s hs)) _))
    refine ⟨ordFinish interestAbsent _ (15 - q8) q8 _, fun fuel hf => bind_eq_of_ok (R8.finish' fuel hf) _, ?_,
      (fun h => by cases h), fun h => absurd h hest⟩
    rw [ordFinish_eq, absFold_v, if_neg hest]
    cases i.si <;> rfl
  | some c =>
    rw [hiap] at RH
    rw [optB_some, tlv_eq (contentLen_eq c).symm] at RH ⊢
    -- ApplicationParameters (slot 11) arriving from the head part: both offset markers are set here
    have R8 := RH.ordElem interestBody_eq
      (st' := { v := ⟨nm, cbp, mbf, fh, nonce, lt, hl, some c.flatten, none, none⟩, sigCovered := X,
                sigCoverStart := P7.length, digestCoverStart := P7.length })
      (by decide) (by rw [← contentLen_eq]; exact hr.apLen c hiap)
      (show interestIdx 36 = some 11 from rfl) (Nat.le_trans hq7 (by decide)) (by decide) (by decide) (fun P _ => by
        rw [absFold_markers P7.length _ q7 11 _ hq7 (by decide) (by decide)]
        exact bind_eq_of_ok (Z_readWire P _ _) _)
    obtain ⟨q9, hq9, hq9', R9⟩ := LoopReach.ordOptElem interestBody_eq R8
      (fun o => ({ v := ⟨nm, cbp, mbf, fh, nonce, lt, hl, some c.flatten, o, none⟩, sigCovered := X,
                   sigCoverStart := P7.length, digestCoverStart := P7.length } : InterestSt))
      (fun s => tlv_eq (E.sigInfoLen_eq s)) (by decide) hsiv rfl
      (show interestIdx 44 = some 12 from rfl) (Nat.le_refl _) (by decide) (by decide) (fun s hs P _ =>
        (bind_eq_of_ok (Z_delegate P _ _) _).trans (bind_eq_of_ok (parseSigInfo_Z E s (hr.siValid s hs) (hsiv s hs)) _))
    -- SignatureValue (slot 13): the signed range ends at the start of this element
    obtain ⟨q10, hq10, hq10', R10⟩ := LoopReach.ordOptElem interestBody_eq R9
      (fun o => match o with
        | none => ({ v := ⟨nm, cbp, mbf, fh, nonce, lt, hl, some c.flatten, i.si, none⟩, sigCovered := X,
                     sigCoverStart := P7.length, digestCoverStart := P7.length } : InterestSt)
        | some v => { v := ⟨nm, cbp, mbf, fh, nonce, lt, hl, some c.flatten, i.si, some v⟩,
                      sigCovered := X ++ (encTV (36, c.flatten)
                        ++ optB i.si (fun s => encTL 44 ++ encTL (sigInfoLen s) ++ encSigInfo s)),
                      sigCoverStart := P7.length, digestCoverStart := P7.length })
      (fun _ => rfl) (by decide) (fun v hv => by split at hv <;> cases hv; exact hr.svLen) rfl
      (show interestIdx 46 = some 13 from rfl) hq9' (by decide) (by decide) (fun v _ P hP => by
        rw [absFold_tail _ _ _ _ _ (Nat.le_trans (by decide) hq9)
          (Nat.le_trans (Nat.le_of_eq (Nat.add_sub_of_le hq9')) (by decide))]
        refine (bind_eq_of_ok (Z_readWire P v _) _).trans ?_
        show Res.ok (_, _) = _
        rw [Z_range _ (encTL 46 ++ encTL v.length ++ v) _ (by rw [hP, List.append_nil, List.append_assoc])]
        simp only [List.append_assoc, List.drop_left])
    refine ⟨ordFinish interestAbsent _ (15 - q10) q10 _, fun fuel hf => bind_eq_of_ok (R10.finish' fuel hf) _, ?_⟩
    rw [finish_tail _ q10 _ (Nat.le_trans (by decide) (Nat.le_trans hq9 hq10)) hq10', Z_pos, Z_range _ [] _ rfl]
    have hdg : ∀ a b c' : Bytes, (P7 ++ a ++ b ++ c').drop P7.length = a ++ (b ++ (c' ++ [])) := fun a b c' => by
      rw [List.append_assoc, List.append_assoc, List.drop_left, List.append_nil]
    by_cases hest : i.est > 0
    · rw [if_pos hest]; exact ⟨rfl, fun _ => hdg _ _ _, fun _ => rfl⟩
    · rw [if_neg hest]; exact ⟨rfl, fun _ => hdg _ _ _, fun h => absurd h hest⟩

/-- the head elements after the Name (CanBePrefix … HopLimit) of a built Interest, decoded on any
    buffer that carries those bytes after a Name element that decoded to some name `n'` -/
theorem head_rest_reach (E : EncSpecs) (i : InterestIn) (fn : Name) (sv : Bytes) (hr : InterestReady i fn sv)
    {s0 : InterestSt × Nat} {r0 : Rd} {pre rest : Bytes} {n' : Name} {X : Bytes}
    (R1 : Reach s0 r0 (({ v := { name := some n' }, sigCovered := X } : InterestSt), 3) (Z pre (headRest i rest))) :
    ∃ q7 P7, q7 ≤ 9 ∧ P7 ++ rest = pre ++ headRest i rest
      ∧ Reach s0 r0
          (({ v := { name := some n', cbp := i.cbp, mbf := i.mbf, fh := i.fh, nonce := i.nonce, lt := i.lt, hl := i.hl },
              sigCovered := X } : InterestSt), q7) (Z P7 rest) := by
  rw [headRest] at R1 ⊢
  obtain ⟨q2, hq2, R2⟩ := el_bool 33 3 i.cbp
    (fun b => ({ v := { name := some n', cbp := b }, sigCovered := X } : InterestSt)) R1
    rfl (by decide) (by decide) rfl (fun _ _ => rfl) (by decide)
  obtain ⟨q3, hq3, R3⟩ := el_bool 18 4 i.mbf
    (fun b => ({ v := { name := some n', cbp := i.cbp, mbf := b }, sigCovered := X } : InterestSt)) R2
    rfl (by decide) (by decide) rfl (fun _ _ => rfl) hq2
  have hfl : ∀ ns, i.fh = some ns → (encLinks ns).length < 2 ^ 62 := fun ns hns => E.linksLen_eq ns ▸ hr.fhLen ns hns
  obtain ⟨q4, _, hq4, R4⟩ := R3.ordOptElem interestBody_eq
    (fun o => ({ v := { name := some n', cbp := i.cbp, mbf := i.mbf, fh := o }, sigCovered := X } : InterestSt))
    (fun ns => tlv_eq (E.linksLen_eq ns)) (by decide) hfl rfl
    (show interestIdx 30 = some 5 from rfl) hq3 (by decide) (by decide) (fun ns hns P _ => by
      rw [absFold_head_le _ _ _ hq3 (by decide)]
      exact (bind_eq_of_ok (Z_delegate P _ _) _).trans (bind_eq_of_ok (parseLinks_Z E ns (hr.fhValid ns hns) (hfl ns hns)) _))
  obtain ⟨q5, _, hq5, R5⟩ := R4.ordOptElem interestBody_eq
    (fun o => ({ v := { name := some n', cbp := i.cbp, mbf := i.mbf, fh := i.fh, nonce := o }, sigCovered := X } : InterestSt))
    encNonce_eq (by decide) (fun x _ => by rw [be_length]; decide) rfl
    (show interestIdx 10 = some 6 from rfl) hq4 (by decide) (by decide) (fun x hx P _ => by
      have e := Z_readNat P (optB i.lt (encNatField 12) ++ (optB i.hl encHopLimit ++ rest)) 4 x 32
        (Nat.lt_of_lt_of_le (hr.nonce x hx) (by decide)) (by decide)
      rw [Nat.mod_eq_of_lt (hr.nonce x hx)] at e
      rw [absFold_head_le _ _ _ hq4 (by decide), be_length]
      exact bind_eq_of_ok e _)
  obtain ⟨q6, _, hq6, R6⟩ := R5.ordOptElem interestBody_eq
    (fun o => ({ v := { name := some n', cbp := i.cbp, mbf := i.mbf, fh := i.fh, nonce := i.nonce, lt := o },
                 sigCovered := X } : InterestSt))
    (encNatField_eq 12) (by decide) (fun x _ => natVal_lt x) rfl
    (show interestIdx 12 = some 7 from rfl) hq5 (by decide) (by decide) (fun x hx P _ => by
      rw [absFold_head_le _ _ _ hq5 (by decide)]
      exact bind_eq_of_ok (Z_readNatural P _ x (hr.lt x hx)) _)
  -- HopLimit (slot 8): `Skip(1)` then `Range(Pos()-1, Pos())[0][0]`
  obtain ⟨q7, _, hq7, R7⟩ := R6.ordOptElem interestBody_eq
    (fun o => ({ v := { name := some n', cbp := i.cbp, mbf := i.mbf, fh := i.fh, nonce := i.nonce, lt := i.lt, hl := o },
                 sigCovered := X } : InterestSt))
    encHopLimit_eq (by decide) (fun x _ => by rw [List.length_singleton]; decide) rfl
    (show interestIdx 34 = some 8 from rfl) hq6 (by decide) (by decide) (fun x hx P _ => by
      have e := Z_skip P [x] rest
      have hr' : (Z (P ++ [x]) rest).range ((Z (P ++ [x]) rest).pos - 1) (Z (P ++ [x]) rest).pos = [x] := by
        rw [Z_pos, Z_range (P ++ [x]) rest _ rfl, List.length_append, List.length_singleton, Nat.add_sub_cancel,
          List.drop_left]
      rw [List.length_singleton] at e
      rw [absFold_head_le _ _ _ hq6 (by decide), Nat.mod_eq_of_lt (hr.hl x hx)]
      simp only [interestHandle, Nat.reduceEqDiff, ↓reduceIte, e, hr', Res.pure_eq])
  exact ⟨q7, _, hq7, by simp only [List.append_assoc], R7⟩

theorem parseInterest_Z (E : EncSpecs) (i : InterestIn) (fn : Name) (sv : Bytes) (hr : InterestReady i fn sv) :
    ∃ fs, parseInterest {} (Z [] (interestValue i fn sv)) = .ok fs ∧ fs.v = interestExpect i fn sv
      ∧ (i.ap.isSome → fs.digestCovered = interestParamsPortion i sv)
      ∧ (i.est > 0 → fs.sigCovered = interestCovered i) := by
  obtain ⟨X, hX, R1⟩ := el_name E fn
    (LoopReach.start interestBody (({} : InterestSt), 0) (interestHead_append i fn (interestParamsPortion i sv)))
    hr.nameValid hr.nameLen (Nat.zero_le 2)
  obtain ⟨q7, P7, hq7, _, RH⟩ := head_rest_reach E i fn sv hr R1
  obtain ⟨fs, e, hv, hd, hc⟩ := tail_Z E i fn sv hr hq7 RH rfl rfl rfl
  refine ⟨fs, e _ (Nat.lt_succ_self _), hv, hd, fun hest => ?_⟩
  obtain ⟨v, hfn⟩ := hr.digest (hr.est hest)
  rw [hc hest, hX _ v hfn, interestCovered]
  exact (List.append_assoc ..).symm

theorem interestReady_of_int (E : EncSpecs) (i : InterestIn) (sign H : Bytes → Bytes) (e : Encoded) (fn : Name)
    (hv : i.Valid) (hH : ∀ x, (H x).length = 32) (hm : makeInterest i sign H = .ok (e, fn)) :
    InterestReady i fn e.sigVal ∧ (interestValue i fn e.sigVal).length < 2 ^ 62 := by
  obtain ⟨hfn, _, hsig, hnosig⟩ := E.makeInterest_flatten i sign H e fn hv hH hm
  have hL := interestValue_lt E i sign H e fn hv hH hm
  obtain ⟨hnv, hfh, hnonce, hlt, hhl, hsi, hest, _⟩ := hv
  -- every value is shorter than the Interest value that holds it
  have h1 := hL
  rw [interestValue, interestHead_append, encNameField_eq E 7, headRest] at h1
  have h5 := tail_lt (tail_lt (tail_lt h1))
  have h11 := tail_lt (tail_lt (tail_lt (tail_lt h5)))
  rw [interestParamsPortion, List.append_assoc] at h11
  refine ⟨⟨hfn ▸ nameValid_final i H e.sigVal hnv, E.nameLen_eq fn ▸ elemVal_lt h1, hfh, ?_, hnonce, hlt, hhl, ?_, hsi, ?_,
    ?_, hest, ?_⟩, hL⟩
  · exact fun ns hns => E.linksLen_eq ns ▸ optVal_lt (fun ns => tlv_eq (E.linksLen_eq ns)) h5 ns hns
  · exact fun c hc => contentLen_eq c ▸ optVal_lt (fun c => tlv_eq (contentLen_eq c).symm) h11 c hc
  · exact fun s hs => E.sigInfoLen_eq s ▸ optVal_lt (fun s => tlv_eq (E.sigInfoLen_eq s)) (tail_lt h11) s hs
  · have h13 := tail_lt (tail_lt h11)
    rcases Nat.eq_zero_or_pos i.est with h0 | h0
    · rw [(hnosig h0).2]; exact Nat.pow_pos (by decide)
    · rw [if_pos h0, ← List.append_nil (_ ++ e.sigVal)] at h13
      exact elemVal_lt (tv := (46, e.sigVal)) h13
  · intro hap
    exact ⟨H (interestParamsPortion i e.sigVal), by rw [hfn, interestFinalName, if_pos hap]; rfl⟩

theorem checkInterest_ok (i : InterestIn) (H : Bytes → Bytes) (fn : Name) (sv : Bytes) (fs : InterestSt)
    (hest : i.est > 0 → i.ap.isSome) (hnt : NoTrailingDigest i) (hfn : fn = interestFinalName i H sv)
    (hv : fs.v = interestExpect i fn sv) (hd : i.ap.isSome → fs.digestCovered = interestParamsPortion i sv) :
    checkInterest H fs = true := by
  -- without parameters the name must not end in a digest component (`hnt`); with parameters its last
  -- component must be the digest of what the decoder collected as the parameters portion (`hd`)
  unfold checkInterest
  rw [hv]
  simp only [interestExpect]
  rcases (show i.ap = none ∨ ∃ c, i.ap = some c by cases i.ap <;> simp) with hap | ⟨c, hap⟩
  · have he : ¬ i.est > 0 := fun h => by have := hest h; simp [hap] at this
    have hfn' : fn = stripDigest i.name := by rw [hfn]; simp [interestFinalName, hap]
    simp only [hap, he, Option.map_none, Option.isSome_none, Option.isNone_none, ↓reduceIte, Bool.false_eq_true, false_and]
    cases hgl : fn.getLast? with
    | none => rfl
    | some c =>
      have := hnt hap c (by rw [← hfn']; exact hgl)
      simp [this]
  · have hfn' : fn = stripDigest i.name ++ [digestComp (H (interestParamsPortion i sv))] := by
      rw [hfn]; simp [interestFinalName, hap]
    have hd' := hd (by simp [hap])
    rw [hfn']
    simp [hap, hd', digestComp]

/-- a packet that is exactly one Interest TLV: `parsePacket` is `parseInterest` (fresh context) on its value -/
theorem parsePacket_of_interest (V : Bytes) (hL : V.length < 2 ^ 62) :
    parsePacket (Z [] (encTL 5 ++ encTL V.length ++ V))
      = (parseInterest {} (Z [] V) >>= fun s => .ok { interest := some s, ictx := s }) := by
  have e := tlvLoop_single packetBody (parseInterest {})
    (fun s => { ({} : PacketSt) with interest := some s, ictx := s }) {} 5 V (by decide) hL (fun _ => rfl)
  unfold parsePacket
  rw [show encTL 5 ++ encTL V.length ++ V = encTV (5, V) from rfl, e]
  cases parseInterest {} (Z [] V) <;> rfl

/-- `parsePacket` on the encoded Interest: the Interest element parses to a state that passes
    `checkInterest`, carries the expected value and (when signed) the covered bytes -/
theorem parsePacket_interest (E : EncSpecs) (i : InterestIn) (sign H : Bytes → Bytes) (e : Encoded) (fn : Name)
    (hv : i.Valid) (hnt : NoTrailingDigest i) (hH : ∀ x, (H x).length = 32) (hm : makeInterest i sign H = .ok (e, fn)) :
    ∃ fs : InterestSt, parsePacket (Z [] e.wire.flatten) = .ok { interest := some fs, ictx := fs }
      ∧ checkInterest H fs = true
      ∧ fs.v = interestExpect i fn e.sigVal ∧ (i.est > 0 → fs.sigCovered = interestCovered i) := by
  obtain ⟨hfn, hflat, _, _⟩ := E.makeInterest_flatten i sign H e fn hv hH hm
  obtain ⟨hr, hL⟩ := interestReady_of_int E i sign H e fn hv hH hm
  obtain ⟨fs, e4, hv4, hd4, hc4⟩ := parseInterest_Z E i fn e.sigVal hr
  exact ⟨fs, by rw [hflat, parsePacket_of_interest _ hL, e4]; rfl,
    checkInterest_ok i H fn e.sigVal fs hr.est hnt hfn hv4 hd4, hv4, hc4⟩

theorem readInterest_Z (E : EncSpecs) (i : InterestIn) (sign H : Bytes → Bytes) (e : Encoded) (fn : Name)
    (hv : i.Valid) (hnt : NoTrailingDigest i) (hH : ∀ x, (H x).length = 32) (hm : makeInterest i sign H = .ok (e, fn)) :
    ∃ cov, readInterest H (Z [] e.wire.flatten) = .ok (interestExpect i fn e.sigVal, cov)
      ∧ (i.est > 0 → cov = interestCovered i) := by
  obtain ⟨fs, hpp, hchk, hv4, hc4⟩ := parsePacket_interest E i sign H e fn hv hnt hH hm
  refine ⟨fs.sigCovered, ?_, hc4⟩
  simp only [readInterest, hpp, Res.bind_ok]
  rw [if_pos (show checkInterest H { fs with digestCovered := fs.digestCovered } = true from hchk), hv4]; rfl

theorem readPacket_interest_Z (E : EncSpecs) (i : InterestIn) (sign H : Bytes → Bytes) (e : Encoded) (fn : Name)
    (hv : i.Valid) (hnt : NoTrailingDigest i) (hH : ∀ x, (H x).length = 32) (hm : makeInterest i sign H = .ok (e, fn)) :
    ∃ cov, readPacket H (Z [] e.wire.flatten) = .ok (.interest (interestExpect i fn e.sigVal) cov)
      ∧ (i.est > 0 → cov = interestCovered i) := by
  obtain ⟨fs, hpp, hchk, hv4, hc4⟩ := parsePacket_interest E i sign H e fn hv hnt hH hm
  refine ⟨fs.sigCovered, ?_, hc4⟩
  simp only [readPacket, hpp, Res.bind_ok]
  rw [if_pos (show checkInterest H { fs with digestCovered := fs.digestCovered } = true from hchk), hv4]; rfl

end Ndn.C03
