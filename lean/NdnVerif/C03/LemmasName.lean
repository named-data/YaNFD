/-
  C03/LemmasName.lean — the reads of the standalone name / component codecs (NameFromBytes, ComponentFromBytes)
  on the contiguous reader, and the fresh WireReader.
-/
import NdnVerif.C03.Zip
import NdnVerif.C03.LemmasReaderWire
namespace Ndn.C03

/-- a fresh WireReader over segments that are non-empty (the first one may be empty) -/
theorem at_newWireReader (segs : List Bytes) (h : ∀ i, 0 < i → i < segs.length → segs.getD i [] ≠ []) :
    At (newWireReader segs) segs.flatten 0 := by
  refine ⟨?_, ?_, Nat.zero_le _⟩
  · simp only [newWireReader, Rd.Inv, WireR.Inv, WireR.absPos, accSz_zero, WireR.segAt]
    exact ⟨Nat.zero_le _, fun _ => Nat.zero_le _, fun _ => trivial, h, Nat.le_refl _⟩
  · simp [newWireReader, Rd.view, WireR.absPos, accSz_zero]

theorem Z_readComponent (pre t : Bytes) (c : Component) (hc : CompValid c) (hl : c.val.length < 2 ^ 64) :
    readComponent (Z pre (encComp c ++ t)) = .ok (c, Z (pre ++ encComp c) t) := by
  obtain ⟨r1, r2, e1, e2, e3⟩ := Z_comp pre t c hc hl
  simp only [readComponent, e1, Res.bind_ok, e2, e3, Res.pure_eq]

theorem Z_readNameLoop : ∀ (n : Name) (fuel : Nat) (pre : Bytes) (acc : Name),
    NameValid n → nameLen n < 2 ^ 62 → n.length < fuel → readNameLoop fuel (Z pre (encNameInner n)) acc = .ok (acc ++ n) := by
  intro n
  induction n with
  | nil =>
    intro fuel pre acc _ _ hf
    obtain ⟨f, rfl⟩ : ∃ f, fuel = f + 1 := ⟨fuel - 1, (Nat.succ_pred_eq_of_pos hf).symm⟩
    have h : (Z pre (encNameInner [])).pos ≥ (Z pre (encNameInner [])).length := by
      rw [Z_pos, Z_length]; exact Nat.le_refl _
    rw [readNameLoop, if_pos h, List.append_nil]
  | cons c cs ih =>
    intro fuel pre acc hv hlen hf
    obtain ⟨f, rfl⟩ : ∃ f, fuel = f + 1 := ⟨fuel - 1, (Nat.succ_pred_eq_of_pos (Nat.lt_of_le_of_lt (Nat.zero_le _) hf)).symm⟩
    rw [nameLen_cons] at hlen
    have h : ¬ (Z pre (encNameInner (c :: cs))).pos ≥ (Z pre (encNameInner (c :: cs))).length := by
      rw [Z_pos, Z_length, encNameInner_cons, List.length_append]
      exact Nat.not_le_of_lt (Nat.lt_add_of_pos_right (Nat.lt_of_lt_of_le (encTV_pos (c.typ, c.val)) (Nat.le_add_right ..)))
    rw [readNameLoop, if_neg h, encNameInner_cons, ← List.append_nil (encNameInner cs),
      Z_readComponent pre _ c (hv c (List.mem_cons_self ..)) (by unfold compLen at hlen; omega), List.append_nil]
    exact (ih f _ (acc ++ [c]) (fun x hx => hv x (List.mem_cons_of_mem _ hx)) (Nat.lt_of_le_of_lt (Nat.le_add_left ..) hlen)
      (Nat.lt_of_succ_lt_succ hf)).trans (by rw [List.append_assoc]; rfl)

end Ndn.C03
