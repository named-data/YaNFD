/-
  C03/LemmasReaderOp.lean — the operations of the WireReader in absolute coordinates: each returns the
  slice `(wire.flatten.drop absPos).take l` of the joined wire and leaves the reader `l` bytes ahead
  (`WireR.Moved`).  `At` translates this once into the logical buffer `wire.flatten.drop base`, where the
  same is said of the BufferReader.
-/
import NdnVerif.C03.LemmasDefs
import NdnVerif.C03.LemmasReaderLoop
namespace Ndn.C03

theorem at_buf_iff (b : BufR) (buf : Bytes) (p : Nat) : At (.buf b) buf p ↔ b = ⟨buf, p⟩ ∧ p ≤ buf.length := by
  unfold At Rd.Inv Rd.view
  constructor
  · rintro ⟨_, h2, h3⟩; exact ⟨h2, h3⟩
  · rintro ⟨h2, h3⟩; subst h2; exact ⟨h3, rfl, h3⟩

namespace WireR

namespace Inv

theorem pre {w : WireR} (h : w.Inv) : w.Pre := by
  refine ⟨h.1, ?_⟩
  rcases Nat.lt_or_ge w.seg w.wire.length with c | c
  · exact h.2.1 c
  · rw [h.2.2.1 (Nat.le_antisymm h.1 c)]; exact Nat.zero_le _

theorem ne {w : WireR} (h : w.Inv) : NE w.wire := h.2.2.2.1

end Inv

theorem inv_mk {w : WireR} (hp : w.Pre) (hne : NE w.wire) (hb : w.base ≤ w.absPos) : w.Inv := by
  refine ⟨hp.1, fun _ => hp.2, fun e => ?_, hne, hb⟩
  have := hp.2
  rw [e, List.getElem?_eq_none (Nat.le_refl _)] at this
  exact Nat.le_zero.1 this

end WireR

theorem at_wire_mk (w : WireR) (hp : w.Pre) (hne : NE w.wire) (hb : w.base ≤ w.absPos) :
    At (.wire w) (w.wire.flatten.drop w.base) (w.absPos - w.base) :=
  ⟨WireR.inv_mk hp hne hb, rfl, List.length_drop ▸ Nat.sub_le_sub_right hp.absPos_le _⟩

theorem at_wire_dest {w : WireR} {buf : Bytes} {p : Nat} (h : At (.wire w) buf p) :
    w.Inv ∧ buf = w.wire.flatten.drop w.base ∧ p = w.absPos - w.base ∧ w.base ≤ w.absPos
      ∧ w.absPos ≤ w.wire.flatten.length := by
  obtain ⟨h1, h2, _⟩ := h
  injection h2 with h2 h3
  exact ⟨h1, h2.symm, h3.symm, h1.2.2.2.2, h1.pre.absPos_le⟩

namespace WireR.Moved

theorem toAt {w w' : WireR} {buf : Bytes} {p l : Nat} (m : w.Moved l w') (h : At (.wire w) buf p) :
    At (.wire w') buf (p + l) := by
  obtain ⟨h1, rfl, rfl, h4, _⟩ := at_wire_dest h
  have := at_wire_mk w' m.pre (m.wire ▸ h1.ne) (m.base ▸ m.absPos ▸ Nat.le_trans h4 (Nat.le_add_right _ _))
  rwa [m.wire, m.base, m.absPos, Nat.sub_add_comm h4] at this

end WireR.Moved

theorem at_wire_buf {w : WireR} {buf : Bytes} {p : Nat} (h : At (.wire w) buf p) :
    buf.length = w.wire.flatten.length - w.base
    ∧ (∀ l, (buf.drop p).take l = (w.wire.flatten.drop w.absPos).take l)
    ∧ (p < buf.length ↔ w.absPos < w.wire.flatten.length)
    ∧ (∀ l, p + l ≤ buf.length ↔ w.absPos + l ≤ w.wire.flatten.length) := by
  obtain ⟨_, rfl, rfl, h4, h5⟩ := at_wire_dest h
  rw [List.length_drop, List.drop_drop, Nat.add_sub_cancel' h4]
  refine ⟨rfl, fun _ => rfl, ?_, fun l => ?_⟩
  · rw [Nat.sub_lt_iff_lt_add' h4, Nat.add_sub_cancel' (Nat.le_trans h4 h5)]
  · rw [← Nat.sub_add_comm h4, Nat.sub_le_sub_iff_right (Nat.le_trans h4 h5)]

theorem at_wire_gt {w : WireR} {buf : Bytes} {p l : Nat} (h : At (.wire w) buf p) (hl : p + l > buf.length) :
    w.wire.flatten.length < w.absPos + l :=
  Nat.lt_of_not_le fun c => Nat.not_le_of_lt hl (((at_wire_buf h).2.2.2 l).2 c)

/-- `res` is the outcome of reading `l` bytes at `w`: the next `l` bytes of the joined wire and the reader
    `l` bytes ahead, or an error when fewer are left -/
abbrev WireR.Reads (w : WireR) (l : Nat) (res : Res (Bytes × WireR)) : Prop :=
  (w.absPos + l ≤ w.wire.flatten.length →
    ∃ r', res = .ok ((w.wire.flatten.drop w.absPos).take l, r') ∧ w.Moved l r')
  ∧ (w.wire.flatten.length < w.absPos + l → res = .err)

theorem at_buf_read {b : BufR} {buf : Bytes} {p : Nat} (h : At (.buf b) buf p) (l : Nat) {res : Res (Bytes × BufR)}
    (H : res = if b.pos + l > b.buf.length then .err
      else .ok ((b.buf.drop b.pos).take l, { b with pos := b.pos + l })) :
    (p + l ≤ buf.length →
      ∃ r', (do let (x, b) ← res; pure (x, Rd.buf b)) = .ok ((buf.drop p).take l, r') ∧ At r' buf (p + l))
    ∧ (p + l > buf.length → (do let (x, b) ← res; pure (x, Rd.buf b)) = .err) := by
  obtain ⟨rfl, _⟩ := (at_buf_iff _ _ _).1 h
  subst H
  refine ⟨fun hl => ⟨.buf ⟨buf, p + l⟩, ?_, (at_buf_iff _ _ _).2 ⟨rfl, hl⟩⟩, fun hl => ?_⟩
  · rw [if_neg (Nat.not_lt_of_le hl)]; rfl
  · rw [if_pos hl]; rfl

theorem at_wire_read {w : WireR} {buf : Bytes} {p : Nat} (h : At (.wire w) buf p) (l : Nat)
    {res : Res (Bytes × WireR)} (H : w.Reads l res) :
    (p + l ≤ buf.length →
      ∃ r', (do let (x, w) ← res; pure (x, Rd.wire w)) = .ok ((buf.drop p).take l, r') ∧ At r' buf (p + l))
    ∧ (p + l > buf.length → (do let (x, w) ← res; pure (x, Rd.wire w)) = .err) := by
  obtain ⟨_, hb2, _, hb4⟩ := at_wire_buf h
  refine ⟨fun hl => ?_, fun hl => ?_⟩
  · obtain ⟨r', e, m⟩ := H.1 ((hb4 l).1 hl)
    exact ⟨.wire r', by rw [e, hb2 l]; rfl, m.toAt h⟩
  · rw [H.2 (at_wire_gt h hl)]; rfl

namespace WireR

variable (w : WireR) (l : Nat)

theorem readByte_spec (hp : w.Pre) (hne : NE w.wire) :
    (w.absPos < w.wire.flatten.length →
      ∃ r', w.readByte = .ok (w.wire.flatten.getD w.absPos 0, r') ∧ w.Moved 1 r' ∧ r'.seg < r'.wire.length)
    ∧ (w.wire.flatten.length ≤ w.absPos → w.readByte = .err) := by
  obtain ⟨r1, e, m, hn, hiff⟩ := nextSeg_spec w hp hne
  refine ⟨fun h => ?_, fun h => ?_⟩
  · have hlt := hiff.2 h
    have hpos := hn hlt
    have m1 := moved_pos r1 1 m.pre.1 (m.wire ▸ hpos)
    refine ⟨{ r1 with pos := r1.pos + 1 }, ?_, m.after m1, m.wire ▸ hlt⟩
    rw [List.getD_eq_getElem?_getD, ← Nat.add_zero w.absPos, ← m.absPos_eq, flatten_getElem? w.wire r1.seg r1.pos hpos]
    simp only [readByte, e, hlt, decide_true, Bool.not_true, Bool.false_eq_true, if_false, segAt_eq, m.wire,
      List.getD_eq_getElem?_getD]
  · have hlt : ¬ r1.seg < w.wire.length := fun c => Nat.not_le_of_lt (hiff.1 c) h
    simp only [readByte, e, hlt, decide_false, Bool.not_false, if_true]

theorem gather_from {r1 : WireR} (m : w.Moved 0 r1) :
    (w.absPos + l ≤ w.wire.flatten.length →
      ∃ r', gather (r1.wire.length + 1) r1 l [] = some ((w.wire.flatten.drop w.absPos).take l, r') ∧ w.Moved l r')
    ∧ (w.wire.flatten.length < w.absPos + l → gather (r1.wire.length + 1) r1 l [] = none) := by
  have := gather_spec (r1.wire.length + 1) r1 l [] m.pre (Nat.le_trans (Nat.le_succ _) (Nat.le_add_left _ _))
  rw [show r1.wire.flatten = w.wire.flatten from congrArg _ m.wire, m.absPos, Nat.add_zero] at this
  refine ⟨fun h => ?_, this.2⟩
  obtain ⟨r', e, m'⟩ := this.1 h
  exact ⟨r', e, m.after m'⟩

theorem readWire_spec (hp : w.Pre) (hne : NE w.wire) : w.Reads l (w.readWire l) := by
  obtain ⟨r1, e, m, _, hiff⟩ := nextSeg_spec w hp hne
  have hg : l > r1.absLength - r1.absPos ↔ w.wire.flatten.length < w.absPos + l :=
    (m.pre.guard l).trans (by rw [m.wire, m.absPos, Nat.add_zero])
  refine ⟨fun h => ?_, fun h => ?_⟩
  · obtain ⟨r', g, m'⟩ := (gather_from w l m).1 h
    refine ⟨r', ?_, m'⟩
    -- a non-empty read in range has bytes left, so `nextSeg` found a segment
    have hc : ¬ ((!decide (r1.seg < w.wire.length)) = true ∧ l > 0) := fun c => by
      rw [decide_eq_true (hiff.2 (Nat.lt_of_lt_of_le (Nat.lt_add_of_pos_right c.2) h))] at c
      exact Bool.false_ne_true c.1
    simp only [readWire, e, if_neg hc, if_neg (mt hg.1 (Nat.not_lt_of_le h)), g]
  · simp only [readWire, e, if_pos (hg.2 h)]
    split <;> rfl

theorem readFull_spec (hp : w.Pre) (hne : NE w.wire) : w.Reads l (w.readFull l) := by
  by_cases hl0 : l = 0
  · subst hl0
    exact ⟨fun _ => ⟨w, rfl, Moved.refl hp⟩, fun h => absurd hp.absPos_le (Nat.not_le_of_lt h)⟩
  obtain ⟨r1, e, m, _, hiff⟩ := nextSeg_spec w hp hne
  refine ⟨fun h => ?_, fun h => ?_⟩
  · obtain ⟨r', g, m'⟩ := (gather_from w l m).1 h
    have hlt : r1.seg < w.wire.length :=
      hiff.2 (Nat.lt_of_lt_of_le (Nat.lt_add_of_pos_right (Nat.pos_of_ne_zero hl0)) h)
    refine ⟨r', ?_, m'⟩
    simp only [readFull, if_neg hl0, e, hlt, decide_true, Bool.not_true, Bool.false_eq_true, if_false, g]
  · simp only [readFull, if_neg hl0, e, (gather_from w l m).2 h]
    split <;> rfl

theorem readBuf_spec (hp : w.Pre) (hne : NE w.wire) : w.Reads l (w.readBuf l) := by
  refine ⟨fun h => ?_, fun h => if_pos ((hp.guard l).2 h)⟩
  have hg : ¬ l > w.absLength - w.absPos := mt (hp.guard l).1 (Nat.not_lt_of_le h)
  obtain ⟨r1, e, m, hn, hiff⟩ := nextSeg_spec w hp hne
  by_cases hlt : r1.seg < w.wire.length
  · by_cases hc : r1.pos + l ≤ (w.wire[r1.seg]?.getD []).length
    · -- inside the current segment
      refine ⟨{ r1 with pos := r1.pos + l }, ?_, m.after (moved_pos r1 l m.pre.1 (m.wire ▸ hc))⟩
      rw [← Nat.add_zero w.absPos, ← m.absPos_eq, flatten_slice_seg w.wire r1.seg r1.pos l hc]
      simp only [readBuf, if_neg hg, e, hlt, decide_true, Bool.not_true, Bool.false_eq_true, if_false, segAt_eq,
        m.wire, if_pos hc]
    · obtain ⟨r', g, m'⟩ := (gather_from w l m).1 h
      refine ⟨r', ?_, m'⟩
      rw [m.wire] at g
      simp only [readBuf, if_neg hg, e, hlt, decide_true, Bool.not_true, Bool.false_eq_true, if_false, segAt_eq,
        m.wire, if_neg hc, g]
  · -- at the end of the wire: only the empty read
    obtain rfl : l = 0 := Nat.eq_zero_of_not_pos fun c => hlt (hiff.2 (Nat.lt_of_lt_of_le (Nat.lt_add_of_pos_right c) h))
    exact ⟨r1, by simp only [readBuf, if_neg hg, e, hlt, decide_false, Bool.not_false, if_true,
      Nat.lt_irrefl, if_false, List.take_zero], m⟩

theorem skip_spec (hp : w.Pre) :
    (w.absPos + l ≤ w.wire.flatten.length → ∃ r', w.skip l = .ok r' ∧ w.Moved l r')
    ∧ (w.wire.flatten.length < w.absPos + l → w.skip l = .err) := by
  refine ⟨fun h => ?_, fun h => if_pos ((hp.guard l).2 h)⟩
  unfold skip
  rw [if_neg (mt (hp.guard l).1 (Nat.not_lt_of_le h))]
  by_cases hs : w.seg < w.wire.length
  · obtain ⟨r', e, m, _⟩ := advance_from w l hs h
    exact ⟨r', (skipLoop_eq_advance (w.wire.length + 1) { w with pos := w.pos + l } hs).trans e, m⟩
  · have hs := Nat.le_of_not_lt hs
    obtain rfl := hp.parked_read hs h
    exact ⟨_, skipLoop_parked _ _ hs, moved_pos w 0 hp.1 hp.2⟩

theorem delegate_oob (hp : w.Pre) (h : w.wire.flatten.length < w.absPos + l) :
    w.delegate l = .ok (.buf ⟨[], 0⟩, w) :=
  if_pos (Or.inr ((hp.guard l).2 h))

end WireR

/-- The sub-reader of `Delegate` that shares the wire up to segment `j`, which the range fills to its
    end: it keeps the parent's (seg, pos) and records the parent's absolute position as its logical
    start. -/
theorem at_shared (w : List Bytes) (i q j l : Nat) (hne : NE w) (hij : i ≤ j) (hj : j < w.length)
    (hq : q ≤ (w[i]?.getD []).length) (hl : (w[j]?.getD []).length + accSz w j = q + accSz w i + l) :
    At (.wire ⟨w.take (j + 1), i, q, q + accSz w i⟩) ((w.flatten.drop (q + accSz w i)).take l) 0 := by
  have hi : i < j + 1 := Nat.lt_succ_of_le hij
  have hacc : accSz (w.take (j + 1)) i = accSz w i := accSz_take w i (j + 1) (Nat.le_of_lt hi)
  have := at_wire_mk ⟨w.take (j + 1), i, q, q + accSz w i⟩
    ⟨List.length_take ▸ Nat.le_min.2 ⟨Nat.le_of_lt hi, Nat.le_trans hij (Nat.le_of_lt hj)⟩,
     show q ≤ ((w.take (j + 1))[i]?.getD []).length from (List.getElem?_take_of_lt hi).symm ▸ hq⟩
    (NE_take w (j + 1) hne) (Nat.le_of_eq (congrArg (q + ·) hacc.symm))
  rw [show WireR.absPos ⟨w.take (j + 1), i, q, q + accSz w i⟩ = q + accSz w i from congrArg (q + ·) hacc,
    Nat.sub_self] at this
  rwa [← flatten_take_accSz, List.drop_take, accSz_succ, Nat.add_comm (accSz w j), Nat.sub_eq_of_eq_add' hl] at this

theorem segs_between (w : List Bytes) (i j : Nat) (hij : i < j) (hj : j < w.length) :
    (w.drop i).take (j + 1 - i) = w[i]?.getD [] :: ((w.drop (i + 1)).take (j - i - 1) ++ [w[j]?.getD []]) := by
  obtain ⟨k, rfl⟩ := Nat.exists_eq_add_of_le (Nat.succ_le_of_lt hij)
  have hk : i + 1 + k + 1 - i = k + 1 + 1 := by
    rw [Nat.add_assoc i, Nat.add_assoc i, Nat.add_sub_cancel_left, Nat.add_comm 1 k]
  have hk' : i + 1 + k - i - 1 = k := by rw [Nat.add_assoc, Nat.add_sub_cancel_left, Nat.add_sub_cancel_left]
  have hi := Nat.lt_trans hij hj
  rw [List.drop_eq_getElem_cons hi, List.getElem?_eq_getElem hi, Option.getD_some, hk, hk', List.take_succ_cons,
    take_succ_eq_getD _ _ (List.length_drop ▸ Nat.lt_sub_iff_add_lt'.2 hj), List.getElem?_drop]

/-- `nw[:len-1] ++ [nw[len-1][:q']]`: the last of the copied segments is cut at `q'` -/
theorem cut_last (nw : List Bytes) (x : Bytes) (m : List Bytes) (y : Bytes) (q' : Nat) (h : nw = x :: (m ++ [y])) :
    nw.take (nw.length - 1) ++ [(nw.getD (nw.length - 1) []).take q'] = x :: (m ++ [y.take q']) := by
  subst h
  rw [List.length_cons, List.length_append, List.length_singleton, Nat.add_sub_cancel, List.take_succ_cons,
    List.take_left, List.getD_eq_getElem?_getD, List.getElem?_cons_succ, List.getElem?_concat_length]
  rfl

theorem at_fresh (w : List Bytes) (i q j q' l : Nat) (hne : NE w) (hij : i < j)
    (hq : q ≤ (w[i]?.getD []).length) (hq' : q' ≤ (w[j]?.getD []).length) (h0 : 0 < q')
    (hl : q' + accSz w j = q + accSz w i + l) :
    At (.wire ⟨(w[i]?.getD []).drop q :: ((w.drop (i + 1)).take (j - i - 1) ++ [(w[j]?.getD []).take q']), 0, 0, 0⟩)
      ((w.flatten.drop (q + accSz w i)).take l) 0 := by
  have hne' : NE ((w[i]?.getD []).drop q :: ((w.drop (i + 1)).take (j - i - 1) ++ [(w[j]?.getD []).take q'])) := by
    rw [NE_iff]
    intro x hx
    rw [List.drop_succ_cons, List.drop_zero, List.mem_append, List.mem_singleton] at hx
    rcases hx with hx | rfl
    · have h1 := List.mem_of_mem_take hx
      rw [Nat.add_comm, ← List.drop_drop] at h1
      exact (NE_iff w).1 hne x (List.mem_of_mem_drop h1)
    · exact List.length_pos_iff.1 (List.length_take ▸ Nat.lt_min.2 ⟨h0, Nat.lt_of_lt_of_le h0 hq'⟩)
  have := at_wire_mk ⟨_, 0, 0, 0⟩ ⟨Nat.zero_le _, Nat.zero_le _⟩ hne' (Nat.zero_le _)
  simp only [List.flatten_cons, List.flatten_append, List.flatten_nil, List.append_nil, ← List.append_assoc] at this
  rw [flatten_slice w i q j q' l hij hq hq' hl]
  exact this

namespace WireR

variable (w : WireR) (l : Nat)

theorem delegate_spec (hp : w.Pre) (hne : NE w.wire) (hl : w.absPos + l ≤ w.wire.flatten.length) :
    ∃ sub w', w.delegate l = .ok (sub, w') ∧ At sub ((w.wire.flatten.drop w.absPos).take l) 0 ∧ w.Moved l w' := by
  by_cases hs : w.seg < w.wire.length
  case neg =>
    -- past the last segment: `l = 0`
    have hs := Nat.le_of_not_lt hs
    obtain rfl := hp.parked_read hs hl
    exact ⟨.buf ⟨[], 0⟩, w, if_pos (Or.inl hs), (at_buf_iff _ _ _).2 ⟨rfl, Nat.zero_le _⟩, Moved.refl hp⟩
  have hg : ¬ (w.seg ≥ w.wire.length ∨ l > w.absLength - w.absPos) := fun c =>
    c.elim (Nat.not_le_of_lt hs) (mt (hp.guard l).1 (Nat.not_lt_of_le hl))
  by_cases hc : w.pos + l ≤ (w.wire[w.seg]?.getD []).length
  · -- inside the current segment: a BufferReader on the slice of the segment
    refine ⟨.buf ⟨((w.wire[w.seg]?.getD []).drop w.pos).take l, 0⟩, { w with pos := w.pos + l },
      (if_neg hg).trans (if_pos hc), ?_, moved_pos w l hp.1 hc⟩
    rw [show w.absPos = w.pos + accSz w.wire w.seg from rfl, flatten_slice_seg w.wire w.seg w.pos l hc]
    exact (at_buf_iff _ _ _).2 ⟨rfl, Nat.zero_le _⟩
  -- the advance loop: the range ends in a later segment `r'.seg`, at `r'.pos > 0`
  have hc' := Nat.lt_of_not_le hc
  obtain ⟨r', e, m, hj, hpos, hlt⟩ := advance_from w l hs hl
  have hpos := hpos (Nat.lt_of_le_of_lt (Nat.zero_le _) hc')
  have hlt := hlt hc'
  have hq' : r'.pos ≤ (w.wire[r'.seg]?.getD []).length := m.wire ▸ m.pre.2
  by_cases hend : r'.pos = (w.wire[r'.seg]?.getD []).length
  · -- the range ends at a segment end: shared wire
    refine ⟨.wire ⟨w.wire.take (r'.seg + 1), w.seg, w.pos, w.pos + accSz w.wire w.seg⟩, r', ?_,
      at_shared w.wire w.seg w.pos r'.seg l hne (Nat.le_of_lt hlt) hj hp.2 (hend ▸ m.absPos_eq), m⟩
    simp only [delegate, if_neg hg, segAt_eq, if_neg hc, e, m.wire, if_pos hend]
  · -- copied segments
    refine ⟨.wire ⟨(w.wire[w.seg]?.getD []).drop w.pos ::
        ((w.wire.drop (w.seg + 1)).take (r'.seg - w.seg - 1) ++ [(w.wire[r'.seg]?.getD []).take r'.pos]), 0, 0, 0⟩,
      r', ?_, at_fresh w.wire w.seg w.pos r'.seg r'.pos l hne hlt hp.2 hq' hpos m.absPos_eq, m⟩
    simp only [delegate, if_neg hg, segAt_eq, if_neg hc, e, m.wire, if_neg hend,
      segs_between w.wire w.seg r'.seg hlt hj]
    rw [cut_last _ _ _ _ _ rfl]

end WireR

end Ndn.C03
