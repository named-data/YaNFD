/-
  C03/Examples.lean — concrete inputs used by the non-vacuity examples of C03 and C12 Props.
-/
import NdnVerif.C03.LemmasDefs
namespace Ndn.C03

/-- a concrete build evaluated once by the kernel: it succeeded and its result passes the test `p` -/
theorem ok_of_test {α : Type} {x : Res α} (p : α → Bool)
    (h : (match x with | .ok a => p a | _ => false) = true) : ∃ a, x = .ok a ∧ p a = true := by
  cases x with
  | ok a => exact ⟨a, rfl, h⟩
  | _ => cases h

def exSign : Bytes → Bytes := fun b => List.replicate 200 (b.length % 256)
def exBig : Component := ⟨8, List.replicate 300 7⟩
def exKey : Name := [⟨8, [0x6b]⟩]
def exSi : SigInfo := { typ := 3, keyLoc := some { name := some exKey } }
def exData : DataIn :=
  { name := [⟨8, [0x61]⟩, exBig], mi := { ct := some 0, fresh := some 4000, fb := some [8, 1, 1] },
    content := some [[1, 2], [], [3]], si := some exSi, est := 300 }
theorem exKey_valid : NameValid exKey := by
  intro c hc
  have : c = ⟨8, [0x6b]⟩ := by simpa [exKey] using hc
  subst this; show (8 : Nat) < 2 ^ 64; decide
theorem keySi_valid (t : Nat) (ht : t < 2 ^ 64) : SigInfoValid { typ := t, keyLoc := some { name := some exKey } } := by
  refine ⟨ht, rfl, ?_, ?_, ?_⟩
  rotate_left
  · intro t h; cases h
  · intro t h; cases h
  intro k hk n hn
  have hk' : k = { name := some exKey } := by simpa using hk.symm
  subst hk'
  have : n = exKey := by simpa using hn.symm
  subst this; exact exKey_valid
theorem exData_valid : exData.Valid := by
  refine ⟨?_, ?_, ?_, by decide +kernel⟩
  · intro c hc
    have : c = ⟨8, [0x61]⟩ ∨ c = exBig := by simpa [exData] using hc
    rcases this with h | h <;> subst h <;> (show (8 : Nat) < 2 ^ 64) <;> decide
  · constructor
    · intro x h
      have : x = 0 := by simpa [exData] using h.symm
      subst this; decide
    · intro x h
      have : x = 4000 := by simpa [exData] using h.symm
      subst this; decide
  · intro s hs
    have : s = exSi := by simpa [exData] using hs.symm
    subst this; exact keySi_valid 3 (by decide)
def exHash : Bytes → Bytes := fun b => List.replicate 32 (b.length % 256)
def exSign32 : Bytes → Bytes := fun b => List.replicate 30 (b.length % 256)
def exFh : Name := [⟨8, [1]⟩]
def exSiI : SigInfo := { typ := 4, keyLoc := some { name := some exKey } }
def exInterest : InterestIn :=
  { name := [⟨8, [0x61]⟩], cbp := true, mbf := false, fh := some [exFh], nonce := some 7, lt := some 4000,
    hl := some 3, ap := some [[1], [2, 3]], si := some exSiI, est := 32 }
theorem exInterest_valid : exInterest.Valid := by
  refine ⟨?_, ?_, ?_, ?_, ?_, ?_, by intro _; rfl, by decide⟩
  · intro c hc
    have : c = ⟨8, [0x61]⟩ := by simpa [exInterest] using hc
    subst this; show (8 : Nat) < 2 ^ 64; decide
  · intro ns h n hn
    have : ns = [exFh] := by simpa [exInterest] using h.symm
    subst this
    have : n = exFh := by simpa using hn
    subst this
    intro c hc
    have : c = ⟨8, [1]⟩ := by simpa [exFh] using hc
    subst this; show (8 : Nat) < 2 ^ 64; decide
  · intro x h
    have : x = 7 := by simpa [exInterest] using h.symm
    subst this; decide
  · intro x h
    have : x = 4000 := by simpa [exInterest] using h.symm
    subst this; decide
  · intro x h
    have : x = 3 := by simpa [exInterest] using h.symm
    subst this; decide
  · intro s hs
    have : s = exSiI := by simpa [exInterest] using hs.symm
    subst this; exact keySi_valid 4 (by decide)

/-- the two example packets are built, once, by kernel evaluation; the examples of C03 and C12 Props quote these -/
theorem exData_made : ∃ e, makeData exData exSign = .ok e ∧ e.sigVal.length = 200 :=
  have ⟨e, h, ht⟩ := ok_of_test (x := makeData exData exSign) (·.sigVal.length == 200) (by decide +kernel)
  ⟨e, h, eq_of_beq ht⟩

theorem exInterest_made :
    ∃ e fn, makeInterest exInterest exSign32 exHash = .ok (e, fn) ∧ e.sigVal.length = 30 ∧ fn.length = 2 :=
  have ⟨a, h, ht⟩ := ok_of_test (x := makeInterest exInterest exSign32 exHash)
    (fun a => a.1.sigVal.length == 30 && a.2.length == 2) (by decide +kernel)
  have ht := Bool.and_eq_true_iff.mp ht
  ⟨a.1, a.2, h, eq_of_beq ht.1, eq_of_beq ht.2⟩

end Ndn.C03
