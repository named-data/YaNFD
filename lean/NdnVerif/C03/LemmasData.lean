/-
  C03/LemmasData.lean — decoding what the Data encoder wrote returns what was encoded, on the contiguous
  reader `Z [] buf` (Props.lean lifts the result to every healthy reader): MetaInfo, KeyLocator,
  ValidityPeriod, SignatureInfo, then the Data packet (ordered loop, signature-covered range).  Every parser is
  walked element by element with `LoopReach.optElem` / `LoopReach.ordOptElem`; what is said per element is which
  rule of Zip.lean consumes its value and what the body stores.
-/
import NdnVerif.C03.Zip
namespace Ndn.C03

theorem dataBody_eq (s : DataSt × Nat) (typ l sp : Nat) (r : Rd) :
    dataBody s typ l sp r = ordLoop 7 dataIdx dataHandle dataAbsent typ l sp 9 s.2 s.1 r := rfl

theorem absFold_data (sp : Nat) (r : Rd) (c q : Nat) (st : DataSt) (hq : 2 ≤ q) :
    absFold dataAbsent sp r c q st = st :=
  absFold_id dataAbsent sp r 2 (q + c) (fun q st h _ => if_neg (by omega)) c q st hq (Nat.le_refl _)

/-- the SignatureValue TLV as decoded (absent when the signer announced no signature) -/
def sigPart (est : Nat) (sv : Bytes) : Bytes := if est > 0 then encTL 23 ++ encTL sv.length ++ sv else []

theorem dataValue_split (d : DataIn) (sv : Bytes) : dataValue d sv = dataCovered d ++ sigPart d.est sv := by
  simp [dataValue, dataCovered, sigPart]

theorem parseValidity_Z (v : Bytes × Bytes) (hl : (encValidity v).length < 2 ^ 62) :
    parseValidity (Z [] (encValidity v)) = .ok v := by
  have hb : encValidity v = encTV (254, v.1) ++ (encTV (255, v.2) ++ []) := by rw [List.append_nil]; rfl
  have R0 := LoopReach.start validityBody (none, none) hb
  rw [hb] at hl
  have R1 := R0.elem (st' := (some v.1, none)) (by decide) (elemVal_lt hl) (fun P _ =>
    bind_eq_of_ok (Z_readString P v.1 _ (Nat.lt_trans (elemVal_lt hl) (by decide))) _)
  have R2 := R1.elem (st' := (some v.1, some v.2)) (by decide) (elemVal_lt (tail_lt hl)) (fun P _ =>
    bind_eq_of_ok (Z_readString P v.2 _ (Nat.lt_trans (elemVal_lt (tail_lt hl)) (by decide))) _)
  exact bind_eq_of_ok R2.finish _

theorem parseMeta_Z (m : MetaInfo) (hv : MetaValid m) (hl : (encMeta m).length < 2 ^ 62) :
    parseMeta (Z [] (encMeta m)) = .ok m := by
  obtain ⟨ct, fresh, fb⟩ := m
  have hb : encMeta ⟨ct, fresh, fb⟩ = optB ct (encNatField 24)
      ++ (optB fresh (encNatField 25) ++ (optB fb (encBinField 26) ++ [])) := by
    simp only [encMeta, List.append_assoc, List.append_nil]
  have R0 := LoopReach.start metaBody {} hb
  rw [hb] at hl
  have R1 := R0.optElem (fun o => ⟨o, none, none⟩) (encNatField_eq 24) (by decide) (fun x _ => natVal_lt x) rfl
    (fun x hx P _ => bind_eq_of_ok (Z_readNatural P _ x (hv.1 x hx)) _)
  have R2 := R1.optElem (fun o => ⟨ct, o, none⟩) (encNatField_eq 25) (by decide) (fun x _ => natVal_lt x) rfl
    (fun x hx P _ => bind_eq_of_ok (Z_readNatural P _ x (hv.2 x hx)) _)
  have R3 := R2.optElem (fun o => ⟨ct, fresh, o⟩) (encBinField_eq 26) (by decide)
    (optVal_lt (encBinField_eq 26) (tail_lt (tail_lt hl))) rfl (fun v _ P _ => Z_bin P v _ _)
  exact bind_eq_of_ok R3.finish _

section
variable (E : EncSpecs)
include E

theorem parseKeyLoc_Z (k : KeyLoc) (hv : ∀ n, k.name = some n → NameValid n) (hl : (encKeyLoc k).length < 2 ^ 62) :
    parseKeyLoc (Z [] (encKeyLoc k)) = .ok k := by
  obtain ⟨nm, dg⟩ := k
  have hb : encKeyLoc ⟨nm, dg⟩ = optB nm (encNameField 7) ++ (optB dg (encBinField 29) ++ []) := by
    simp only [encKeyLoc, List.append_nil]
  have R0 := LoopReach.start keyLocBody ⟨none, none⟩ hb
  rw [hb] at hl
  have hn := optVal_lt (encNameField_eq E 7) hl
  have R1 := R0.optElem (fun o => ⟨o, none⟩) (encNameField_eq E 7) (by decide) hn rfl (fun n h P _ =>
    bind_eq_of_ok (Z_readNameField P _ n (E.nameLen_eq n) (hv n h) (E.nameLen_eq n ▸ hn n h)) _)
  have R2 := R1.optElem (fun o => ⟨nm, o⟩) (encBinField_eq 29) (by decide) (optVal_lt (encBinField_eq 29) (tail_lt hl)) rfl
    (fun v _ P _ => Z_bin P v _ _)
  exact bind_eq_of_ok R2.finish _

theorem parseSigInfo_Z (s : SigInfo) (hv : SigInfoValid s) (hl : (encSigInfo s).length < 2 ^ 62) :
    parseSigInfo (Z [] (encSigInfo s)) = .ok s := by
  obtain ⟨t, kl, no, ti, sq, val, ad⟩ := s
  obtain ⟨ht, had, hvk, hvt, hvq⟩ := hv
  simp only at ht had hvk hvt hvq
  subst had
  have hb : encSigInfo ⟨t, kl, no, ti, sq, val, false⟩ = encTV (27, be (natLen t) t)
      ++ (optB kl (fun k => encTL 28 ++ encTL (keyLocLen k) ++ encKeyLoc k) ++ (optB no (encBinField 38)
      ++ (optB ti (encNatField 40) ++ (optB sq (encNatField 42)
      ++ (optB val (fun v => encTL 253 ++ encTL (validityLen v) ++ encValidity v) ++ []))))) := by
    simp only [encSigInfo, encNatField_eq, List.append_assoc, List.append_nil]
  have R0 := LoopReach.start sigInfoBody {} hb
  rw [hb] at hl
  have R1 := R0.elem (st' := ⟨some t, ⟨0, none, none, none, none, none, false⟩⟩) (by decide) (natVal_lt t) (fun P _ =>
    bind_eq_of_ok (Z_readNatural P _ t ht) _)
  have h2 := tail_lt hl
  have hk := optVal_lt (fun k => tlv_eq (E.keyLocLen_eq k)) h2
  have R2 := R1.optElem (fun o => ⟨some t, ⟨0, o, none, none, none, none, false⟩⟩) (fun k => tlv_eq (E.keyLocLen_eq k))
    (by decide) hk rfl (fun k h P _ =>
      (bind_eq_of_ok (Z_delegate P _ _) _).trans (bind_eq_of_ok (parseKeyLoc_Z E k (hvk k h) (hk k h)) _))
  have h3 := tail_lt h2
  have R3 := R2.optElem (fun o => ⟨some t, ⟨0, kl, o, none, none, none, false⟩⟩) (encBinField_eq 38) (by decide)
    (optVal_lt (encBinField_eq 38) h3) rfl (fun v _ P _ => Z_bin P v _ _)
  have R4 := R3.optElem (fun o => ⟨some t, ⟨0, kl, no, o, none, none, false⟩⟩) (encNatField_eq 40) (by decide)
    (fun x _ => natVal_lt x) rfl (fun x hx P _ => bind_eq_of_ok (Z_readNatural P _ x (hvt x hx)) _)
  have R5 := R4.optElem (fun o => ⟨some t, ⟨0, kl, no, ti, o, none, false⟩⟩) (encNatField_eq 42) (by decide)
    (fun x _ => natVal_lt x) rfl (fun x hx P _ => bind_eq_of_ok (Z_readNatural P _ x (hvq x hx)) _)
  have hvl := optVal_lt (fun v => tlv_eq (encValidity_length v)) (tail_lt (tail_lt (tail_lt h3)))
  have R6 := R5.optElem (fun o => ⟨some t, ⟨0, kl, no, ti, sq, o, false⟩⟩) (fun v => tlv_eq (encValidity_length v))
    (by decide) hvl rfl (fun v h P _ =>
      (bind_eq_of_ok (Z_delegate P _ _) _).trans (bind_eq_of_ok (parseValidity_Z v (hvl v h)) _))
  exact bind_eq_of_ok R6.finish _

end

theorem parseData_Z (E : EncSpecs) (d : DataIn) (sv : Bytes) (s0 : DataSt) (hn : NameValid d.name) (hm : MetaValid d.mi)
    (hv : ∀ s, d.si = some s → SigInfoValid s) (hlen : (dataValue d sv).length < 2 ^ 62) :
    parseData s0 (Z [] (dataValue d sv))
      = .ok ⟨dataExpect d sv, s0.sigCovered ++ (if d.est > 0 then dataCovered d else []), 0⟩ := by
  have hb : dataValue d sv = encTV (7, encNameInner d.name) ++ (encTV (20, encMeta d.mi)
      ++ (optB d.content (fun c => encTL 21 ++ encTL (contentLen c) ++ c.flatten)
      ++ (optB d.si (fun s => encTL 22 ++ encTL (sigInfoLen s) ++ encSigInfo s)
      ++ (optB (if d.est > 0 then some sv else none) (fun sv => encTL 23 ++ encTL sv.length ++ sv) ++ [])))) := by
    simp only [dataValue, dataHead, encNameField_eq E, tlv_eq (E.metaLen_eq d.mi), optB_ite, List.append_assoc,
      List.append_nil]
  have R0 := LoopReach.start dataBody ({ s0 with v := {} }, 0) hb
  rw [hb] at hlen
  -- Name (slot 2): on the way the offset marker (slot 1) records the start of the value
  have h1 := elemVal_lt hlen
  have R1 := R0.ordElem dataBody_eq (st' := ⟨⟨some d.name, none, none, none, none⟩, s0.sigCovered, 0⟩) (by decide) h1
    (show dataIdx 7 = some 2 from rfl) (by decide) (by decide) (by decide) (fun P _ =>
      bind_eq_of_ok (Z_readNameField P _ d.name (E.nameLen_eq _) hn (E.nameLen_eq _ ▸ h1)) _)
  have h2 := tail_lt hlen
  have R2 := R1.ordElem dataBody_eq (st' := ⟨⟨some d.name, some d.mi, none, none, none⟩, s0.sigCovered, 0⟩) (by decide)
    (elemVal_lt h2) (show dataIdx 20 = some 3 from rfl) (Nat.le_refl _) (by decide) (by decide) (fun P _ =>
      (bind_eq_of_ok (Z_delegate P _ _) _).trans (bind_eq_of_ok (parseMeta_Z d.mi hm (elemVal_lt h2)) _))
  have h3 := tail_lt h2
  obtain ⟨q3, hq3, hq3', R3⟩ := R2.ordOptElem dataBody_eq
    (fun o => ⟨⟨some d.name, some d.mi, o.map List.flatten, none, none⟩, s0.sigCovered, 0⟩)
    (fun c => tlv_eq (contentLen_eq c).symm) (by decide) (optVal_lt (fun c => tlv_eq (contentLen_eq c).symm) h3) rfl
    (show dataIdx 21 = some 4 from rfl) (Nat.le_refl _) (by decide) (by decide) (fun c _ P _ =>
      bind_eq_of_ok (Z_readWire P _ _) _)
  have h4 := tail_lt h3
  have hs := optVal_lt (fun s => tlv_eq (E.sigInfoLen_eq s)) h4
  obtain ⟨q4, hq4, hq4', R4⟩ := R3.ordOptElem dataBody_eq
    (fun o => ⟨⟨some d.name, some d.mi, d.content.map List.flatten, o, none⟩, s0.sigCovered, 0⟩)
    (fun s => tlv_eq (E.sigInfoLen_eq s)) (by decide) hs rfl
    (show dataIdx 22 = some 5 from rfl) hq3' (by decide) (by decide) (fun s h P _ => by
      rw [absFold_data _ _ _ _ _ (Nat.le_trans (by decide) hq3)]
      exact (bind_eq_of_ok (Z_delegate P _ _) _).trans (bind_eq_of_ok (parseSigInfo_Z E s (hv s h) (hs s h)) _))
  -- SignatureValue (slot 6): the signed range runs from the offset marker to the start of this element
  obtain ⟨q5, hq5, _, R5⟩ := R4.ordOptElem dataBody_eq
    (fun o => match o with
      | none => ⟨⟨some d.name, some d.mi, d.content.map List.flatten, d.si, none⟩, s0.sigCovered, 0⟩
      | some v => ⟨⟨some d.name, some d.mi, d.content.map List.flatten, d.si, some v⟩,
          s0.sigCovered ++ dataCovered d, 0⟩)
    (fun _ => rfl) (by decide) (optVal_lt (fun _ => rfl) (tail_lt h4)) rfl
    (show dataIdx 23 = some 6 from rfl) hq4' (by decide) (by decide) (fun v _ P hP => by
      rw [absFold_data _ _ _ _ _ (Nat.le_trans (by decide) (Nat.le_trans hq3 hq4))]
      refine (bind_eq_of_ok (Z_readWire P v _) _).trans ?_
      show Res.ok (_, _) = _
      rw [Z_range _ (encTL 23 ++ encTL v.length ++ v) _ (by rw [hP, List.append_nil, List.append_assoc])]
      simp only [List.drop_zero, dataCovered, dataHead, encNameField_eq E, tlv_eq (E.metaLen_eq d.mi), List.nil_append,
        List.append_assoc])
  refine (bind_eq_of_ok R5.finish _).trans ?_
  show Res.ok (ordFinish dataAbsent _ (7 - q5) q5 _) = _
  rw [ordFinish_eq, absFold_data _ _ _ _ _ (Nat.le_trans (by decide) (Nat.le_trans hq3 (Nat.le_trans hq4 hq5)))]
  by_cases he : d.est > 0
  · simp only [he, if_true, dataExpect]
  · simp only [he, if_false, dataExpect, List.append_nil]

/-- a packet that is exactly one Data TLV: `parsePacket` is `parseData` (fresh context) on its value -/
theorem parsePacket_of_data (V : Bytes) (hL : V.length < 2 ^ 62) :
    parsePacket (Z [] (encTL 6 ++ encTL V.length ++ V))
      = (parseData {} (Z [] V) >>= fun s => .ok { data := some s, dctx := s }) := by
  have e := tlvLoop_single packetBody (parseData {}) (fun s => { ({} : PacketSt) with data := some s, dctx := s }) {} 6 V
    (by decide) hL (fun _ => rfl)
  unfold parsePacket
  rw [show encTL 6 ++ encTL V.length ++ V = encTV (6, V) from rfl, e]
  cases parseData {} (Z [] V) <;> rfl

/-- `parsePacket` on the encoded Data: the Data element parses to the expected value and (when signed)
    the covered bytes -/
theorem parsePacket_data (E : EncSpecs) (d : DataIn) (sign : Bytes → Bytes) (e : Encoded) (hv : d.Valid)
    (hm : makeData d sign = .ok e) :
    parsePacket (Z [] e.wire.flatten)
      = .ok { data := some ⟨dataExpect d e.sigVal, if d.est > 0 then dataCovered d else [], 0⟩,
              dctx := ⟨dataExpect d e.sigVal, if d.est > 0 then dataCovered d else [], 0⟩ } := by
  have hvl := dataValue_lt E d sign e hv hm
  rw [(E.makeData_flatten d sign e hv hm).1, parsePacket_of_data _ hvl, parseData_Z E d e.sigVal {} hv.1 hv.2.1 hv.2.2.1 hvl]
  rfl

theorem readData_Z (E : EncSpecs) (d : DataIn) (sign : Bytes → Bytes) (e : Encoded) (hv : d.Valid)
    (hm : makeData d sign = .ok e) :
    readData (Z [] e.wire.flatten) = .ok (dataExpect d e.sigVal, if d.est > 0 then dataCovered d else []) :=
  bind_eq_of_ok (parsePacket_data E d sign e hv hm) _

theorem readPacket_data_Z (E : EncSpecs) (d : DataIn) (sign H : Bytes → Bytes) (e : Encoded) (hv : d.Valid)
    (hm : makeData d sign = .ok e) :
    readPacket H (Z [] e.wire.flatten) = .ok (.data (dataExpect d e.sigVal) (if d.est > 0 then dataCovered d else [])) :=
  bind_eq_of_ok (parsePacket_data E d sign e hv hm) _

end Ndn.C03
