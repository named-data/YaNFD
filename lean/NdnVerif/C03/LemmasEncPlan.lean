/-
  C03/LemmasEncPlan.lean — the wire plan computed by Init announces, for every allocated buffer,
  exactly the number of bytes EncodeInto writes into it (Data and Interest).
-/
import NdnVerif.C03.LemmasEnc
namespace Ndn.C03

theorem planMatches_nil : PlanMatches [] [] := ⟨rfl, fun k hk => by simp at hk⟩

theorem planMatches_cons (a : Nat) (A : Bytes) (p : List Nat) (s : List Bytes)
    (ha : a = 0 ∨ a = A.length) (h : PlanMatches p s) : PlanMatches (a :: p) (A :: s) := by
  refine ⟨by simp [h.1], fun k hk hne => ?_⟩
  cases k with
  | zero =>
    simp only [List.getD_cons_zero] at hne ⊢
    cases ha with
    | inl h0 => exact absurd h0 hne
    | inr h1 => exact h1
  | succ k =>
    simp only [List.getD_cons_succ] at hne ⊢
    exact h.2 k (by simpa using hk) hne

theorem planMatches_nocopy (c : List Bytes) (p : List Nat) (s : List Bytes) (h : PlanMatches p s) :
    PlanMatches (c.map (fun _ => 0) ++ p) (c ++ s) := by
  induction c with
  | nil => simpa using h
  | cons x t ih => exact planMatches_cons 0 x _ _ (Or.inl rfl) ih

theorem planShape (content : Option (List Bytes)) (est hl tl : Nat) (H T : Bytes)
    (CTL : List Bytes → Bytes) (ctl : List Bytes → Nat)
    (hH : H.length = hl) (hT : T.length = tl) (hC : ∀ c, (CTL c).length = ctl c) :
    PlanMatches
      (match content with
        | none => if est > 0 then [hl + tl, 0] else [hl + tl]
        | some c => [hl + ctl c] ++ c.map (fun _ => 0) ++
            (if est > 0 then [tl, 0] else if tl = 0 then [] else [tl]))
      (planSegs content est H T CTL) := by
  have hHT : hl + tl = (H ++ T).length := by simp [hH, hT]
  unfold planSegs
  cases content with
  | none =>
    dsimp only
    split
    · exact planMatches_cons _ _ _ _ (Or.inr hHT)
        (planMatches_cons _ _ _ _ (Or.inl rfl) planMatches_nil)
    · exact planMatches_cons _ _ _ _ (Or.inr hHT) planMatches_nil
  | some c =>
    dsimp only
    rw [List.append_assoc, List.append_assoc]
    refine planMatches_cons _ _ _ _ (Or.inr (by simp [hH, hC])) (planMatches_nocopy c _ _ ?_)
    split
    · exact planMatches_cons _ _ _ _ (Or.inr hT.symm)
        (planMatches_cons _ _ _ _ (Or.inl rfl) planMatches_nil)
    · have hiff : tl = 0 ↔ T = [] := by rw [← hT]; exact List.length_eq_zero_iff
      by_cases h0 : tl = 0
      · rw [if_pos h0, if_pos (hiff.1 h0)]; exact planMatches_nil
      · rw [if_neg h0, if_neg (fun h => h0 (hiff.2 h))]
        exact planMatches_cons _ _ _ _ (Or.inr hT.symm) planMatches_nil

theorem sigTail_length (t tv : Nat) (ht : t ≤ 252) (htv : tv ≤ 252) (si : Option SigInfo) (est : Nat) :
    (optB si (fun s => encTL t ++ encTL (sigInfoLen s) ++ encSigInfo s) ++ sigTL tv est).length
      = optN si (fun s => 1 + tlLen (sigInfoLen s) + sigInfoLen s) + (if est > 0 then 1 + tlLen est else 0) := by
  rw [List.length_append, sigInfoTLV_length encSigInfo_length t ht]
  unfold sigTL
  split <;> simp [encTL_length, tlLen_small htv]

theorem dataPlan_matches (d : DataIn) : PlanMatches (dataPlan d) (dataSegs d) := by
  rw [dataSegs_eq]; unfold dataPlan
  exact planShape d.content d.est _ _ (dataHead d) (dataTail d)
    (fun c => encTL 21 ++ encTL (contentLen c)) (fun c => 1 + tlLen (contentLen c))
    (dataHead_length encNameInner_length encMeta_length d) (sigTail_length 22 23 (by decide) (by decide) d.si d.est)
    (fun c => by simp [encTL_length, tlLen_small])

theorem interestPlan_matches (i : InterestIn) (fn : Name) :
    PlanMatches (interestPlan i fn) (interestSegs i fn) := by
  rw [interestSegs_eq]; unfold interestPlan
  exact planShape i.ap i.est _ _ (interestHead i fn) (interestTail i)
    (fun c => encTL 36 ++ encTL (contentLen c)) (fun c => 1 + tlLen (contentLen c))
    (interestHead_length encNameInner_length encLinks_length i fn) (sigTail_length 44 46 (by decide) (by decide) i.si i.est)
    (fun c => by simp [encTL_length, tlLen_small])

end Ndn.C03
