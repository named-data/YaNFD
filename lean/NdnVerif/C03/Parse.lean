/-
  C03/Parse.lean — what the generated parsers do (zz_generated.go `<Model>ParsingContext.Parse`,
  spec.go ReadData / ReadInterest / ReadPacket / checkInterest, name_pattern.go ReadName /
  NameFromBytes, name_component.go ReadComponent / ComponentFromBytes), written once over the
  reader model `Rd` (BufferReader or WireReader), branch by branch:

  * the outer `for { startPos = reader.Pos(); if startPos >= reader.Length() break; typ; l; … }`
  * unordered models (Packet, MetaInfo, SignatureInfo, KeyLocator, ValidityPeriod, Links):
    `switch typ` with the critical-bit rule in `default`
  * ordered models (Data, Interest): the `for handled := false; !handled && progress < N; progress++`
    loop with its absent-actions (offset markers!), including its behaviour on repeated /
    out-of-order / trailing elements (value not skipped when `progress` is exhausted)
  * name fields (`make(enc.Name, l/2+1)` loop), the Interest name variant that tracks the
    ParametersSha256Digest component for the signed range
  * natural / time fields (`l` ∈ {1,2,4,8}, then `l` × ReadByte), fixedUint (`l` × ReadByte, any `l`), binary
    (`io.ReadFull`), string (`io.CopyN`), wire (`ReadWire`), struct (`Delegate`), HopLimit (`Skip(1)` + `Range`).
-/
import NdnVerif.C03.Model
namespace Ndn.C03

/-- `int(l)` of a TLNum `l ≥ 2^63` is negative. The reader operations take `Nat` lengths and fail for
    every length beyond the remaining input, which is also what the Go readers do for a negative
    `int` (ReadWire/ReadBuf/Skip return an error, Delegate returns an empty reader without advancing);
    only the `for i := 0; i < int(l); i++` loops and `io.CopyN(…, int64(l))` behave differently for a
    negative count: they do nothing and report no error. -/
def negInt (l : Nat) : Bool := l ≥ 2 ^ 63

/-- `ReadTLNum`: 1, 3, 5 or 9 × ReadByte -/
def readBytesAcc : Nat → Rd → Nat → Res (Nat × Rd)
  | 0, r, acc => .ok (acc, r)
  | k + 1, r, acc => do
    let (x, r) ← r.readByte
    readBytesAcc k r ((acc * 256 + x) % u64)

def readTL (r : Rd) : Res (Nat × Rd) := do
  let (x, r) ← r.readByte
  if x ≤ 0xfc then pure (x, r)
  else readBytesAcc (tlExtra x) r 0

/-- natural / time / fixedUint value: `for i := 0; i < int(l); i++ { ReadByte }` accumulating in a
    `width`-bit unsigned. A negative `int(l)` runs zero iterations (value 0, no error). If fewer than
    `l` bytes remain the loop ends in io.ErrUnexpectedEOF; the guard avoids iterating a huge `l`. -/
def readNat (r : Rd) (l : Nat) (width : Nat) : Res (Nat × Rd) :=
  if negInt l then .ok (0, r)
  else if l > r.length - r.pos then .err
  else do
    let (v, r) ← readBytesAcc l r 0
    pure (v % 2 ^ width, r)

/-- a non-negative integer of the NDN packet format is 1, 2, 4 or 8 bytes long -/
def natWidthOk (l : Nat) : Bool := l == 1 || l == 2 || l == 4 || l == 8

/-- natural and time fields (`GenNaturalNumberDecode`; repair F-13e: before it every length was
    accepted): `if l != 1 && l != 2 && l != 4 && l != 8 { err = ErrFormat } else { the byte loop }` -/
def readNatural (r : Rd) (l : Nat) : Res (Nat × Rd) :=
  if natWidthOk l then readNat r l 64 else .err

/-- the encoder only ever writes the four widths the decoder accepts -/
theorem natWidthOk_natLen (x : Nat) : natWidthOk (natLen x) = true := by
  unfold natLen natWidthOk; repeat' split
  all_goals decide

@[simp] theorem readNatural_natLen (r : Rd) (x : Nat) :
    readNatural r (natLen x) = readNat r (natLen x) 64 := by
  unfold readNatural; rw [if_pos (natWidthOk_natLen x)]

theorem readNatural_ok {r r1 : Rd} {l x : Nat} (h : readNatural r l = .ok (x, r1)) :
    readNat r l 64 = .ok (x, r1) := by
  unfold readNatural at h
  split at h
  · exact h
  · cases h

def critical (typ : Nat) : Bool := typ ≤ 31 || typ % 2 == 1

/-- the generated guard of name and binary fields (`if l > enc.TLNum(reader.Length()-reader.Pos())`,
    an unsigned comparison): the announced length must not exceed what is left to read -/
def lenGuard (r : Rd) (l : Nat) : Res Unit :=
  if l > r.length - r.pos then .err else .ok ()

/-- string field: `io.CopyN(&builder, reader, int64(l))`; a negative count copies nothing and reports
    no error -/
def readString (r : Rd) (l : Nat) : Res (Bytes × Rd) :=
  if negInt l then .ok ([], r) else r.readFull l

/-! ### names -/

/-- the component loop of a generated name field: at most `l/2+1` components, stop when
    `reader.Pos() >= endName`; `sigEnd` tracks the start of the last ParametersSha256Digest
    component (Interest name only; ignored elsewhere) -/
def nameLoop : Nat → Rd → Nat → Name → Nat → Res (Name × Nat × Rd)
  | 0, r, endName, acc, sigEnd => if r.pos ≠ endName then .err else .ok (acc, sigEnd, r)
  | fuel + 1, r, endName, acc, sigEnd =>
    let startComponent := r.pos
    if startComponent ≥ endName then
      (if r.pos ≠ endName then .err else .ok (acc, sigEnd, r))
    else do
      let (t, r) ← readTL r
      let (l, r) ← readTL r
      let (v, r) ← r.readBuf l
      nameLoop fuel r endName (acc ++ [⟨t, v⟩]) (if t = 2 then startComponent else sigEnd)

/-- a name field of announced length `l`: (name, sigCoverEnd, reader) -/
def readNameField (r : Rd) (l : Nat) : Res (Name × Nat × Rd) := do
  lenGuard r l
  let startName := r.pos
  nameLoop (l / 2 + 1) r (startName + l) [] (startName + l)

/-- `ReadComponent` -/
def readComponent (r : Rd) : Res (Component × Rd) := do
  let (t, r) ← readTL r
  let (l, r) ← readTL r
  let (v, r) ← r.readBuf l
  pure (⟨t, v⟩, r)

/-- `ReadName`: components until a clean io.EOF at a component boundary -/
def readNameLoop : Nat → Rd → Name → Res Name
  | 0, _, _ => .oom
  | fuel + 1, r, acc =>
    if r.pos ≥ r.length then .ok acc          -- first ReadByte of ReadTLNum returns io.EOF
    else do
      let (c, r) ← readComponent r
      readNameLoop fuel r (acc ++ [c])

/-- `NameFromBytes` -/
def nameFromBytes (b : Bytes) : Res Name := do
  let r := newBufferReader b
  let (t, r) ← readTL r
  if t ≠ 7 then .err else
  let (l, r) ← readTL r
  let start := r.pos
  let n ← readNameLoop (b.length + 1) r []
  if l ≠ r.length - start then .err else pure n

/-- `ComponentFromBytes` (trailing bytes are ignored by the code) -/
def componentFromBytes (b : Bytes) : Res Component := do
  let (c, _) ← readComponent (newBufferReader b)
  pure c

/-! ### the generic TLV loop -/

/-- `for { startPos = Pos(); if startPos >= Length() break; typ, l = ReadTLNum ×2; body }` -/
def tlvLoop {σ : Type} (body : σ → Nat → Nat → Nat → Rd → Res (σ × Rd)) : Nat → σ → Rd → Res (σ × Rd)
  | 0, _, _ => .oom
  | fuel + 1, st, r =>
    let startPos := r.pos
    if startPos ≥ r.length then .ok (st, r)
    else do
      let (typ, r) ← readTL r
      let (l, r) ← readTL r
      let (st, r) ← body st typ l startPos r
      tlvLoop body fuel st r

def loopFuel (r : Rd) : Nat := r.length - r.pos + 1

/-- `default:` of every generated switch -/
def unknownField {σ : Type} (st : σ) (typ l : Nat) (r : Rd) : Res (σ × Rd) :=
  if critical typ then .err else do
    let r ← r.skip l
    pure (st, r)

/-! ### unordered sub-structures -/

def keyLocBody (k : KeyLoc) (typ l _sp : Nat) (r : Rd) : Res (KeyLoc × Rd) :=
  if typ = 7 then do
    let (n, _, r) ← readNameField r l
    pure ({ k with name := some n }, r)
  else if typ = 29 then do
    lenGuard r l
    let (v, r) ← r.readFull l
    pure ({ k with digest := some v }, r)
  else unknownField k typ l r

def parseKeyLoc (r : Rd) : Res KeyLoc := do
  let (k, _) ← tlvLoop keyLocBody (loopFuel r) ⟨none, none⟩ r
  pure k

/-- ValidityPeriod: both strings are required fields -/
def validityBody (v : Option Bytes × Option Bytes) (typ l _sp : Nat) (r : Rd) : Res ((Option Bytes × Option Bytes) × Rd) :=
  if typ = 254 then do
    let (s, r) ← readString r l
    pure ((some s, v.2), r)
  else if typ = 255 then do
    let (s, r) ← readString r l
    pure ((v.1, some s), r)
  else unknownField v typ l r

def parseValidity (r : Rd) : Res (Bytes × Bytes) := do
  let (v, _) ← tlvLoop validityBody (loopFuel r) (none, none) r
  match v with
  | (some a, some b) => pure (a, b)
  | _ => .err                                   -- ErrSkipRequired

structure SigInfoSt where
  typ : Option Nat := none
  si : SigInfo := { typ := 0 }

def sigInfoBody (s : SigInfoSt) (typ l _sp : Nat) (r : Rd) : Res (SigInfoSt × Rd) :=
  if typ = 27 then do
    let (v, r) ← readNatural r l
    pure ({ s with typ := some v }, r)
  else if typ = 28 then do
    let (sub, r) ← r.delegate l
    let k ← parseKeyLoc sub
    pure ({ s with si := { s.si with keyLoc := some k } }, r)
  else if typ = 38 then do
    lenGuard r l
    let (v, r) ← r.readFull l
    pure ({ s with si := { s.si with nonce := some v } }, r)
  else if typ = 40 then do
    let (v, r) ← readNatural r l
    pure ({ s with si := { s.si with time := some v } }, r)
  else if typ = 42 then do
    let (v, r) ← readNatural r l
    pure ({ s with si := { s.si with seq := some v } }, r)
  else if typ = 253 then do
    let (sub, r) ← r.delegate l
    let v ← parseValidity sub
    pure ({ s with si := { s.si with validity := some v } }, r)
  else if typ = 258 then .oom                   -- AdditionalDescription: never built here
  else unknownField s typ l r

def parseSigInfo (r : Rd) : Res SigInfo := do
  let (s, _) ← tlvLoop sigInfoBody (loopFuel r) {} r
  match s.typ with
  | some t => pure { s.si with typ := t }
  | none => .err                                -- SignatureType is required

def metaBody (m : MetaInfo) (typ l _sp : Nat) (r : Rd) : Res (MetaInfo × Rd) :=
  if typ = 24 then do
    let (v, r) ← readNatural r l
    pure ({ m with ct := some v }, r)
  else if typ = 25 then do
    let (v, r) ← readNatural r l
    pure ({ m with fresh := some v }, r)
  else if typ = 26 then do
    lenGuard r l
    let (v, r) ← r.readFull l
    pure ({ m with fb := some v }, r)
  else unknownField m typ l r

def parseMeta (r : Rd) : Res MetaInfo := do
  let (m, _) ← tlvLoop metaBody (loopFuel r) {} r
  pure m

def linksBody (ns : List Name) (typ l _sp : Nat) (r : Rd) : Res (List Name × Rd) :=
  if typ = 7 then do
    let (n, _, r) ← readNameField r l
    pure (ns ++ [n], r)
  else unknownField ns typ l r

def parseLinks (r : Rd) : Res (List Name) := do
  let (ns, _) ← tlvLoop linksBody (loopFuel r) [] r
  pure ns

/-! ### ordered models: the `progress` loop -/

/-- one outer iteration of an ordered model. `q = progress + 1`. `idx typ` is the slot of a known
    field type, `handle k` consumes the value of slot `k`, `absent k` is the action of the
    `switch progress` arm for slot `k` (offset / range markers), `n` the number of slots. -/
def ordLoop {σ : Type} (n : Nat) (idx : Nat → Option Nat)
    (handle : Nat → σ → Nat → Nat → Rd → Res (σ × Rd)) (absent : Nat → σ → Nat → Rd → σ)
    (typ l sp : Nat) : Nat → Nat → σ → Rd → Res ((σ × Nat) × Rd)
  | 0, q, st, r => .ok ((st, q), r)
  | fuel + 1, q, st, r =>
    if q > n then .ok ((st, q), r)
    else match idx typ with
      | some k =>
        if q = k then do
          let (st, r) ← handle k st l sp r
          pure ((st, q + 1), r)
        else ordLoop n idx handle absent typ l sp fuel (q + 1) (absent q st sp r) r
      | none =>
        -- `default:` skips the element and does `progress--`: an unknown non-critical element does
        -- not consume a field slot (fix F-13a)
        if critical typ then .err else do
          let r ← r.skip l
          pure ((st, q), r)

/-- the tail of an ordered `Parse`: slots never reached get their absent-action at the end position -/
def ordFinish {σ : Type} (absent : Nat → σ → Nat → Rd → σ) (r : Rd) : Nat → Nat → σ → σ
  | 0, _, st => st
  | fuel + 1, q, st => ordFinish absent r fuel (q + 1) (absent q st r.pos r)

/-! ### Data -/

structure DataP where
  name : Option Name := none
  mi : Option MetaInfo := none
  content : Option Bytes := none
  si : Option SigInfo := none
  sv : Option Bytes := none
deriving DecidableEq, Repr

/-- `DataParsingContext` + the value under construction -/
structure DataSt where
  v : DataP := {}
  sigCovered : Bytes := []
  sigCoverStart : Nat := 0
deriving Repr

def dataIdx (typ : Nat) : Option Nat :=
  if typ = 7 then some 2 else if typ = 20 then some 3 else if typ = 21 then some 4
  else if typ = 22 then some 5 else if typ = 23 then some 6 else none

def dataHandle (k : Nat) (s : DataSt) (l sp : Nat) (r : Rd) : Res (DataSt × Rd) :=
  if k = 2 then do
    let (n, _, r) ← readNameField r l
    pure ({ s with v := { s.v with name := some n } }, r)
  else if k = 3 then do
    let (sub, r) ← r.delegate l
    let m ← parseMeta sub
    pure ({ s with v := { s.v with mi := some m } }, r)
  else if k = 4 then do
    let (c, r) ← r.readWire l
    pure ({ s with v := { s.v with content := some c } }, r)
  else if k = 5 then do
    let (sub, r) ← r.delegate l
    let si ← parseSigInfo sub
    pure ({ s with v := { s.v with si := some si } }, r)
  else do
    let (c, r) ← r.readWire l
    pure ({ s with v := { s.v with sv := some c }, sigCovered := s.sigCovered ++ r.range s.sigCoverStart sp }, r)

def dataAbsent (k : Nat) (s : DataSt) (sp : Nat) (_r : Rd) : DataSt :=
  if k = 1 then { s with sigCoverStart := sp } else s

def dataBody (s : DataSt × Nat) (typ l sp : Nat) (r : Rd) : Res ((DataSt × Nat) × Rd) :=
  ordLoop 7 dataIdx dataHandle dataAbsent typ l sp 9 s.2 s.1 r

/-- `DataParsingContext.Parse` starting from context state `s0` (contexts persist across repeated
    Data elements of one Packet) -/
def parseData (s0 : DataSt) (r : Rd) : Res DataSt := do
  let ((s, q), r) ← tlvLoop dataBody (loopFuel r) ({ s0 with v := {} }, 0) r
  pure (ordFinish dataAbsent r (7 - q) q s)

/-! ### Interest -/

structure InterestP where
  name : Option Name := none
  cbp : Bool := false
  mbf : Bool := false
  fh : Option (List Name) := none
  nonce : Option Nat := none
  lt : Option Nat := none
  hl : Option Nat := none
  ap : Option Bytes := none
  si : Option SigInfo := none
  sv : Option Bytes := none
deriving DecidableEq, Repr

structure InterestSt where
  v : InterestP := {}
  sigCovered : Bytes := []
  digestCovered : Bytes := []
  sigCoverStart : Nat := 0
  digestCoverStart : Nat := 0
deriving Repr

def interestIdx (typ : Nat) : Option Nat :=
  if typ = 7 then some 2 else if typ = 33 then some 3 else if typ = 18 then some 4
  else if typ = 30 then some 5 else if typ = 10 then some 6 else if typ = 12 then some 7
  else if typ = 34 then some 8 else if typ = 36 then some 11 else if typ = 44 then some 12
  else if typ = 46 then some 13 else none

def interestHandle (k : Nat) (s : InterestSt) (l sp : Nat) (r : Rd) : Res (InterestSt × Rd) :=
  if k = 2 then do
    let startName := r.pos
    let (n, sigEnd, r) ← readNameField r l
    pure ({ s with v := { s.v with name := some n }, sigCovered := s.sigCovered ++ r.range startName sigEnd }, r)
  else if k = 3 then pure ({ s with v := { s.v with cbp := true } }, r)      -- value NOT skipped
  else if k = 4 then pure ({ s with v := { s.v with mbf := true } }, r)
  else if k = 5 then do
    let (sub, r) ← r.delegate l
    let ns ← parseLinks sub
    pure ({ s with v := { s.v with fh := some ns } }, r)
  else if k = 6 then do
    let (x, r) ← readNat r l 32
    pure ({ s with v := { s.v with nonce := some x } }, r)
  else if k = 7 then do
    let (x, r) ← readNatural r l
    pure ({ s with v := { s.v with lt := some x } }, r)
  else if k = 8 then
    -- err = reader.Skip(1); value.HopLimitV = &reader.Range(Pos()-1, Pos())[0][0]   (l is ignored)
    match r.skip 1 with
    | .ok r =>
      match r.range (r.pos - 1) r.pos with
      | x :: _ => pure ({ s with v := { s.v with hl := some x } }, r)
      | [] => .panic "index out of range (HopLimit Range)"
    | .err => .err       -- a failed Skip leaves the reader unchanged; Range(Pos()-1, Pos()) is valid (Pos() ≥ 2)
    | .panic m => .panic m
    | .alloc => .alloc
    | .oom => .oom
  else if k = 11 then do
    let (c, r) ← r.readWire l
    pure ({ s with v := { s.v with ap := some c } }, r)
  else if k = 12 then do
    let (sub, r) ← r.delegate l
    let si ← parseSigInfo sub
    pure ({ s with v := { s.v with si := some si } }, r)
  else do
    let (c, r) ← r.readWire l
    pure ({ s with v := { s.v with sv := some c }, sigCovered := s.sigCovered ++ r.range s.sigCoverStart sp }, r)

def interestAbsent (k : Nat) (s : InterestSt) (sp : Nat) (r : Rd) : InterestSt :=
  if k = 9 then { s with sigCoverStart := sp }
  else if k = 10 then { s with digestCoverStart := sp }
  else if k = 14 then { s with digestCovered := r.range s.digestCoverStart sp }
  else s

def interestBody (s : InterestSt × Nat) (typ l sp : Nat) (r : Rd) : Res ((InterestSt × Nat) × Rd) :=
  ordLoop 15 interestIdx interestHandle interestAbsent typ l sp 17 s.2 s.1 r

def parseInterest (s0 : InterestSt) (r : Rd) : Res InterestSt := do
  let ((s, q), r) ← tlvLoop interestBody (loopFuel r) ({ s0 with v := {} }, 0) r
  pure (ordFinish interestAbsent r (15 - q) q s)

/-- `checkInterest` with SHA-256 `H` -/
def checkInterest (H : Bytes → Bytes) (s : InterestSt) : Bool :=
  match s.v.name with
  | none => false
  | some name =>
    if s.v.sv.isSome ∧ s.v.ap.isNone then false
    else if s.v.ap.isSome then
      match name.getLast? with
      | none => false
      | some c => c.typ = 2 ∧ c.val = H s.digestCovered
    else
      -- no parameters: a trailing ParametersSha256Digest component is rejected
      match name.getLast? with
      | some c => c.typ ≠ 2
      | none => true

/-! ### Packet -/

structure PacketSt where
  interest : Option InterestSt := none    -- value.Interest (with the context as of its parse)
  data : Option DataSt := none
  ictx : InterestSt := {}
  dctx : DataSt := {}
deriving Repr

def packetBody (p : PacketSt) (typ l _sp : Nat) (r : Rd) : Res (PacketSt × Rd) :=
  if typ = 5 then do
    let (sub, r) ← r.delegate l
    let s ← parseInterest p.ictx sub
    pure ({ p with interest := some s, ictx := s }, r)
  else if typ = 6 then do
    let (sub, r) ← r.delegate l
    let s ← parseData p.dctx sub
    pure ({ p with data := some s, dctx := s }, r)
  else if typ = 100 then .oom                   -- LpPacket: not part of this model
  else unknownField p typ l r

def parsePacket (r : Rd) : Res PacketSt := do
  let (p, _) ← tlvLoop packetBody (loopFuel r) {} r
  pure p

/-- `Spec{}.ReadData`: (Data, sigCovered) -/
def readData (r : Rd) : Res (DataP × Bytes) := do
  let p ← parsePacket r
  match p.data with
  | none => .err
  | some d => if d.v.name.isNone then .err else pure (d.v, p.dctx.sigCovered)

/-- `Spec{}.ReadInterest` -/
def readInterest (H : Bytes → Bytes) (r : Rd) : Res (InterestP × Bytes) := do
  let p ← parsePacket r
  match p.interest with
  | none => .err
  | some i => if checkInterest H { i with digestCovered := p.ictx.digestCovered } then pure (i.v, p.ictx.sigCovered) else .err

inductive Pkt where
  | data (d : DataP) (cov : Bytes)
  | interest (i : InterestP) (cov : Bytes)
deriving Repr

/-- `ReadPacket` (Data checked first, then Interest) -/
def readPacket (H : Bytes → Bytes) (r : Rd) : Res Pkt := do
  let p ← parsePacket r
  match p.data with
  | some d => if d.v.name.isNone then .err else pure (.data d.v p.dctx.sigCovered)
  | none =>
    match p.interest with
    | some i => if checkInterest H { i with digestCovered := p.ictx.digestCovered } then pure (.interest i.v p.ictx.sigCovered) else .err
    | none => .err

end Ndn.C03
