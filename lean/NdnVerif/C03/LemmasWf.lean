/-
  C03/LemmasWf.lean — the encoder's normal-form output is a well-formed TLV structure according to
  the independent walker of Spec.lean (`Spec.walk`, `Spec.wfData`, `Spec.wfInterest`).

  The walker peels one shortest-form TLV (`walk_peel`), hence on a sequence of elements it returns
  exactly that sequence, and a test of its elements is a test of the sequence (`walked`). Every
  sub-encoder of Model.lean writes such a sequence (`encMeta_tvs`, `encSigInfo_tvs`, …: lists built
  with `optC`/`boolC` in the order of the fields), so each `wf…` predicate is one case per field
  (`wfMetaInfo_enc`, `wfSigInfo_enc`, …). The only bound is on the bytes written: no element is
  longer than the sequence it stands in, so the bound of the packet comes down to every level.
  `wfData` and `wfInterest` are one predicate `wfPacket` (outer type, order, test of an element).
-/
import NdnVerif.C03.LemmasTlv
namespace Ndn.C03
open Spec

def TVok (p : TV) : Prop := p.1 < 2 ^ 64 ∧ p.2.length < 2 ^ 64

/-- what the walker returns on `encTVs l` started at offset `off` -/
def mkTlvs : Nat → List TV → List Tlv
  | _, [] => []
  | off, p :: l =>
    ⟨p.1, p.2, off, tlLen p.1 + tlLen p.2.length⟩ ::
      mkTlvs (off + (tlLen p.1 + tlLen p.2.length) + p.2.length) l

def optC {α : Type} (o : Option α) (f : α → TV) (l : List TV) : List TV :=
  match o with | none => l | some a => f a :: l

def boolC (b : Bool) (p : TV) (l : List TV) : List TV := if b then p :: l else l

theorem length_le_encTVs (l : List TV) : l.length ≤ (encTVs l).length := by
  induction l with
  | nil => exact Nat.le_refl _
  | cons p l ih =>
    have := tlLen_pos p.1
    rw [encTVs_cons, List.length_append, encTV_length, List.length_cons]; omega

theorem minimalTL_encTL (x : Nat) (rest : Bytes) : minimalTL (encTL x ++ rest) x = true := by
  unfold minimalTL
  rw [← encTL_length x, List.take_left]
  exact beq_self_eq_true _

theorem walk_peel (fuel off t : Nat) (v rest : Bytes) (ht : t < 2 ^ 64) (hv : v.length < 2 ^ 64) :
    walk (fuel + 1) off (encTL t ++ encTL v.length ++ v ++ rest)
      = (walk fuel (off + (tlLen t + tlLen v.length) + v.length) rest).map
          (⟨t, v, off, tlLen t + tlLen v.length⟩ :: ·) := by
  obtain ⟨x, b', hb⟩ : ∃ x b', encTL t ++ encTL v.length ++ v ++ rest = x :: b' := by
    cases h : encTL t with
    | nil => exact absurd h (Ndn.encTL_ne_nil t)
    | cons x b' => exact ⟨x, b' ++ encTL v.length ++ v ++ rest, rfl⟩
  have h1 : decTL (x :: b') = some (t, encTL v.length ++ (v ++ rest)) := by
    rw [← hb, List.append_assoc, List.append_assoc]; exact decTL_encTL t ht _
  have h2 : decTL (encTL v.length ++ (v ++ rest)) = some (v.length, v ++ rest) := decTL_encTL v.length hv _
  have m1 : minimalTL (x :: b') t = true := by
    rw [← hb, List.append_assoc, List.append_assoc]; exact minimalTL_encTL t _
  have m2 : minimalTL (encTL v.length ++ (v ++ rest)) v.length = true := minimalTL_encTL v.length _
  have hl : (x :: b').length - (v.length + rest.length) = tlLen t + tlLen v.length := by
    rw [← hb]; simp only [List.length_append, encTL_length]; omega
  rw [hb]
  simp only [walk, h1, h2, m1, m2, hl, List.length_append, List.drop_left, List.take_left, Bool.not_true,
    Bool.false_eq_true, if_false, show ¬ (v.length + rest.length < v.length) by omega]
  cases walk fuel (off + (tlLen t + tlLen v.length) + v.length) rest <;> rfl

theorem walk_encTVs (l : List TV) : ∀ (fuel off : Nat), l.length ≤ fuel → (∀ p ∈ l, TVok p) →
    walk fuel off (encTVs l) = some (mkTlvs off l) := by
  induction l with
  | nil => intro fuel off _ _; cases fuel <;> rfl
  | cons p l ih =>
    intro fuel off hf hok
    cases fuel with
    | zero => simp at hf
    | succ fuel =>
      have hp := hok p (List.mem_cons_self ..)
      rw [encTVs_cons, encTV, walk_peel fuel off p.1 p.2 (encTVs l) hp.1 hp.2,
        ih fuel _ (by simpa using hf) (fun q hq => hok q (List.mem_cons_of_mem _ hq))]
      rfl

theorem tlvs_encTVs (l : List TV) (hok : ∀ p ∈ l, TVok p) : tlvs (encTVs l) = some (mkTlvs 0 l) :=
  walk_encTVs l _ 0 (by have := length_le_encTVs l; omega) hok

theorem all_mkTlvs (f : Tlv → Bool) (l : List TV) :
    ∀ off, (∀ p ∈ l, ∀ o h, f ⟨p.1, p.2, o, h⟩ = true) → (mkTlvs off l).all f = true := by
  induction l with
  | nil => intro off _; rfl
  | cons p l ih =>
    intro off h
    simp only [mkTlvs, List.all_cons, Bool.and_eq_true]
    exact ⟨h p (List.mem_cons_self ..) _ _, ih _ (fun q hq => h q (List.mem_cons_of_mem _ hq))⟩

/-- The walker on a sequence of elements returns that sequence, and a test of type and value holds of all of
    it when it holds of every element. No element is longer than the sequence, so one bound serves for all. -/
theorem walked (chk : Nat → Bytes → Bool) (l : List TV) (hlen : (encTVs l).length < 2 ^ 64)
    (h : ∀ p ∈ l, p.2.length < 2 ^ 64 → p.1 < 2 ^ 64 ∧ chk p.1 p.2 = true) :
    tlvs (encTVs l) = some (mkTlvs 0 l) ∧ (mkTlvs 0 l).all (fun t => chk t.typ t.val) = true :=
  have hb : ∀ p ∈ l, p.2.length < 2 ^ 64 := fun _ hp => Nat.lt_of_le_of_lt (val_length_le hp) hlen
  ⟨tlvs_encTVs l fun p hp => ⟨(h p hp (hb p hp)).1, hb p hp⟩,
    all_mkTlvs _ l 0 fun p hp _ _ => (h p hp (hb p hp)).2⟩

theorem withTy {t : Nat} {v : Bytes} {P : Prop} (ht : t < 2 ^ 64) (h : P) : (t, v).1 < 2 ^ 64 ∧ P := ⟨ht, h⟩

theorem map_typ_mkTlvs (l : List TV) : ∀ off, (mkTlvs off l).map (·.typ) = l.map (·.1) := by
  induction l with
  | nil => intro off; rfl
  | cons p l ih => intro off; simp only [mkTlvs, List.map_cons, ih]

theorem head_typ_mkTlvs (l : List TV) (off : Nat) :
    (mkTlvs off l).head?.map (·.typ) = l.head?.map (·.1) := by
  cases l <;> rfl

theorem inOrder_of_sublist (o : List Nat) : ∀ l : List Nat, l.Sublist o → inOrder l o = true := by
  induction o with
  | nil => intro l h; simp at h; subst h; simp [inOrder]
  | cons a o ih =>
    intro l h
    cases l with
    | nil => simp [inOrder]
    | cons t ts =>
      simp only [inOrder]
      split
      · rename_i hta
        subst hta
        apply ih
        cases h with
        | cons _ h => exact (List.sublist_cons_self t ts).trans h
        | cons_cons _ h => exact h
      · rename_i hta
        apply ih
        cases h with
        | cons _ h => exact h
        | cons_cons _ h => exact absurd rfl hta

@[simp] theorem mem_optC {α : Type} (o : Option α) (f : α → TV) (l : List TV) (p : TV) :
    p ∈ optC o f l ↔ (∃ a, o = some a ∧ p = f a) ∨ p ∈ l := by
  cases o <;> simp [optC]

@[simp] theorem mem_boolC (b : Bool) (p : TV) (l : List TV) (q : TV) : q ∈ boolC b p l ↔ (b = true ∧ q = p) ∨ q ∈ l := by
  cases b <;> simp [boolC]

theorem encTVs_optC {α : Type} (o : Option α) (f : α → TV) (l : List TV) {g : α → Bytes}
    (h : ∀ a, g a = encTV (f a)) : encTVs (optC o f l) = optB o g ++ encTVs l := by
  cases o with
  | none => rfl
  | some a => rw [optB_some, h]; rfl

theorem encTVs_boolC (b : Bool) (t : Nat) (l : List TV) : encTVs (boolC b (t, []) l) = boolField t b ++ encTVs l := by
  cases b
  · rfl
  · rw [boolField_true]; rfl

theorem encTVs_sigValue (t est : Nat) (sv : Bytes) :
    encTVs (boolC (decide (est > 0)) (t, sv) []) = if est > 0 then encTL t ++ encTL sv.length ++ sv else [] := by
  by_cases he : est > 0 <;> simp [he, boolC, encTV]

/-- the types of a sequence built with `optC`/`boolC` stand in the order in which it is built -/
theorem sublist_optC {α : Type} (x : Option α) (t : Nat) (g : α → Bytes) {l : List TV} {o : List Nat}
    (hl : (l.map (·.1)).Sublist o) : ((optC x (fun a => (t, g a)) l).map (·.1)).Sublist (t :: o) := by
  cases x with
  | none => exact hl.cons _
  | some a => exact hl.cons_cons _

theorem sublist_boolC (b : Bool) (p : TV) {l : List TV} {o : List Nat} (hl : (l.map (·.1)).Sublist o) :
    ((boolC b p l).map (·.1)).Sublist (p.1 :: o) := by
  cases b
  · exact hl.cons _
  · exact hl.cons_cons _

theorem natLenOk_be (x : Nat) : natLenOk (be (natLen x) x) = true := by
  rcases natLen_cases x with h | h | h | h <;> rw [natLenOk, be_length, h] <;> rfl

/-! ### the sub-structures: what each encoder writes, as a sequence of elements, and the walker's verdict.
The bound is on the bytes written (it comes down from the packet, see `walked`), not on the announced length. -/

def nameTVs (n : Name) : List TV := n.map (fun c => (c.typ, c.val))

theorem encNameInner_tvs (n : Name) : encNameInner n = encTVs (nameTVs n) := by
  induction n with
  | nil => rfl
  | cons c n ih => rw [encNameInner_cons, ih]; rfl

theorem wfName_enc (n : Name) (hv : NameValid n) (hl : (encNameInner n).length < 2 ^ 64) :
    wfName (encNameInner n) = true := by
  rw [encNameInner_tvs] at hl ⊢
  rw [wfName, (walked (fun _ _ => true) _ hl fun p hp _ => by
    obtain ⟨c, hc, rfl⟩ := List.mem_map.mp hp
    exact ⟨hv c hc, rfl⟩).1]
  rfl

def metaTVs (m : MetaInfo) : List TV :=
  optC m.ct (fun x => (24, be (natLen x) x)) <| optC m.fresh (fun x => (25, be (natLen x) x)) <|
    optC m.fb (fun v => (26, v)) []

theorem encMeta_tvs (m : MetaInfo) : encMeta m = encTVs (metaTVs m) := by
  rw [metaTVs, encTVs_optC _ _ _ (encNatField_eq 24), encTVs_optC _ _ _ (encNatField_eq 25),
    encTVs_optC _ _ _ (encBinField_eq 26), encTVs_nil, List.append_nil, ← List.append_assoc]
  rfl

theorem wfMetaInfo_enc (m : MetaInfo) (hl : (encMeta m).length < 2 ^ 64) : wfMetaInfo (encMeta m) = true := by
  rw [encMeta_tvs] at hl ⊢
  obtain ⟨e, ha⟩ := walked (fun t v => if t = 24 || t = 25 then natLenOk v else true) (metaTVs m) hl (by
    intro p hp _
    simp only [metaTVs, mem_optC, List.not_mem_nil, or_false] at hp
    rcases hp with ⟨x, _, rfl⟩ | ⟨x, _, rfl⟩ | ⟨v, _, rfl⟩
    · exact withTy (by decide) (natLenOk_be x)
    · exact withTy (by decide) (natLenOk_be x)
    · exact withTy (by decide) rfl)
  simp only [wfMetaInfo, e]
  exact ha

def validityTVs (v : Bytes × Bytes) : List TV := [(254, v.1), (255, v.2)]

theorem encValidity_tvs (v : Bytes × Bytes) : encValidity v = encTVs (validityTVs v) := by
  simp [encValidity, validityTVs, encBinField_eq]

theorem tlvs_encValidity (v : Bytes × Bytes) (hl : (encValidity v).length < 2 ^ 64) :
    (tlvs (encValidity v)).isSome = true := by
  rw [encValidity_tvs] at hl ⊢
  rw [(walked (fun _ _ => true) _ hl fun p hp _ => by
    simp only [validityTVs, List.mem_cons, List.not_mem_nil, or_false] at hp
    rcases hp with rfl | rfl <;> exact withTy (by decide) rfl).1]
  rfl

section
variable (E : EncSpecs)
include E

def keyLocTVs (k : KeyLoc) : List TV :=
  optC k.name (fun n => (7, encNameInner n)) <| optC k.digest (fun v => (29, v)) []

theorem encKeyLoc_tvs (k : KeyLoc) : encKeyLoc k = encTVs (keyLocTVs k) := by
  rw [keyLocTVs, encTVs_optC _ _ _ (encNameField_eq E 7), encTVs_optC _ _ _ (encBinField_eq 29), encTVs_nil,
    List.append_nil]
  rfl

theorem wfKeyLocator_enc (k : KeyLoc) (hn : ∀ n, k.name = some n → NameValid n)
    (hl : (encKeyLoc k).length < 2 ^ 64) : wfKeyLocator (encKeyLoc k) = true := by
  rw [encKeyLoc_tvs E] at hl ⊢
  obtain ⟨e, ha⟩ := walked (fun t v => if t = 7 then wfName v else true) (keyLocTVs k) hl (by
    intro p hp hpl
    simp only [keyLocTVs, mem_optC, List.not_mem_nil, or_false] at hp
    rcases hp with ⟨n, hn', rfl⟩ | ⟨v, _, rfl⟩
    · exact withTy (by decide) (wfName_enc n (hn n hn') hpl)
    · exact withTy (by decide) rfl)
  simp only [wfKeyLocator, e]
  exact ha

def sigTVs (s : SigInfo) : List TV :=
  (27, be (natLen s.typ) s.typ) :: (optC s.keyLoc (fun k => (28, encKeyLoc k)) <|
    optC s.nonce (fun v => (38, v)) <| optC s.time (fun x => (40, be (natLen x) x)) <|
    optC s.seq (fun x => (42, be (natLen x) x)) <| optC s.validity (fun v => (253, encValidity v)) [])

theorem encSigInfo_tvs (s : SigInfo) : encSigInfo s = encTVs (sigTVs s) := by
  rw [sigTVs, encTVs_cons, ← encNatField_eq, encTVs_optC _ _ _ (fun k => tlv_eq (E.keyLocLen_eq k)),
    encTVs_optC _ _ _ (encBinField_eq 38), encTVs_optC _ _ _ (encNatField_eq 40),
    encTVs_optC _ _ _ (encNatField_eq 42), encTVs_optC _ _ _ (fun v => tlv_eq (encValidity_length v)),
    encTVs_nil, List.append_nil]
  simp only [encSigInfo, List.append_assoc]

theorem wfSigInfo_enc (s : SigInfo) (hv : SigInfoValid s) (hl : (encSigInfo s).length < 2 ^ 64) :
    wfSigInfo (encSigInfo s) = true := by
  rw [encSigInfo_tvs E] at hl ⊢
  obtain ⟨e, ha⟩ := walked (fun t v => if t = 27 || t = 40 || t = 42 then natLenOk v
      else if t = 28 then wfKeyLocator v else if t = 253 then (tlvs v).isSome else true) (sigTVs s) hl (by
    intro p hp hpl
    simp only [sigTVs, mem_optC, List.mem_cons, List.not_mem_nil, or_false] at hp
    rcases hp with rfl | ⟨k, hk, rfl⟩ | ⟨v, _, rfl⟩ | ⟨x, _, rfl⟩ | ⟨x, _, rfl⟩ | ⟨v, _, rfl⟩
    · exact withTy (by decide) (natLenOk_be _)
    · exact withTy (by decide) (wfKeyLocator_enc E k (hv.2.2.1 k hk) hpl)
    · exact withTy (by decide) rfl
    · exact withTy (by decide) (natLenOk_be x)
    · exact withTy (by decide) (natLenOk_be x)
    · exact withTy (by decide) (tlvs_encValidity v hpl))
  simp only [wfSigInfo, e]
  exact Bool.and_eq_true_iff.mpr ⟨rfl, ha⟩

def linksTVs (ns : List Name) : List TV := ns.map (fun n => (7, encNameInner n))

theorem encLinks_tvs (ns : List Name) : encLinks ns = encTVs (linksTVs ns) := by
  induction ns with
  | nil => rfl
  | cons n ns ih =>
    have : encLinks (n :: ns) = encNameField 7 n ++ encLinks ns := by simp [encLinks]
    rw [this, ih, encNameField_eq E]; rfl

theorem wfLinks_enc (ns : List Name) (hv : ∀ n ∈ ns, NameValid n)
    (hl : (encLinks ns).length < 2 ^ 64) : wfLinks (encLinks ns) = true := by
  rw [encLinks_tvs E] at hl ⊢
  obtain ⟨e, ha⟩ := walked (fun t v => t = 7 && wfName v) (linksTVs ns) hl (by
    intro p hp hpl
    obtain ⟨n, hn, rfl⟩ := List.mem_map.mp hp
    exact withTy (by decide) (wfName_enc n (hv n hn) hpl))
  simp only [wfLinks, e]
  exact ha

end

/-- `wfData` and `wfInterest` are this, each for its outer type, its order of elements and its test of an element -/
def wfPacket (T : Nat) (order : List Nat) (chk : Nat → Bytes → Bool) (b : Bytes) : Bool :=
  match tlvs b with
  | some [o] =>
    o.typ = T &&
    match tlvs o.val with
    | some ts =>
      inOrder (ts.map (·.typ)) order && (ts.head?.map (·.typ)) == some 7 && ts.all fun t => chk t.typ t.val
    | none => false
  | _ => false

/-- a packet in normal form passes when its elements are a sub-sequence of the order, the first is a name, and
    each passes its test -/
theorem wfPacket_of (T : Nat) (order : List Nat) (chk : Nat → Bytes → Bool) (l : List TV)
    (hT : T < 2 ^ 64) (ho : ∀ t ∈ order, t < 2 ^ 64) (hlen : (encTVs l).length < 2 ^ 64)
    (hsub : (l.map (·.1)).Sublist order) (hhead : l.head?.map (·.1) = some 7)
    (hall : ∀ p ∈ l, p.2.length < 2 ^ 64 → chk p.1 p.2 = true) :
    wfPacket T order chk (encTL T ++ encTL (encTVs l).length ++ encTVs l) = true := by
  obtain ⟨e, ha⟩ := walked chk l hlen fun p hp hpl =>
    ⟨ho _ (hsub.subset (List.mem_map_of_mem hp)), hall p hp hpl⟩
  have eo : tlvs (encTL T ++ encTL (encTVs l).length ++ encTVs l) = some (mkTlvs 0 [(T, encTVs l)]) := by
    rw [show encTL T ++ encTL (encTVs l).length ++ encTVs l = encTVs [(T, encTVs l)] from (encTVs_single (T, encTVs l)).symm]
    exact tlvs_encTVs _ fun p hp => by cases List.mem_singleton.mp hp; exact ⟨hT, hlen⟩
  simp only [wfPacket, eo, mkTlvs, e, map_typ_mkTlvs, head_typ_mkTlvs, inOrder_of_sublist _ _ hsub, hhead, ha,
    decide_true, Bool.and_self, beq_self_eq_true]

theorem wfData_eq (b : Bytes) : wfData b = wfPacket 6 [7, 20, 21, 22, 23] (fun t v => if t = 7 then wfName v
    else if t = 20 then wfMetaInfo v else if t = 22 then wfSigInfo v else true) b := rfl

theorem wfInterest_eq (b : Bytes) : wfInterest b = wfPacket 5 [7, 33, 18, 30, 10, 12, 34, 36, 44, 46] (fun t v =>
    if t = 7 then wfName v else if t = 33 || t = 18 then v.isEmpty else if t = 30 then wfLinks v
    else if t = 10 then v.length == 4 else if t = 12 then natLenOk v else if t = 34 then v.length == 1
    else if t = 44 then wfSigInfo v else true) b := rfl

section
variable (E : EncSpecs)
include E

def dataTVs (d : DataIn) (sv : Bytes) : List TV :=
  (7, encNameInner d.name) :: (20, encMeta d.mi) :: (optC d.content (fun c => (21, c.flatten)) <|
    optC d.si (fun s => (22, encSigInfo s)) <| boolC (decide (d.est > 0)) (23, sv) [])

theorem dataValue_tvs (d : DataIn) (sv : Bytes) : dataValue d sv = encTVs (dataTVs d sv) := by
  rw [dataTVs, encTVs_cons, encTVs_cons, ← encNameField_eq E, ← tlv_eq (E.metaLen_eq d.mi),
    encTVs_optC _ _ _ (fun c => tlv_eq (contentLen_eq c).symm), encTVs_optC _ _ _ (fun s => tlv_eq (E.sigInfoLen_eq s)),
    encTVs_sigValue]
  simp only [dataValue, dataHead, List.append_assoc]

theorem wfData_enc (d : DataIn) (sv : Bytes) (hname : NameValid d.name) (hsi : ∀ s, d.si = some s → SigInfoValid s)
    (hlen : (dataValue d sv).length < 2 ^ 64) :
    Spec.wfData (encTL 6 ++ encTL (dataValue d sv).length ++ dataValue d sv) = true := by
  rw [dataValue_tvs E] at hlen ⊢
  rw [wfData_eq]
  refine wfPacket_of _ _ _ _ (by decide) (by decide) hlen ?_ rfl ?_
  · rw [dataTVs]
    exact ((sublist_optC _ _ _ (sublist_optC _ _ _
      (sublist_boolC _ (23, sv) (List.Sublist.refl _)))).cons_cons _).cons_cons _
  · intro p hp hpl
    simp only [dataTVs, mem_optC, mem_boolC, List.mem_cons, List.not_mem_nil, or_false] at hp
    rcases hp with rfl | rfl | ⟨c, _, rfl⟩ | ⟨s, hs, rfl⟩ | ⟨_, rfl⟩
    · simp [wfName_enc d.name hname hpl]
    · simp [wfMetaInfo_enc d.mi hpl]
    · rfl
    · simp [wfSigInfo_enc E s (hsi s hs) hpl]
    · rfl

def interestTVs (i : InterestIn) (fn : Name) (sv : Bytes) : List TV :=
  (7, encNameInner fn) :: (boolC i.cbp (33, []) <| boolC i.mbf (18, []) <|
    optC i.fh (fun ns => (30, encLinks ns)) <| optC i.nonce (fun x => (10, be 4 x)) <|
    optC i.lt (fun x => (12, be (natLen x) x)) <| optC i.hl (fun x => (34, [x % 256])) <|
    optC i.ap (fun c => (36, c.flatten)) <| optC i.si (fun s => (44, encSigInfo s)) <|
    boolC (decide (i.est > 0)) (46, sv) [])

theorem interestValue_tvs (i : InterestIn) (fn : Name) (sv : Bytes) :
    interestValue i fn sv = encTVs (interestTVs i fn sv) := by
  rw [interestTVs, encTVs_cons, ← encNameField_eq E, encTVs_boolC, encTVs_boolC,
    encTVs_optC _ _ _ (fun ns => tlv_eq (E.linksLen_eq ns)), encTVs_optC _ _ _ encNonce_eq,
    encTVs_optC _ _ _ (encNatField_eq 12), encTVs_optC _ _ _ encHopLimit_eq,
    encTVs_optC _ _ _ (fun c => tlv_eq (contentLen_eq c).symm), encTVs_optC _ _ _ (fun s => tlv_eq (E.sigInfoLen_eq s)),
    encTVs_sigValue]
  simp only [interestValue, interestHead, interestParamsPortion, List.append_assoc]

theorem wfInterest_enc (i : InterestIn) (fn : Name) (sv : Bytes) (hfn : NameValid fn)
    (hfh : ∀ ns, i.fh = some ns → ∀ n ∈ ns, NameValid n) (hsi : ∀ s, i.si = some s → SigInfoValid s)
    (hL : (interestValue i fn sv).length < 2 ^ 64) :
    Spec.wfInterest (encTL 5 ++ encTL (interestValue i fn sv).length ++ interestValue i fn sv) = true := by
  rw [interestValue_tvs E] at hL ⊢
  rw [wfInterest_eq]
  refine wfPacket_of _ _ _ _ (by decide) (by decide) hL ?_ rfl ?_
  · rw [interestTVs]
    exact (sublist_boolC _ (33, []) <| sublist_boolC _ (18, []) <| sublist_optC _ _ _ <|
      sublist_optC _ _ _ <| sublist_optC _ _ _ <| sublist_optC _ _ _ <|
      sublist_optC _ _ _ <| sublist_optC _ _ _ <|
      sublist_boolC _ (46, sv) (List.Sublist.refl _)).cons_cons _
  · intro p hp hpl
    simp only [interestTVs, mem_optC, mem_boolC, List.mem_cons, List.not_mem_nil, or_false] at hp
    rcases hp with rfl | ⟨_, rfl⟩ | ⟨_, rfl⟩ | ⟨ns, hns, rfl⟩ | ⟨x, _, rfl⟩ | ⟨x, _, rfl⟩ | ⟨x, _, rfl⟩ | ⟨c, _, rfl⟩
      | ⟨s, hs, rfl⟩ | ⟨_, rfl⟩
    · simp [wfName_enc fn hfn hpl]
    · rfl
    · rfl
    · simp [wfLinks_enc E ns (hfh ns hns) hpl]
    · simp
    · simp [natLenOk_be]
    · rfl
    · rfl
    · simp [wfSigInfo_enc E s (hsi s hs) hpl]
    · rfl

end

theorem nameLen_append_wf (a b : Name) : nameLen (a ++ b) = nameLen a + nameLen b := nameLen_append a b

end Ndn.C03
