/-
  C03/LemmasEnc.lean — the encoder facts consumed by the round-trip proofs (`EncSpecs`).
-/
import NdnVerif.C03.LemmasEncInterest
namespace Ndn.C03

theorem encSpecs : EncSpecs where
  nameLen_eq := encNameInner_length
  metaLen_eq := encMeta_length
  keyLocLen_eq := encKeyLoc_length
  sigInfoLen_eq := encSigInfo_length
  linksLen_eq := encLinks_length
  makeData_flatten := makeData_normal
  makeInterest_flatten := makeInterest_normal

end Ndn.C03
