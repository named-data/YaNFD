/-
  C03/LemmasEncPrim.lean — ShrinkLength and the signature-length patch on buffers of the shape the encoder
  produces; the segment layout both encoders share (`planSegs`, `planSigIdx`, `wire_layout`) and the shrink of
  the announced length to the exact length of the value (`shrink_exact`; its arithmetic, `sigShrink_arith`, is in LemmasTlv).
-/
import NdnVerif.C03.LemmasEncLen
namespace Ndn.C03

theorem parseTLNum_encTL (x : Nat) (hx : x < 2 ^ 64) (rest : Bytes) :
    parseTLNum (encTL x ++ rest) = .ok (x, tlLen x) := by
  unfold parseTLNum
  rw [decTL_encTL x hx rest]
  simp [encTL_length]

/-- below 2^64 the wrap-around arithmetic of `ShrinkLength` is plain subtraction -/
theorem shrink_mod (L s : Nat) (hL : L < u64) (hs : s ≤ L) : (L + u64 - s % u64) % u64 = L - s := by
  generalize u64 = M at hL
  rw [Nat.mod_eq_of_lt (Nat.lt_of_le_of_lt hs hL), Nat.sub_add_comm hs, Nat.add_mod_right,
    Nat.mod_eq_of_lt (Nat.lt_of_le_of_lt (Nat.sub_le L s) hL)]

theorem shrinkLength_spec (t L s : Nat) (rest : Bytes) (ht : t ≤ 252) (hL : L < 2 ^ 62) (hs : s ≤ L) :
    shrinkLength (encTL t ++ encTL L ++ rest) s = .ok (encTL t ++ encTL (L - s) ++ rest) := by
  have h1 : parseTLNum (encTL t ++ encTL L ++ rest) = .ok (t, 1) := by
    rw [List.append_assoc, parseTLNum_encTL t (Nat.lt_of_le_of_lt ht (by decide)), tlLen_small ht]
  have h2 : parseTLNum ((encTL t ++ encTL L ++ rest).drop 1) = .ok (L, tlLen L) := by
    rw [encTL_small ht]; exact parseTLNum_encTL L (Nat.lt_trans hL (by decide)) rest
  have htk : (encTL t ++ encTL L ++ rest).take 1 = encTL t := by rw [encTL_small ht]; rfl
  have hdr : (encTL t ++ encTL L ++ rest).drop (1 + tlLen L) = rest := by
    rw [encTL_small ht]
    exact List.drop_left' (by rw [List.length_append, encTL_length]; rfl)
  have hmono : tlLen (L - s) ≤ tlLen L := tlLen_mono (Nat.sub_le L s)
  unfold shrinkLength
  rw [h1, Res.bind_ok]
  dsimp only
  rw [h2, Res.bind_ok]
  dsimp only
  rw [shrink_mod L s (Nat.lt_trans hL (by decide)) hs, htk, hdr, tlLen_small ht]
  by_cases he : tlLen (L - s) = tlLen L
  · rw [if_pos he]; rfl
  · rw [if_neg he, if_neg (fun h => h.elim (fun h => he (Nat.le_antisymm hmono (Nat.le_of_lt h))) (fun h => h rfl))]; rfl

theorem fixSigLenBuf_app (b : Bytes) (est n : Nat) :
    fixSigLenBuf (b ++ encTL est) est n = b ++ encTL n := by
  unfold fixSigLenBuf
  simp [encTL_length]

theorem patchSig_app (pre : List Bytes) (b slot : Bytes) (est : Nat) (sv : Bytes) :
    patchSig (pre ++ [b ++ encTL est, slot]) (pre.length + 1) est sv
      = pre ++ [b ++ encTL sv.length, sv] := by
  unfold patchSig
  simp [fixSigLenBuf_app]

/-- The segments both encoders lay out (`dataSegs`, `interestSegs`): the header buffer `H` (with the TL `CTL c`
    of the caller's buffers when there are any), the caller's buffers by reference, the buffer `T` with
    SignatureInfo and the SignatureValue TL, the signature slot. -/
def planSegs (content : Option (List Bytes)) (est : Nat) (H T : Bytes) (CTL : List Bytes → Bytes) : List Bytes :=
  match content with
  | none => if est > 0 then [H ++ T, []] else [H ++ T]
  | some c => [H ++ CTL c] ++ c ++ (if est > 0 then [T, []] else if T = [] then [] else [T])

/-- `SignatureValue_wireIdx` -/
def planSigIdx (content : Option (List Bytes)) : Nat :=
  match content with
  | none => 1
  | some c => c.length + 2

theorem dataSegs_eq (d : DataIn) : dataSegs d = planSegs d.content d.est (dataHead d)
    (optB d.si (fun s => encTL 22 ++ encTL (sigInfoLen s) ++ encSigInfo s) ++ sigTL 23 d.est)
    (fun c => encTL 21 ++ encTL (contentLen c)) := rfl

theorem interestSegs_eq (i : InterestIn) (fn : Name) : interestSegs i fn = planSegs i.ap i.est (interestHead i fn)
    (optB i.si (fun s => encTL 44 ++ encTL (sigInfoLen s) ++ encSigInfo s) ++ sigTL 46 i.est)
    (fun c => encTL 36 ++ encTL (contentLen c)) := rfl

theorem dataSigIdx_eq (d : DataIn) : dataSigIdx d = planSigIdx d.content := rfl

theorem interestSigIdx_eq (i : InterestIn) : interestSigIdx i = planSigIdx i.ap := rfl

theorem ifNil_flatten (t : Bytes) : (if t = [] then [] else [t] : List Bytes).flatten = t := by
  split
  · next h => exact h.symm
  · exact List.flatten_singleton ..

/-- The wire after the outer TL was prepended and, for `est > 0`, the signature value put into its slot and
    its length re-encoded: a first segment that starts with the outer TL and the header, and segments
    that join to the rest of the value. -/
theorem wire_layout (t len : Nat) (content : Option (List Bytes)) (est : Nat) (H S : Bytes) (tv : Nat)
    (CTL : List Bytes → Bytes) (sv : Bytes) :
    ∃ X Y, (if est > 0 then patchSig (wrapPacket t len (planSegs content est H (S ++ sigTL tv est) CTL))
              (planSigIdx content) est sv
            else wrapPacket t len (planSegs content est H (S ++ sigTL tv est) CTL))
        = (encTL t ++ encTL len ++ (H ++ X)) :: Y
      ∧ X ++ Y.flatten = optB content (fun c => CTL c ++ c.flatten)
          ++ (S ++ (if est > 0 then encTL tv ++ encTL sv.length ++ sv else []))
      ∧ (∀ c, content = some c → X = CTL c) := by
  by_cases he : est > 0
  · simp only [if_pos he, sigTL]
    cases content with
    | none =>
      refine ⟨S ++ encTL tv ++ encTL sv.length, [sv], ?_, by simp, fun c hc => by cases hc⟩
      have := patchSig_app [] (encTL t ++ encTL len ++ (H ++ (S ++ encTL tv))) [] est sv
      simpa [planSegs, planSigIdx, wrapPacket, he] using this
    | some c =>
      refine ⟨CTL c, c ++ [S ++ encTL tv ++ encTL sv.length, sv], ?_, by simp, fun c' hc => by cases hc; rfl⟩
      have := patchSig_app ((encTL t ++ encTL len ++ (H ++ CTL c)) :: c) (S ++ encTL tv) [] est sv
      simpa [planSegs, planSigIdx, wrapPacket, he] using this
  · simp only [if_neg he, sigTL, List.append_nil]
    cases content with
    | none => exact ⟨S, [], by simp [planSegs, wrapPacket, he], by simp, fun c hc => by cases hc⟩
    | some c =>
      exact ⟨CTL c, c ++ (if S = [] then [] else [S]), by simp [planSegs, wrapPacket, he],
        by simp [ifNil_flatten], fun c' hc => by cases hc; rfl⟩

/-- ShrinkLength on a first segment brings the announced length `len` (the fields before the signature value,
    `a` bytes, and the SignatureValue TLV as estimated) down to the length of a value `V` that has the same
    fields and the actual signature value; what follows the outer TL (`rest`) is left as it is. -/
theorem shrink_exact (t len a tv est : Nat) (sv V : Bytes) (ht : t ≤ 252) (htv : tv ≤ 252) (hL : len < 2 ^ 62)
    (hsv : est > 0 → sv.length ≤ est) (hlen : len = a + sigTLLen tv est)
    (hV : V.length = a + (if est > 0 then 1 + tlLen sv.length + sv.length else 0)) :
    len - (if est > 0 then fixSigShrink est sv.length else 0) = V.length
    ∧ ∀ rest, shrinkLength (encTL t ++ encTL len ++ rest) (if est > 0 then fixSigShrink est sv.length else 0)
        = .ok (encTL t ++ encTL V.length ++ rest) := by
  obtain ⟨h1, h2⟩ := sigShrink_arith a tv est sv.length htv hsv
  rw [← hlen, ← hV] at h1
  rw [← hlen] at h2
  exact ⟨h1, fun rest => by rw [← h1]; exact shrinkLength_spec t len _ rest ht hL h2⟩

theorem seg0_flatten (tl H X : Bytes) (Y : List Bytes) :
    ((tl ++ (H ++ X)) :: Y).flatten = tl ++ (H ++ (X ++ Y.flatten)) := by
  simp only [List.flatten_cons, List.append_assoc]

end Ndn.C03
