/-
  C03/LemmasReaderLoop.lean — the loops of the WireReader (`nextSeg`, the copy loop `gather`, the
  `advance` loop of Delegate and the guarded `skipLoop` of Skip, the scans of `Range`): the equations of each loop, branch by branch,
  and what it computes in terms of the absolute position `WireR.absPos` in the joined wire.
-/
import NdnVerif.C03.LemmasReaderWire
namespace Ndn.C03

namespace WireR

theorem segAt_eq (r : WireR) (i : Nat) : r.segAt i = r.wire[i]?.getD [] := rfl

theorem absLength_eq (r : WireR) : r.absLength = r.wire.flatten.length := accSz_length r.wire

/-- `seg`/`pos` are within the wire: the part of `WireR.Inv` the loops maintain.  Past the last
    segment `wire[seg]?.getD []` is empty, which forces `pos = 0` there. -/
def Pre (w : WireR) : Prop := w.seg ≤ w.wire.length ∧ w.pos ≤ (w.wire[w.seg]?.getD []).length

namespace Pre

variable {w : WireR} (h : w.Pre)
include h

theorem absPos_le : w.absPos ≤ w.wire.flatten.length := pos_le_total w.wire w.seg w.pos h.2

theorem parked (hs : w.wire.length ≤ w.seg) : w.absPos = w.wire.flatten.length := by
  have h2 := h.2
  rw [List.getElem?_eq_none hs] at h2
  show w.pos + accSz w.wire w.seg = _
  rw [Nat.le_zero.1 h2, Nat.zero_add, accSz_ge w.wire w.seg hs, accSz_length]

theorem parked_read (hs : w.wire.length ≤ w.seg) {l : Nat} (hl : w.absPos + l ≤ w.wire.flatten.length) : l = 0 :=
  Nat.eq_zero_of_not_pos fun c => Nat.not_le_of_lt (Nat.lt_add_of_pos_right c) (h.parked hs ▸ hl)

/-- the guard `l > Length() - Pos()` of the reads, Skip and Delegate -/
theorem guard (l : Nat) : l > w.absLength - w.absPos ↔ w.wire.flatten.length < w.absPos + l := by
  rw [absLength_eq]; exact Nat.sub_lt_iff_lt_add' h.absPos_le

end Pre

/-- `r'` is the reader `r` moved `l` bytes ahead in the same wire -/
structure Moved (r : WireR) (l : Nat) (r' : WireR) : Prop where
  wire : r'.wire = r.wire
  base : r'.base = r.base
  absPos : r'.absPos = r.absPos + l
  pre : r'.Pre

namespace Moved

theorem refl {r : WireR} (h : r.Pre) : r.Moved 0 r := ⟨rfl, rfl, rfl, h⟩

theorem trans {r r₁ r₂ : WireR} {a b : Nat} (h₁ : r.Moved a r₁) (h₂ : r₁.Moved b r₂) : r.Moved (a + b) r₂ :=
  ⟨h₂.wire.trans h₁.wire, h₂.base.trans h₁.base, by rw [h₂.absPos, h₁.absPos, Nat.add_assoc], h₂.pre⟩

theorem after {r r₁ r₂ : WireR} {b : Nat} (h₁ : r.Moved 0 r₁) (h₂ : r₁.Moved b r₂) : r.Moved b r₂ :=
  Nat.zero_add b ▸ h₁.trans h₂

theorem absPos_eq {r r' : WireR} {l : Nat} (m : r.Moved l r') : r'.pos + accSz r.wire r'.seg = r.absPos + l := by
  rw [← m.wire]; exact m.absPos

end Moved

theorem moved_pos (r : WireR) (l : Nat) (hs : r.seg ≤ r.wire.length) (h : r.pos + l ≤ (r.wire[r.seg]?.getD []).length) :
    r.Moved l { r with pos := r.pos + l } :=
  ⟨rfl, rfl, Nat.add_right_comm r.pos l _, hs, h⟩

theorem moved_next (r : WireR) (hs : r.seg < r.wire.length) (h : r.pos ≤ (r.wire[r.seg]?.getD []).length) :
    r.Moved ((r.wire[r.seg]?.getD []).length - r.pos) { r with seg := r.seg + 1, pos := 0 } := by
  refine ⟨rfl, rfl, ?_, hs, Nat.zero_le _⟩
  show 0 + accSz r.wire (r.seg + 1) = r.pos + accSz r.wire r.seg + _
  rw [Nat.zero_add, accSz_succ, Nat.add_right_comm, Nat.add_sub_cancel' h, Nat.add_comm]

theorem nextSegLoop_stop (fuel : Nat) (r : WireR)
    (h : ¬ (r.seg < r.wire.length ∧ r.pos ≥ (r.wire[r.seg]?.getD []).length)) : nextSegLoop fuel r = r := by
  cases fuel with
  | zero => rfl
  | succ fuel => exact if_neg h

theorem nextSegLoop_step (fuel : Nat) (r : WireR)
    (h : r.seg < r.wire.length ∧ r.pos ≥ (r.wire[r.seg]?.getD []).length) :
    nextSegLoop (fuel + 1) r = nextSegLoop fuel { r with seg := r.seg + 1, pos := 0 } := if_pos h

/-- With non-empty later segments the loop of `nextSeg` takes at most one step.  Afterwards the
    reader is inside a segment, not at its end, or past the last segment. -/
theorem nextSeg_spec (w : WireR) (hp : w.Pre) (hne : NE w.wire) :
    ∃ r1, w.nextSeg = (r1, decide (r1.seg < w.wire.length)) ∧ w.Moved 0 r1
      ∧ (r1.seg < w.wire.length → r1.pos < (w.wire[r1.seg]?.getD []).length)
      ∧ (r1.seg < w.wire.length ↔ w.absPos < w.wire.flatten.length) := by
  suffices h : ∃ r1, nextSegLoop (w.wire.length + 1) w = r1 ∧ w.Moved 0 r1
      ∧ (r1.seg < w.wire.length → r1.pos < (w.wire[r1.seg]?.getD []).length) by
    obtain ⟨r1, e, m, hn⟩ := h
    refine ⟨r1, ?_, m, hn, fun hlt => ?_, fun hlt => Nat.lt_of_not_le fun c => ?_⟩
    · show (nextSegLoop (w.wire.length + 1) w, _) = _
      rw [e, m.wire]
    · rw [← Nat.add_zero w.absPos, ← m.absPos_eq]
      exact Nat.lt_of_lt_of_le (pos_lt_succ w.wire r1.seg r1.pos (hn hlt))
        (accSz_length w.wire ▸ accSz_le_total w.wire (r1.seg + 1))
    · have := m.pre.parked (m.wire ▸ c)
      rw [m.absPos, m.wire] at this
      exact Nat.lt_irrefl _ (this ▸ hlt)
  by_cases hc : w.seg < w.wire.length ∧ w.pos ≥ (w.wire[w.seg]?.getD []).length
  · have hnext : w.seg + 1 < w.wire.length → 0 < (w.wire[w.seg + 1]?.getD []).length := fun hlt =>
      List.length_pos_iff.2 (hne (w.seg + 1) (Nat.succ_pos _) hlt)
    have m := moved_next w hc.1 hp.2
    rw [Nat.sub_eq_zero_of_le hc.2] at m
    refine ⟨_, ?_, m, hnext⟩
    rw [nextSegLoop_step _ _ hc]
    exact nextSegLoop_stop _ _ fun c => Nat.lt_irrefl _ (Nat.lt_of_lt_of_le (hnext c.1) c.2)
  · exact ⟨w, nextSegLoop_stop _ w hc, Moved.refl hp, fun hlt => Nat.lt_of_not_le fun c => hc ⟨hlt, c⟩⟩

theorem gather_zero (fuel : Nat) (r : WireR) (acc : Bytes) : gather fuel r 0 acc = some (acc, r) := by
  cases fuel <;> rfl

variable (fuel : Nat) (r : WireR) (l : Nat) (acc : Bytes)

theorem gather_end (hl : 0 < l) (h : r.wire.length ≤ r.seg) : gather fuel r l acc = none := by
  obtain ⟨l, rfl⟩ := Nat.exists_eq_succ_of_ne_zero (Nat.ne_of_gt hl)
  cases fuel with
  | zero => rfl
  | succ fuel => exact if_pos h

theorem gather_next (hl : 0 < l) (hs : r.seg < r.wire.length) (h : (r.wire[r.seg]?.getD []).length < r.pos + l) :
    gather (fuel + 1) r l acc = gather fuel { r with seg := r.seg + 1, pos := 0 }
      (l - ((r.wire[r.seg]?.getD []).length - r.pos)) (acc ++ (r.wire[r.seg]?.getD []).drop r.pos) := by
  obtain ⟨l, rfl⟩ := Nat.exists_eq_succ_of_ne_zero (Nat.ne_of_gt hl)
  exact (if_neg (Nat.not_le_of_lt hs)).trans (if_pos h)

theorem gather_last (hl : 0 < l) (hs : r.seg < r.wire.length) (h : r.pos + l ≤ (r.wire[r.seg]?.getD []).length) :
    gather (fuel + 1) r l acc
      = some (acc ++ ((r.wire[r.seg]?.getD []).drop r.pos).take l, { r with pos := r.pos + l }) := by
  obtain ⟨l, rfl⟩ := Nat.exists_eq_succ_of_ne_zero (Nat.ne_of_gt hl)
  exact (if_neg (Nat.not_le_of_lt hs)).trans (if_neg (Nat.not_lt_of_le h))

theorem gather_spec (hp : r.Pre) (hf : r.wire.length ≤ r.seg + fuel) :
    (r.absPos + l ≤ r.wire.flatten.length →
      ∃ r', gather fuel r l acc = some (acc ++ (r.wire.flatten.drop r.absPos).take l, r') ∧ r.Moved l r')
    ∧ (r.wire.flatten.length < r.absPos + l → gather fuel r l acc = none) := by
  induction fuel using Nat.strongRecOn generalizing r l acc with
  | _ fuel ih =>
  by_cases hl : l = 0
  · subst hl
    refine ⟨fun _ => ⟨r, ?_, Moved.refl hp⟩, fun h => absurd hp.absPos_le (Nat.not_le_of_lt h)⟩
    rw [gather_zero, List.take_zero, List.append_nil]
  have hl : 0 < l := Nat.pos_of_ne_zero hl
  by_cases hs : r.wire.length ≤ r.seg
  · refine ⟨fun h => absurd h ?_, fun _ => gather_end fuel r l acc hl hs⟩
    rw [hp.parked hs]
    exact Nat.not_le_of_lt (Nat.lt_add_of_pos_right hl)
  have hs : r.seg < r.wire.length := Nat.lt_of_not_le hs
  cases fuel with
  | zero => exact absurd hf (Nat.not_le_of_lt hs)
  | succ fuel =>
  by_cases hc : (r.wire[r.seg]?.getD []).length < r.pos + l
  · -- the rest of this segment, then on from the start of the next one
    have m := moved_next r hs hp.2
    have hk : (r.wire[r.seg]?.getD []).length - r.pos ≤ l := Nat.sub_le_iff_le_add'.2 (Nat.le_of_lt hc)
    have hih := ih fuel (Nat.lt_succ_self _) { r with seg := r.seg + 1, pos := 0 }
      (l - ((r.wire[r.seg]?.getD []).length - r.pos)) (acc ++ (r.wire[r.seg]?.getD []).drop r.pos) m.pre
      (by rw [Nat.add_right_comm]; exact hf)
    have habs : WireR.absPos { r with seg := r.seg + 1, pos := 0 }
        + (l - ((r.wire[r.seg]?.getD []).length - r.pos)) = r.absPos + l := by
      rw [m.absPos, Nat.add_assoc, Nat.add_sub_cancel' hk]
    rw [gather_next fuel r l acc hl hs hc]
    refine ⟨fun h => ?_, fun h => hih.2 (habs.symm ▸ h)⟩
    obtain ⟨r', e, m'⟩ := hih.1 (habs.symm ▸ h)
    refine ⟨r', ?_, Nat.add_sub_cancel' hk ▸ m.trans m'⟩
    rw [e, List.append_assoc, show WireR.absPos { r with seg := r.seg + 1, pos := 0 } = accSz r.wire (r.seg + 1)
      from Nat.zero_add _]
    exact congrArg (fun x => some (acc ++ x, r'))
      (flatten_slice_next r.wire r.seg r.pos l hp.2 (Nat.le_of_lt hc)).symm
  · have hc : r.pos + l ≤ (r.wire[r.seg]?.getD []).length := Nat.le_of_not_lt hc
    have m := moved_pos r l hp.1 hc
    rw [gather_last fuel r l acc hl hs hc]
    refine ⟨fun _ => ⟨_, ?_, m⟩, fun h => absurd (m.absPos ▸ m.pre.absPos_le) (Nat.not_le_of_lt h)⟩
    exact congrArg (fun x => some (acc ++ x, _)) (flatten_slice_seg r.wire r.seg r.pos l hc).symm

theorem advance_done (hs : r.seg < r.wire.length) (h : r.pos ≤ (r.wire[r.seg]?.getD []).length) :
    advance (fuel + 1) r = .ok r :=
  (if_neg (Nat.not_le_of_lt hs)).trans (if_neg (Nat.not_lt_of_le h))

theorem advance_off (hs : r.seg < r.wire.length) (h : (r.wire[r.seg]?.getD []).length < r.pos)
    (hn : r.wire.length ≤ r.seg + 1) : advance (fuel + 1) r = .err :=
  (if_neg (Nat.not_le_of_lt hs)).trans ((if_pos h).trans (if_pos hn))

theorem advance_next (hs : r.seg < r.wire.length) (h : (r.wire[r.seg]?.getD []).length < r.pos)
    (hn : r.seg + 1 < r.wire.length) :
    advance (fuel + 1) r = advance fuel { r with pos := r.pos - (r.wire[r.seg]?.getD []).length, seg := r.seg + 1 } :=
  (if_neg (Nat.not_le_of_lt hs)).trans ((if_pos h).trans (if_neg (Nat.not_le_of_lt hn)))

/-- `advance` turns an overshooting `pos` into the position with the same absolute offset; it fails
    when that offset is beyond the wire.  A positive `pos` stays positive: the loop moves on only while
    `pos` exceeds the length of the segment. -/
theorem advance_spec (hs : r.seg < r.wire.length) (hf : r.wire.length ≤ r.seg + fuel) :
    (r.absPos ≤ r.wire.flatten.length →
      ∃ r', advance fuel r = .ok r' ∧ r.Moved 0 r' ∧ r'.seg < r.wire.length ∧ r.seg ≤ r'.seg
        ∧ (0 < r.pos → 0 < r'.pos) ∧ ((r.wire[r.seg]?.getD []).length < r.pos → r.seg < r'.seg))
    ∧ (r.wire.flatten.length < r.absPos → advance fuel r = .err) := by
  induction fuel generalizing r with
  | zero => exact absurd hf (Nat.not_le_of_lt hs)
  | succ fuel ih =>
    by_cases hc : (r.wire[r.seg]?.getD []).length < r.pos
    · by_cases hn : r.wire.length ≤ r.seg + 1
      · -- the last segment is overshot: the offset is beyond the wire
        rw [advance_off fuel r hs hc hn]
        refine ⟨fun h => absurd h (Nat.not_le_of_lt ?_), fun _ => rfl⟩
        rw [← accSz_length, ← accSz_ge r.wire (r.seg + 1) hn, accSz_succ, Nat.add_comm]
        exact Nat.add_lt_add_right hc _
      · have hn : r.seg + 1 < r.wire.length := Nat.lt_of_not_le hn
        have hih := ih { r with pos := r.pos - (r.wire[r.seg]?.getD []).length, seg := r.seg + 1 } hn
          (by rw [Nat.add_right_comm]; exact hf)
        have habs : WireR.absPos { r with pos := r.pos - (r.wire[r.seg]?.getD []).length, seg := r.seg + 1 }
            = r.absPos := by
          show r.pos - (r.wire[r.seg]?.getD []).length + accSz r.wire (r.seg + 1) = r.pos + accSz r.wire r.seg
          rw [accSz_succ, Nat.add_comm (accSz _ _), ← Nat.add_assoc, Nat.sub_add_cancel (Nat.le_of_lt hc)]
        rw [habs] at hih
        rw [advance_next fuel r hs hc hn]
        refine ⟨fun h => ?_, hih.2⟩
        obtain ⟨r', e, m, h1, h2, h3, _⟩ := hih.1 h
        exact ⟨r', e, ⟨m.wire, m.base, m.absPos.trans (congrArg (· + 0) habs), m.pre⟩, h1, Nat.le_of_succ_le h2,
          fun _ => h3 (Nat.sub_pos_of_lt hc), fun _ => h2⟩
    · have hc : r.pos ≤ (r.wire[r.seg]?.getD []).length := Nat.le_of_not_lt hc
      have hp : r.Pre := ⟨Nat.le_of_lt hs, hc⟩
      rw [advance_done fuel r hs hc]
      exact ⟨fun _ => ⟨r, rfl, Moved.refl hp, hs, Nat.le_refl _, id, fun h => absurd hc (Nat.not_le_of_lt h)⟩,
        fun h => absurd hp.absPos_le (Nat.not_le_of_lt h)⟩

/-- `Skip(l)` and `Delegate(l)` start the loop with `pos` raised by `l` -/
theorem advance_from (w : WireR) (l : Nat) (hs : w.seg < w.wire.length) (hl : w.absPos + l ≤ w.wire.flatten.length) :
    ∃ r', advance (w.wire.length + 1) { w with pos := w.pos + l } = .ok r' ∧ w.Moved l r' ∧ r'.seg < w.wire.length
      ∧ (0 < w.pos + l → 0 < r'.pos) ∧ ((w.wire[w.seg]?.getD []).length < w.pos + l → w.seg < r'.seg) := by
  have habs : WireR.absPos { w with pos := w.pos + l } = w.absPos + l := Nat.add_right_comm w.pos l _
  obtain ⟨r', e, m, h1, _, h3, h4⟩ := (advance_spec (w.wire.length + 1) { w with pos := w.pos + l } hs
    (Nat.le_trans (Nat.le_succ _) (Nat.le_add_left _ _))).1 (habs ▸ hl)
  exact ⟨r', e, ⟨m.wire, m.base, m.absPos.trans habs, m.pre⟩, h1, h3, h4⟩

/-- on a reader with a current segment the guarded loop of `Skip` is the loop of `Delegate` -/
theorem skipLoop_eq_advance (hs : r.seg < r.wire.length) : skipLoop fuel r = advance fuel r := by
  induction fuel generalizing r with
  | zero => rfl
  | succ fuel ih =>
    by_cases hc : (r.wire[r.seg]?.getD []).length < r.pos
    · by_cases hn : r.wire.length ≤ r.seg + 1
      · exact ((if_pos ⟨hs, hc⟩).trans (if_pos hn)).trans (advance_off fuel r hs hc hn).symm
      · have hn' := Nat.lt_of_not_le hn
        exact ((if_pos ⟨hs, hc⟩).trans (if_neg hn)).trans ((ih _ hn').trans (advance_next fuel r hs hc hn').symm)
    · exact (if_neg fun c => hc c.2).trans (advance_done fuel r hs (Nat.le_of_not_lt hc)).symm

theorem skipLoop_parked (h : r.wire.length ≤ r.seg) : skipLoop (fuel + 1) r = .ok r :=
  if_neg fun c => Nat.lt_irrefl _ (Nat.lt_of_lt_of_le c.1 h)

variable (w : List Bytes) (i q : Nat)

theorem findStart_eq (hi : i < w.length) (hq : q < (w[i]?.getD []).length) :
    findStart w (q + accSz w i) = (i, q) := by
  have hlt := pos_lt_succ w i q hq
  have := foldl_range_unique (fun j => accSz w j ≤ q + accSz w i ∧ accSz w (j + 1) > q + accSz w i)
    (fun j => (j, q + accSz w i - accSz w j)) (0, 0) i w.length hi ⟨Nat.le_add_left _ _, hlt⟩
    (fun j _ hj => seg_unique (Nat.lt_of_le_of_lt (Nat.le_add_left _ _) hj.2) (Nat.lt_of_le_of_lt hj.1 hlt))
  rwa [Nat.add_sub_cancel] at this

theorem findEnd_eq (hi : i < w.length) (h0 : 0 < q) (hq : q ≤ (w[i]?.getD []).length) :
    findEnd w (q + accSz w i) = (i, q) := by
  have hle := pos_le_succ w i q hq
  have hlt : accSz w i < q + accSz w i := Nat.lt_add_of_pos_left h0
  have := foldl_range_unique (fun j => accSz w j < q + accSz w i ∧ accSz w (j + 1) ≥ q + accSz w i)
    (fun j => (j, q + accSz w i - accSz w j)) (0, 0) i w.length hi ⟨hlt, hle⟩
    (fun j _ hj => seg_unique (Nat.lt_of_lt_of_le hlt hj.2) (Nat.lt_of_lt_of_le hj.1 hle))
  rwa [Nat.add_sub_cancel] at this

theorem rangeAbs_spec (r : WireR) (s e : Nat) (hs : s ≤ e) (he : e ≤ r.wire.flatten.length) :
    r.rangeAbs s e = (r.wire.flatten.drop s).take (e - s) := by
  unfold rangeAbs
  rw [if_neg fun c => c.elim (fun c => Nat.not_le_of_lt c (r.absLength_eq ▸ he)) (fun c => Nat.not_le_of_lt c hs)]
  by_cases hse : s = e
  · rw [if_pos hse, hse, Nat.sub_self, List.take_zero]
  rw [if_neg hse]
  have hlt : s < e := Nat.lt_of_le_of_ne hs hse
  rw [← accSz_length] at he
  obtain ⟨i, q, hi, hq, rfl⟩ := exists_pos r.wire s r.wire.length (Nat.lt_of_lt_of_le hlt he)
  obtain ⟨j, q', hj, h0, hq', rfl⟩ := exists_pos_end r.wire e r.wire.length (Nat.lt_of_le_of_lt (Nat.zero_le _) hlt) he
  rw [findStart_eq r.wire i q hi hq, findEnd_eq r.wire j q' hj h0 hq']
  show (if i = j then _ else _) = _
  by_cases hij : i = j
  · subst hij
    have hqq : q ≤ q' := Nat.le_of_add_le_add_right hs
    rw [if_pos rfl, Nat.add_sub_add_right]
    exact (flatten_slice_seg r.wire i q (q' - q) ((Nat.add_sub_cancel' hqq).symm ▸ hq')).symm
  · rw [if_neg hij]
    -- were `j` before `i`, the end would lie before the start
    have hij : i < j := Nat.lt_of_le_of_ne (Nat.le_of_not_lt fun c => Nat.not_le_of_lt hlt
      (Nat.le_trans (pos_le_succ r.wire j q' hq') (Nat.le_trans (accSz_mono r.wire c) (Nat.le_add_left _ _)))) hij
    exact (flatten_slice r.wire i q j q' _ hij (Nat.le_of_lt hq) hq' (Nat.add_sub_cancel' hs).symm).symm

end WireR

end Ndn.C03
