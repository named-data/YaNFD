/-
  C03/LemmasEncInterest.lean — MakeInterest output in normal form (`EncSpecs.makeInterest_flatten`).
-/
import NdnVerif.C03.LemmasEncData
namespace Ndn.C03

theorem interestName_eq_enc (n : Name) (b : Bool) :
    interestName n b = if b then stripDigest n ++ [digestComp (List.replicate 32 0)] else stripDigest n := rfl

theorem encNameInner_digest (base : Name) (v : Bytes) (hv : v.length = 32) :
    encNameInner (base ++ [digestComp v]) = encNameInner base ++ [2, 32] ++ v := by
  rw [encNameInner_append]
  simp [encNameInner, encComp, digestComp, hv, encTL]

theorem patchDigest_app (A Z rest dg : Bytes) (pos : Nat) (hA : A.length = pos) (hZ : Z.length = 32) :
    patchDigest (A ++ Z ++ rest) pos dg = A ++ dg ++ rest := by
  unfold patchDigest
  have h1 : (A ++ Z ++ rest).take pos = A := by
    rw [List.append_assoc]; exact List.take_left' hA
  have h2 : (A ++ Z ++ rest).drop (pos + 32) = rest :=
    List.drop_left' (by simp [hA, hZ])
  rw [h1, h2]

/-- what stands in the first segment in front of the 32 bytes of the digest component -/
def digestPre (len : Nat) (base : Name) : Bytes :=
  encTL 5 ++ encTL len ++ (encTL 7 ++ encTL (nameLen base + 34) ++ (encNameInner base ++ [2, 32]))

theorem seg0_split (len : Nat) (base : Name) (v rest : Bytes) (hv : v.length = 32) :
    encTL 5 ++ encTL len ++ (encNameField 7 (base ++ [digestComp v]) ++ rest) = digestPre len base ++ v ++ rest := by
  rw [encNameField, nameLen_digest _ _ hv, encNameInner_digest _ _ hv, digestPre]
  simp only [List.append_assoc]

/-- the first segment of an Interest with parameters: the digest patch replaces the placeholder -/
theorem patchDigest_seg0 (len : Nat) (base : Name) (dg rest : Bytes) (hdg : dg.length = 32) :
    patchDigest (encTL 5 ++ encTL len ++ (encNameField 7 (base ++ [digestComp (List.replicate 32 0)]) ++ rest))
        (tlLen 5 + tlLen len + (tlLen 7 + tlLen (nameLen (base ++ [digestComp (List.replicate 32 0)]))
          + nameLen base + 2)) dg
      = encTL 5 ++ encTL len ++ (encNameField 7 (base ++ [digestComp dg]) ++ rest) := by
  have hz : (List.replicate 32 0 : Bytes).length = 32 := List.length_replicate ..
  rw [seg0_split _ _ _ _ hz, seg0_split _ _ _ _ hdg, nameLen_digest _ _ hz]
  refine patchDigest_app _ _ _ _ _ ?_ hz
  simp only [digestPre, List.length_append, encTL_length, encNameInner_length, List.length_cons, List.length_nil]
  omega

/-- the wire of an Interest after the signature patch (`est = 0`: nothing is patched): a first segment with the
    outer TL and the header, then `X` and segments `Y` that join to the parameters portion -/
theorem interest_wire (i : InterestIn) (fn : Name) (sv : Bytes) :
    ∃ X Y, (if i.est > 0 then patchSig (wrapPacket 5 (interestLen i fn) (interestSegs i fn)) (interestSigIdx i) i.est sv
            else wrapPacket 5 (interestLen i fn) (interestSegs i fn))
        = (encTL 5 ++ encTL (interestLen i fn) ++ (interestHead i fn ++ X)) :: Y
      ∧ X ++ Y.flatten = interestParamsPortion i sv
      ∧ ∀ c, i.ap = some c → X = encTL 36 ++ encTL (contentLen c) := by
  obtain ⟨X, Y, hW, hXY, hX⟩ := wire_layout 5 (interestLen i fn) i.ap i.est (interestHead i fn)
    (optB i.si (fun s => encTL 44 ++ encTL (sigInfoLen s) ++ encSigInfo s)) 46
    (fun c => encTL 36 ++ encTL (contentLen c)) sv
  rw [interestSegs_eq, interestSigIdx_eq]
  exact ⟨X, Y, hW, by rw [hXY]; exact (List.append_assoc ..).symm, hX⟩

-- the `let`s of `makeInterest` when ApplicationParameters are present, in its order
def iFn0 (i : InterestIn) : Name := interestName i.name true
def iSv (i : InterestIn) (sign : Bytes → Bytes) : Bytes :=
  if i.est > 0 then sign (interestSigCovered i (iFn0 i)) else []
def iW0 (i : InterestIn) : List Bytes :=
  wrapPacket 5 (interestLen i (iFn0 i)) (interestSegs i (iFn0 i))
def iW1 (i : InterestIn) (sign : Bytes → Bytes) : List Bytes :=
  if i.est > 0 then patchSig (iW0 i) (interestSigIdx i) i.est (iSv i sign) else iW0 i
def iDg (i : InterestIn) (sign H : Bytes → Bytes) (c : List Bytes) : Bytes :=
  H (encTL 36 ++ encTL (contentLen c) ++ ((iW1 i sign).drop 1).flatten)
def iPos (i : InterestIn) : Nat :=
  tlLen 5 + tlLen (interestLen i (iFn0 i))
    + (tlLen 7 + tlLen (nameLen (iFn0 i)) + nameLen (iFn0 i).dropLast + 2)
def iW2 (i : InterestIn) (sign H : Bytes → Bytes) (c : List Bytes) : List Bytes :=
  (iW1 i sign).set 0 (patchDigest ((iW1 i sign).getD 0 []) (iPos i) (iDg i sign H c))
def iShrink (i : InterestIn) (sign : Bytes → Bytes) : Nat :=
  if i.est > 0 then fixSigShrink i.est (iSv i sign).length else 0
def iCov (i : InterestIn) : Option Bytes :=
  if i.est > 0 then some (interestSigCovered i (iFn0 i)) else none
def iFn1 (i : InterestIn) (sign H : Bytes → Bytes) (c : List Bytes) : Name :=
  (iFn0 i).dropLast ++ [digestComp (iDg i sign H c)]

theorem makeInterest_some_eq (i : InterestIn) (sign H : Bytes → Bytes) (c : List Bytes) (hap : i.ap = some c) :
    makeInterest i sign H =
      if (iSv i sign).length > i.est then .err
      else if iShrink i sign > 0 then
        (shrinkLength ((iW2 i sign H c).getD 0 []) (iShrink i sign)) >>= fun w0 =>
          pure (Encoded.mk ((iW2 i sign H c).set 0 w0) (iCov i) (iSv i sign), iFn1 i sign H c)
      else pure (Encoded.mk (iW2 i sign H c) (iCov i) (iSv i sign), iFn1 i sign H c) := by
  unfold makeInterest
  rw [hap]
  dsimp only [Option.isSome, Option.isNone]
  exact if_neg (fun h : i.est > 0 ∧ false = true => Bool.noConfusion h.2)

theorem iFn0_eq (i : InterestIn) : iFn0 i = stripDigest i.name ++ [digestComp (List.replicate 32 0)] := rfl

theorem iFn0_dropLast (i : InterestIn) : (iFn0 i).dropLast = stripDigest i.name := by
  rw [iFn0_eq]; simp

theorem interestSigCovered_some (i : InterestIn) (c : List Bytes) (hap : i.ap = some c) :
    interestSigCovered i (iFn0 i) = interestCovered i := by
  unfold interestSigCovered interestCovered
  rw [hap]
  simp [iFn0_dropLast, optB]

/-- the conclusion of `EncSpecs.makeInterest_flatten` -/
abbrev InterestNormal (i : InterestIn) (sign H : Bytes → Bytes) (e : Encoded) (fn : Name) : Prop :=
    fn = interestFinalName i H e.sigVal
    ∧ e.wire.flatten = encTL 5 ++ encTL (interestValue i fn e.sigVal).length ++ interestValue i fn e.sigVal
    ∧ (i.est > 0 → e.sigVal = sign (interestCovered i) ∧ e.sigCovered = some (interestCovered i) ∧ e.sigVal.length ≤ i.est)
    ∧ (i.est = 0 → e.sigCovered = none ∧ e.sigVal = [])

theorem makeInterest_some (i : InterestIn) (sign H : Bytes → Bytes) (e : Encoded) (fn : Name)
    (c : List Bytes) (hv : i.Valid) (hH : ∀ x, (H x).length = 32) (hap : i.ap = some c)
    (hm : makeInterest i sign H = .ok (e, fn)) :
    InterestNormal i sign H e fn := by
  rw [makeInterest_some_eq i sign H c hap] at hm
  by_cases hlong : (iSv i sign).length > i.est
  · rw [if_pos hlong] at hm; cases hm
  rw [if_neg hlong] at hm
  have hle := Nat.le_of_not_lt hlong
  have hL : interestLen i (iFn0 i) < 2 ^ 62 := by have := interestLen_lt hv; rwa [hap] at this
  -- the wire after the signature patch; the segments after the first join to the parameters portion
  obtain ⟨X, Y, hW1, hpp, hX⟩ := interest_wire i (iFn0 i) (iSv i sign)
  have hW1 : iW1 i sign = _ := hW1
  have hdg : iDg i sign H c = H (interestParamsPortion i (iSv i sign)) := by
    rw [← hpp, hX c hap, iDg, hW1]; rfl
  have hdgl : (iDg i sign H c).length = 32 := by rw [hdg]; exact hH _
  have hfn1 : iFn1 i sign H c = stripDigest i.name ++ [digestComp (iDg i sign H c)] := by
    unfold iFn1; rw [iFn0_dropLast]
  have hfinal : iFn1 i sign H c = interestFinalName i H (iSv i sign) := by
    rw [hfn1, hdg]; unfold interestFinalName; rw [hap]; rfl
  -- the first segment after the digest patch
  have hW2 : iW2 i sign H c
      = (encTL 5 ++ encTL (interestLen i (iFn0 i)) ++ (interestHead i (iFn1 i sign H c) ++ X)) :: Y := by
    unfold iW2
    rw [hW1, List.getD_cons_zero, List.set_cons_zero, interestHead_append, interestHead_append, hfn1,
      show iPos i = tlLen 5 + tlLen (interestLen i (iFn0 i))
        + (tlLen 7 + tlLen (nameLen (stripDigest i.name ++ [digestComp (List.replicate 32 0)]))
          + nameLen (stripDigest i.name) + 2) by unfold iPos; rw [iFn0_dropLast]; rfl,
      iFn0_eq, patchDigest_seg0 _ _ _ _ hdgl]
  -- lengths: what ShrinkLength takes off leaves the length of the value
  have hnl : nameLen (iFn1 i sign H c) = nameLen (iFn0 i) := by
    rw [hfn1, iFn0_eq, nameLen_digest _ _ hdgl, nameLen_digest _ _ (List.length_replicate ..)]
  have hx := shrink_exact 5 (interestLen i (iFn0 i)) _ 46 i.est (iSv i sign)
    (interestValue i (iFn1 i sign H c) (iSv i sign)) (by decide) (by decide)
    hL (fun _ => hle) (interestLen_congr i hnl.symm)
    (interestValue_length encNameInner_length encSigInfo_length encLinks_length _ _ _)
  rw [← iShrink] at hx
  obtain ⟨hlen, hs⟩ := hx
  have hne (h0 : i.est = 0) : ¬ i.est > 0 := Nat.not_lt_of_le (Nat.le_of_eq h0)
  -- whichever first segment `w` comes out: with the exact length in the outer TL the result is in normal form
  have hN (n : Nat) (hn : n = (interestValue i (iFn1 i sign H c) (iSv i sign)).length)
      (hm : (pure (Encoded.mk ((encTL 5 ++ encTL n ++ (interestHead i (iFn1 i sign H c) ++ X)) :: Y) (iCov i)
        (iSv i sign), iFn1 i sign H c) : Res _) = .ok (e, fn)) : InterestNormal i sign H e fn := by
    cases hm
    refine ⟨hfinal, by rw [seg0_flatten, hpp, hn]; rfl, fun hp => ⟨?_, ?_, hle⟩, fun h0 => ⟨?_, ?_⟩⟩
    · show iSv i sign = _; rw [iSv, if_pos hp, interestSigCovered_some i c hap]
    · show iCov i = _; rw [iCov, if_pos hp, interestSigCovered_some i c hap]
    · exact if_neg (hne h0)
    · exact if_neg (hne h0)
  rw [hW2] at hm
  by_cases hs0 : iShrink i sign > 0
  · simp only [if_pos hs0, List.getD_cons_zero, hs, Res.bind_ok] at hm
    exact hN _ rfl hm
  · rw [if_neg hs0] at hm
    rw [Nat.eq_zero_of_not_pos hs0] at hlen
    exact hN _ hlen hm

theorem makeInterest_none_eq (i : InterestIn) (sign H : Bytes → Bytes) (hap : i.ap = none) (h0 : i.est = 0) :
    makeInterest i sign H = .ok (Encoded.mk (wrapPacket 5 (interestLen i (stripDigest i.name))
      (interestSegs i (stripDigest i.name))) none [], stripDigest i.name) := by
  unfold makeInterest
  rw [hap, h0]
  dsimp only [Option.isSome, Option.isNone]
  simp only [Nat.lt_irrefl, gt_iff_lt, false_and, if_false, List.length_nil]
  rfl

theorem makeInterest_none (i : InterestIn) (sign H : Bytes → Bytes) (e : Encoded) (fn : Name)
    (hv : i.Valid) (hap : i.ap = none) (hm : makeInterest i sign H = .ok (e, fn)) :
    InterestNormal i sign H e fn := by
  have h0 : i.est = 0 := by
    cases Nat.eq_zero_or_pos i.est with
    | inl h => exact h
    | inr h => obtain ⟨_, _, _, _, _, _, hest, _⟩ := hv; have := hest h; rw [hap] at this; cases this
  have hne : ¬ i.est > 0 := Nat.not_lt_of_le (Nat.le_of_eq h0)
  -- no parameters, no signature: nothing is patched, nothing taken off
  rw [makeInterest_none_eq i sign H hap h0] at hm
  cases hm
  refine ⟨?_, ?_, fun h => absurd h hne, fun _ => ⟨rfl, rfl⟩⟩
  · unfold interestFinalName; rw [hap]; rfl
  · obtain ⟨X, Y, hW, hXY, _⟩ := interest_wire i (stripDigest i.name) []
    rw [if_neg hne] at hW
    have hlen : interestLen i (stripDigest i.name) = (interestValue i (stripDigest i.name) []).length := by
      rw [interestValue_length encNameInner_length encSigInfo_length encLinks_length]; unfold interestLen sigTLLen
      rw [if_neg hne, if_neg hne]
    show (wrapPacket 5 _ _).flatten = encTL 5 ++ encTL (interestValue i _ []).length ++ interestValue i _ []
    rw [hW, seg0_flatten, hXY, hlen]; rfl

theorem makeInterest_normal (i : InterestIn) (sign H : Bytes → Bytes) (e : Encoded) (fn : Name)
    (hv : i.Valid) (hH : ∀ x, (H x).length = 32) (hm : makeInterest i sign H = .ok (e, fn)) :
    InterestNormal i sign H e fn := by
  cases hap : i.ap with
  | none => exact makeInterest_none i sign H e fn hv hap hm
  | some c => exact makeInterest_some i sign H e fn c hv hH hap hm

end Ndn.C03
