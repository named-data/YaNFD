/-
  C03/LemmasLift.lean — PARSER-LEVEL refinement: decoding over a segmented reader = decoding over the
  contiguous buffer, for ALL input bytes (also malformed ones).

  Two healthy readers over the same logical buffer at the same logical position (`Sim`) are
  indistinguishable for every reader operation (from `ReaderSpecs` + the out-of-range facts
  `ReaderSpecsX`), hence for every parser built from them: `Res.Rel` lifts a relation on results to
  outcomes (`.ok` related, every failure kind equal), each parser returning a reader is shown to map
  `Sim` readers to `Rel`-related outcomes, each parser returning only a value to EQUAL outcomes.
-/
import NdnVerif.C03.Zip
namespace Ndn.C03

def Sim (r1 r2 : Rd) : Prop := ∃ buf p, At r1 buf p ∧ At r2 buf p

/-- every healthy reader at the start of `buf` decodes as the contiguous reader does -/
theorem sim_Z {r : Rd} {buf : Bytes} (h : At r buf 0) : Sim r (Z [] buf) := ⟨buf, 0, h, at_Z_nil buf⟩

/-- What `ReaderSpecs` leaves open: `Skip` on a reader parked past its last segment, `Range` and
    `Delegate` with out-of-range arguments.  Discharged in LemmasLiftRd.lean. -/
structure ReaderSpecsX : Prop where
  skip_ok : ∀ r buf p n, At r buf p → p + n ≤ buf.length → ∃ r', r.skip n = .ok r' ∧ At r' buf (p + n)
  skip_err : ∀ r buf p n, At r buf p → p + n > buf.length → r.skip n = .err
  range_oob : ∀ r buf p s e, At r buf p → (e > buf.length ∨ s > e) → r.range s e = []
  delegate_oob : ∀ r buf p l, At r buf p → p + l > buf.length →
    ∃ r', r.delegate l = .ok (.buf ⟨[], 0⟩, r') ∧ At r' buf p

def Res.Rel {α β : Type} (P : α → β → Prop) : Res α → Res β → Prop
  | .ok a, .ok b => P a b
  | .err, .err => True
  | .panic m, .panic m' => m = m'
  | .alloc, .alloc => True
  | .oom, .oom => True
  | _, _ => False

theorem rel_ok_lf {α β : Type} {P : α → β → Prop} {a : α} {b : β} (h : P a b) :
    Res.Rel P (.ok a) (.ok b) := h

theorem rel_pure_lf {α β : Type} {P : α → β → Prop} {a : α} {b : β} (h : P a b) :
    Res.Rel P (pure a) (pure b) := h

theorem rel_err_lf {α β : Type} {P : α → β → Prop} : Res.Rel P (.err : Res α) (.err : Res β) := trivial

theorem rel_oom {α β : Type} {P : α → β → Prop} : Res.Rel P (.oom : Res α) (.oom : Res β) := trivial

theorem rel_bind {α β γ δ : Type} {P : α → β → Prop} {Q : γ → δ → Prop} {x : Res α} {y : Res β}
    {f : α → Res γ} {g : β → Res δ} (h : Res.Rel P x y) (hf : ∀ a b, P a b → Res.Rel Q (f a) (g b)) :
    Res.Rel Q (x >>= f) (y >>= g) := by
  cases x <;> cases y <;> simp only [Res.Rel] at h <;>
    first
      | exact hf _ _ h
      | trivial
      | (subst h; show Res.Rel Q (Res.panic _) (Res.panic _); simp [Res.Rel])

theorem rel_refl {α : Type} (x : Res α) : Res.Rel Eq x x := by
  cases x <;> simp [Res.Rel]

theorem rel_bind_same {α γ δ : Type} {Q : γ → δ → Prop} (x : Res α)
    {f : α → Res γ} {g : α → Res δ} (hf : ∀ a, Res.Rel Q (f a) (g a)) :
    Res.Rel Q (x >>= f) (x >>= g) :=
  rel_bind (rel_refl x) (fun a _ e => e ▸ hf a)

theorem rel_ite {α β : Type} {P : α → β → Prop} {c : Prop} [Decidable c] {a a' : Res α} {b b' : Res β}
    (h1 : c → Res.Rel P a b) (h2 : ¬ c → Res.Rel P a' b') :
    Res.Rel P (if c then a else a') (if c then b else b') := by
  by_cases hc : c
  · simp only [hc, ↓reduceIte]; exact h1 hc
  · simp only [hc, ↓reduceIte]; exact h2 hc

theorem rel_eq {α : Type} {x y : Res α} (h : Res.Rel Eq x y) : x = y := by
  cases x <;> cases y <;> simp only [Res.Rel] at h <;> first | rfl | (subst h; rfl) | exact h.elim

def PV {α : Type} (a b : α × Rd) : Prop := a.1 = b.1 ∧ Sim a.2 b.2
/-- name field results: (name, sigCoverEnd, reader) -/
def PV3 {α β : Type} (a b : α × β × Rd) : Prop := a.1 = b.1 ∧ a.2.1 = b.2.1 ∧ Sim a.2.2 b.2.2
/-- `Delegate` results: (sub-reader, parent) -/
def PD (a b : Rd × Rd) : Prop := Sim a.1 b.1 ∧ Sim a.2 b.2

theorem rel_bind_pv {α γ δ : Type} {Q : γ → δ → Prop} {x y : Res (α × Rd)} {f : α × Rd → Res γ} {g : α × Rd → Res δ}
    (h : Res.Rel PV x y) (hf : ∀ v a b, Sim a b → Res.Rel Q (f (v, a)) (g (v, b))) : Res.Rel Q (x >>= f) (y >>= g) :=
  rel_bind h (fun ⟨v, a⟩ ⟨_, b⟩ ⟨e, hs⟩ => by cases e; exact hf v a b hs)

/-- a step whose continuation only stores the value read: the default argument is that obligation -/
theorem rel_store {α γ : Type} {x y : Res (α × Rd)} {f g : α × Rd → Res (γ × Rd)} (h : Res.Rel PV x y)
    (hf : ∀ v a b, Sim a b → Res.Rel PV (f (v, a)) (g (v, b)) := by exact fun _ _ _ hs => ⟨rfl, hs⟩) :
    Res.Rel PV (x >>= f) (y >>= g) :=
  rel_bind_pv h hf

/-- a read that returns the next `l` bytes or fails: `ReadBuf`, `ReadWire`, `ReadFull` -/
theorem read_sim (op : Rd → Nat → Res (Bytes × Rd))
    (hok : ∀ r buf p l, At r buf p → p + l ≤ buf.length → ∃ r', op r l = .ok ((buf.drop p).take l, r') ∧ At r' buf (p + l))
    (herr : ∀ r buf p l, At r buf p → p + l > buf.length → op r l = .err)
    {r1 r2 : Rd} (l : Nat) (h : Sim r1 r2) : Res.Rel PV (op r1 l) (op r2 l) := by
  obtain ⟨buf, p, h1, h2⟩ := h
  by_cases hp : p + l ≤ buf.length
  · obtain ⟨r1', e1, a1⟩ := hok r1 buf p l h1 hp
    obtain ⟨r2', e2, a2⟩ := hok r2 buf p l h2 hp
    rw [e1, e2]; exact ⟨rfl, buf, p + l, a1, a2⟩
  · rw [herr r1 buf p l h1 (Nat.lt_of_not_le hp), herr r2 buf p l h2 (Nat.lt_of_not_le hp)]; trivial

/-- HopLimit (`k = 8`) is a bind: the model spells the five outcomes of `Skip(1)` out -/
theorem interestHandle_hl (s : InterestSt) (l sp : Nat) (r : Rd) :
    interestHandle 8 s l sp r = r.skip 1 >>= fun r =>
      match r.range (r.pos - 1) r.pos with
      | x :: _ => pure ({ s with v := { s.v with hl := some x } }, r)
      | [] => .panic "index out of range (HopLimit Range)" := by
  unfold interestHandle
  cases r.skip 1 <;> rfl

section
variable (X : ReaderSpecsX)
include X

theorem skip_sim {r1 r2 : Rd} (n : Nat) (h : Sim r1 r2) : Res.Rel Sim (r1.skip n) (r2.skip n) := by
  obtain ⟨buf, p, h1, h2⟩ := h
  by_cases hp : p + n ≤ buf.length
  · obtain ⟨r1', e1, a1⟩ := X.skip_ok r1 buf p n h1 hp
    obtain ⟨r2', e2, a2⟩ := X.skip_ok r2 buf p n h2 hp
    rw [e1, e2]; exact ⟨buf, p + n, a1, a2⟩
  · rw [X.skip_err r1 buf p n h1 (Nat.lt_of_not_le hp), X.skip_err r2 buf p n h2 (Nat.lt_of_not_le hp)]; trivial

theorem unknownField_sim {σ : Type} (st : σ) (typ l : Nat) {r1 r2 : Rd} (h : Sim r1 r2) :
    Res.Rel PV (unknownField st typ l r1) (unknownField st typ l r2) :=
  rel_ite (fun _ => trivial) (fun _ => rel_bind (skip_sim X l h) (fun _ _ hs => ⟨rfl, hs⟩))

theorem ordLoop_sim {σ : Type} (n : Nat) (idx : Nat → Option Nat)
    (handle : Nat → σ → Nat → Nat → Rd → Res (σ × Rd)) (absent : Nat → σ → Nat → Rd → σ)
    (hh : ∀ k st l sp r1 r2, Sim r1 r2 → Res.Rel PV (handle k st l sp r1) (handle k st l sp r2))
    (ha : ∀ k st sp r1 r2, Sim r1 r2 → absent k st sp r1 = absent k st sp r2)
    (typ l sp : Nat) : ∀ (fuel q : Nat) (st : σ) (r1 r2 : Rd), Sim r1 r2 →
      Res.Rel PV (ordLoop n idx handle absent typ l sp fuel q st r1)
        (ordLoop n idx handle absent typ l sp fuel q st r2) := by
  intro fuel
  induction fuel with
  | zero => intro q st r1 r2 h; exact ⟨rfl, h⟩
  | succ fuel ih =>
    intro q st r1 r2 h
    simp only [ordLoop]
    refine rel_ite (fun _ => ⟨rfl, h⟩) (fun _ => ?_)
    cases hi : idx typ with
    | none => exact rel_ite (fun _ => trivial) (fun _ => rel_bind (skip_sim X l h) (fun _ _ hs => ⟨rfl, hs⟩))
    | some k =>
      refine rel_ite (fun _ => rel_store (hh _ _ _ _ _ _ h)) (fun _ => ?_)
      rw [ha q st sp r1 r2 h]
      exact ih _ _ _ _ h

end

section
variable (R : ReaderSpecs)
include R

theorem pos_sim {r1 r2 : Rd} (h : Sim r1 r2) : r1.pos = r2.pos := by
  obtain ⟨buf, p, h1, h2⟩ := h
  rw [R.pos_eq r1 buf p h1, R.pos_eq r2 buf p h2]

theorem length_sim {r1 r2 : Rd} (h : Sim r1 r2) : r1.length = r2.length := by
  obtain ⟨buf, p, h1, h2⟩ := h
  rw [R.length_eq r1 buf p h1, R.length_eq r2 buf p h2]

theorem readByte_sim {r1 r2 : Rd} (h : Sim r1 r2) : Res.Rel PV r1.readByte r2.readByte := by
  obtain ⟨buf, p, h1, h2⟩ := h
  by_cases hp : p < buf.length
  · obtain ⟨r1', e1, a1, _⟩ := R.readByte_ok r1 buf p h1 hp
    obtain ⟨r2', e2, a2, _⟩ := R.readByte_ok r2 buf p h2 hp
    rw [e1, e2]; exact ⟨rfl, buf, p + 1, a1, a2⟩
  · rw [R.readByte_eof r1 buf p h1 (Nat.le_of_not_lt hp), R.readByte_eof r2 buf p h2 (Nat.le_of_not_lt hp)]; trivial

theorem readBuf_sim {r1 r2 : Rd} (l : Nat) (h : Sim r1 r2) : Res.Rel PV (r1.readBuf l) (r2.readBuf l) :=
  read_sim Rd.readBuf R.readBuf_ok R.readBuf_err l h

theorem readWire_sim {r1 r2 : Rd} (l : Nat) (h : Sim r1 r2) : Res.Rel PV (r1.readWire l) (r2.readWire l) :=
  read_sim Rd.readWire R.readWire_ok R.readWire_err l h

theorem readFull_sim {r1 r2 : Rd} (l : Nat) (h : Sim r1 r2) : Res.Rel PV (r1.readFull l) (r2.readFull l) :=
  read_sim Rd.readFull R.readFull_ok R.readFull_err l h

theorem readBytesAcc_sim : ∀ (k : Nat) (r1 r2 : Rd) (acc : Nat), Sim r1 r2 →
    Res.Rel PV (readBytesAcc k r1 acc) (readBytesAcc k r2 acc) := by
  intro k
  induction k with
  | zero => intro r1 r2 acc h; exact ⟨rfl, h⟩
  | succ k ih =>
    intro r1 r2 acc h
    exact rel_bind_pv (readByte_sim R h) (fun _ a b hs => ih a b _ hs)

theorem readTL_sim {r1 r2 : Rd} (h : Sim r1 r2) : Res.Rel PV (readTL r1) (readTL r2) :=
  rel_bind_pv (readByte_sim R h) (fun _ _ _ hs =>
    rel_ite (fun _ => ⟨rfl, hs⟩) (fun _ => readBytesAcc_sim R _ _ _ _ hs))

theorem readNat_sim {r1 r2 : Rd} (l w : Nat) (h : Sim r1 r2) :
    Res.Rel PV (readNat r1 l w) (readNat r2 l w) := by
  unfold readNat
  rw [pos_sim R h, length_sim R h]
  exact rel_ite (fun _ => ⟨rfl, h⟩) (fun _ => rel_ite (fun _ => trivial) (fun _ =>
    rel_store (readBytesAcc_sim R _ _ _ _ h)))

theorem readNatural_sim {r1 r2 : Rd} (l : Nat) (h : Sim r1 r2) :
    Res.Rel PV (readNatural r1 l) (readNatural r2 l) :=
  rel_ite (fun _ => readNat_sim R l 64 h) (fun _ => trivial)

theorem lenGuard_sim {r1 r2 : Rd} (l : Nat) (h : Sim r1 r2) : lenGuard r1 l = lenGuard r2 l := by
  unfold lenGuard
  rw [pos_sim R h, length_sim R h]

theorem bin_sim {γ : Type} {F : Bytes × Rd → Res (γ × Rd)}
    (hF : ∀ v a b, Sim a b → Res.Rel PV (F (v, a)) (F (v, b)) := by exact fun _ _ _ hs => ⟨rfl, hs⟩)
    {r1 r2 : Rd} (l : Nat) (h : Sim r1 r2) :
    Res.Rel PV (lenGuard r1 l >>= fun _ => r1.readFull l >>= F) (lenGuard r2 l >>= fun _ => r2.readFull l >>= F) := by
  rw [lenGuard_sim R l h]
  exact rel_bind_same _ (fun _ => rel_bind_pv (readFull_sim R l h) hF)

theorem readString_sim {r1 r2 : Rd} (l : Nat) (h : Sim r1 r2) :
    Res.Rel PV (readString r1 l) (readString r2 l) :=
  rel_ite (fun _ => ⟨rfl, h⟩) (fun _ => readFull_sim R l h)

theorem nameLoop_sim : ∀ (fuel : Nat) (r1 r2 : Rd) (endName : Nat) (acc : Name) (sigEnd : Nat), Sim r1 r2 →
    Res.Rel PV3 (nameLoop fuel r1 endName acc sigEnd) (nameLoop fuel r2 endName acc sigEnd) := by
  intro fuel
  induction fuel with
  | zero =>
    intro r1 r2 endName acc sigEnd h
    simp only [nameLoop]
    rw [pos_sim R h]
    exact rel_ite (fun _ => trivial) (fun _ => ⟨rfl, rfl, h⟩)
  | succ fuel ih =>
    intro r1 r2 endName acc sigEnd h
    simp only [nameLoop]
    rw [pos_sim R h]
    refine rel_ite (fun _ => rel_ite (fun _ => trivial) (fun _ => ⟨rfl, rfl, h⟩)) (fun _ => ?_)
    exact rel_bind_pv (readTL_sim R h) (fun _ _ _ hs => rel_bind_pv (readTL_sim R hs) (fun l _ _ hs2 =>
      rel_bind_pv (readBuf_sim R l hs2) (fun _ a3 b3 hs3 => ih a3 b3 _ _ _ hs3)))

theorem readNameField_sim {r1 r2 : Rd} (l : Nat) (h : Sim r1 r2) :
    Res.Rel PV3 (readNameField r1 l) (readNameField r2 l) := by
  simp only [readNameField]
  rw [lenGuard_sim R l h, pos_sim R h]
  exact rel_bind_same _ (fun _ => nameLoop_sim R _ _ _ _ _ _ h)

/-- a name field whose name is stored (the `sigCoverEnd` it also returns is not) -/
theorem nameStore_sim {γ : Type} {F : Name × Nat × Rd → Res (γ × Rd)} (k : Name → γ)
    (hF : ∀ n e r, F (n, e, r) = pure (k n, r)) {r1 r2 : Rd} (l : Nat) (h : Sim r1 r2) :
    Res.Rel PV (readNameField r1 l >>= F) (readNameField r2 l >>= F) :=
  rel_bind (readNameField_sim R l h) (fun ⟨n, e, a⟩ ⟨_, e', b⟩ ⟨h1, _, hs⟩ => by
    cases h1; rw [hF, hF]; exact ⟨rfl, hs⟩)

theorem tlvLoop_sim {σ : Type} (body : σ → Nat → Nat → Nat → Rd → Res (σ × Rd))
    (hb : ∀ st typ l sp r1 r2, Sim r1 r2 → Res.Rel PV (body st typ l sp r1) (body st typ l sp r2)) :
    ∀ (fuel : Nat) (st : σ) (r1 r2 : Rd), Sim r1 r2 →
      Res.Rel PV (tlvLoop body fuel st r1) (tlvLoop body fuel st r2) := by
  intro fuel
  induction fuel with
  | zero => intro st r1 r2 _; exact rel_oom
  | succ fuel ih =>
    intro st r1 r2 h
    simp only [tlvLoop]
    rw [pos_sim R h, length_sim R h]
    refine rel_ite (fun _ => ⟨rfl, h⟩) (fun _ => ?_)
    exact rel_bind_pv (readTL_sim R h) (fun _ _ _ hs => rel_bind_pv (readTL_sim R hs) (fun _ _ _ hs2 =>
      rel_bind_pv (hb _ _ _ _ _ _ hs2) (fun _ a3 b3 hs3 => ih _ a3 b3 hs3)))

theorem loopThen_sim {σ β : Type} (body : σ → Nat → Nat → Nat → Rd → Res (σ × Rd))
    (hb : ∀ st typ l sp r1 r2, Sim r1 r2 → Res.Rel PV (body st typ l sp r1) (body st typ l sp r2))
    (fuel : Nat) (s0 : σ) (k : σ × Rd → Res β) (hk : ∀ st a b, Sim a b → k (st, a) = k (st, b)) {r1 r2 : Rd} (h : Sim r1 r2) :
    (tlvLoop body fuel s0 r1 >>= k) = (tlvLoop body fuel s0 r2 >>= k) :=
  rel_eq (rel_bind_pv (tlvLoop_sim R body hb _ _ _ _ h) (fun st a b hs => hk st a b hs ▸ rel_refl _))

theorem loopFuel_sim {r1 r2 : Rd} (h : Sim r1 r2) : loopFuel r1 = loopFuel r2 := by
  unfold loopFuel; rw [pos_sim R h, length_sim R h]

theorem loopParse_sim {σ β : Type} (body : σ → Nat → Nat → Nat → Rd → Res (σ × Rd))
    (hb : ∀ st typ l sp r1 r2, Sim r1 r2 → Res.Rel PV (body st typ l sp r1) (body st typ l sp r2))
    (s0 : σ) (k : σ × Rd → Res β) (hk : ∀ st a b, Sim a b → k (st, a) = k (st, b)) {r1 r2 : Rd} (h : Sim r1 r2) :
    (tlvLoop body (loopFuel r1) s0 r1 >>= k) = (tlvLoop body (loopFuel r2) s0 r2 >>= k) := by
  rw [loopFuel_sim R h]
  exact loopThen_sim R body hb _ s0 k hk h

theorem ordFinish_sim {σ : Type} (absent : Nat → σ → Nat → Rd → σ)
    (ha : ∀ k st sp r1 r2, Sim r1 r2 → absent k st sp r1 = absent k st sp r2)
    {r1 r2 : Rd} (h : Sim r1 r2) : ∀ (fuel q : Nat) (st : σ),
      ordFinish absent r1 fuel q st = ordFinish absent r2 fuel q st := by
  intro fuel
  induction fuel with
  | zero => intro q st; rfl
  | succ fuel ih =>
    intro q st
    simp only [ordFinish]
    rw [pos_sim R h, ha q st r2.pos r1 r2 h]
    exact ih _ _

theorem ordEnd_sim {σ : Type} (absent : Nat → σ → Nat → Rd → σ)
    (ha : ∀ k st sp r1 r2, Sim r1 r2 → absent k st sp r1 = absent k st sp r2) (n : Nat) (st : σ × Nat) {r1 r2 : Rd}
    (h : Sim r1 r2) : ordEnd absent n (st, r1) = ordEnd absent n (st, r2) :=
  congrArg pure (ordFinish_sim R absent ha h (n - st.2) st.2 st.1)

variable (X : ReaderSpecsX)
include X

theorem range_sim {r1 r2 : Rd} (s e : Nat) (h : Sim r1 r2) : r1.range s e = r2.range s e := by
  obtain ⟨buf, p, h1, h2⟩ := h
  by_cases hp : s ≤ e ∧ e ≤ buf.length
  · rw [R.range_eq r1 buf p s e h1 hp.1 hp.2, R.range_eq r2 buf p s e h2 hp.1 hp.2]
  · have hc : e > buf.length ∨ s > e := by omega
    rw [X.range_oob r1 buf p s e h1 hc, X.range_oob r2 buf p s e h2 hc]

theorem delegate_sim {r1 r2 : Rd} (l : Nat) (h : Sim r1 r2) : Res.Rel PD (r1.delegate l) (r2.delegate l) := by
  obtain ⟨buf, p, h1, h2⟩ := h
  by_cases hp : p + l ≤ buf.length
  · obtain ⟨s1, r1', e1, b1, a1⟩ := R.delegate_ok r1 buf p l h1 hp
    obtain ⟨s2, r2', e2, b2, a2⟩ := R.delegate_ok r2 buf p l h2 hp
    rw [e1, e2]; exact ⟨⟨_, 0, b1, b2⟩, buf, p + l, a1, a2⟩
  · obtain ⟨r1', e1, a1⟩ := X.delegate_oob r1 buf p l h1 (Nat.lt_of_not_le hp)
    obtain ⟨r2', e2, a2⟩ := X.delegate_oob r2 buf p l h2 (Nat.lt_of_not_le hp)
    rw [e1, e2]; exact ⟨⟨[], 0, at_newBufferReader [], at_newBufferReader []⟩, buf, p, a1, a2⟩

/-- a struct field: `Delegate`, the sub-parser on the sub-reader (an outcome that depends on the view
    only), then the value is stored -/
theorem sub_sim {α γ : Type} {parse : Rd → Res α} (hp : ∀ s1 s2, Sim s1 s2 → parse s1 = parse s2)
    {F : Rd × Rd → Res (γ × Rd)} (k : α → γ) (hF : ∀ s r, F (s, r) = parse s >>= fun a => pure (k a, r))
    {r1 r2 : Rd} (l : Nat) (h : Sim r1 r2) : Res.Rel PV (r1.delegate l >>= F) (r2.delegate l >>= F) :=
  rel_bind (delegate_sim R X l h) (fun ⟨s1, a⟩ ⟨s2, b⟩ ⟨hs, hr⟩ => by
    rw [hF, hF, hp s1 s2 hs]
    exact rel_bind_same _ (fun _ => ⟨rfl, hr⟩))

theorem parseKeyLoc_sim {r1 r2 : Rd} (h : Sim r1 r2) : parseKeyLoc r1 = parseKeyLoc r2 :=
  loopParse_sim R keyLocBody (fun _ _ l _ _ _ h =>
    rel_ite (fun _ => nameStore_sim R _ (fun _ _ _ => rfl) l h) (fun _ => rel_ite (fun _ => bin_sim R (l := l) (h := h))
    (fun _ => unknownField_sim X _ _ _ h)))
    _ _ (fun _ _ _ _ => rfl) h

theorem parseValidity_sim {r1 r2 : Rd} (h : Sim r1 r2) : parseValidity r1 = parseValidity r2 :=
  loopParse_sim R validityBody (fun _ _ l _ _ _ h =>
    rel_ite (fun _ => rel_store (readString_sim R l h)) (fun _ =>
    rel_ite (fun _ => rel_store (readString_sim R l h)) (fun _ => unknownField_sim X _ _ _ h)))
    _ _ (fun _ _ _ _ => rfl) h

theorem parseSigInfo_sim {r1 r2 : Rd} (h : Sim r1 r2) : parseSigInfo r1 = parseSigInfo r2 :=
  loopParse_sim R sigInfoBody (fun _ _ l _ _ _ h =>
    rel_ite (fun _ => rel_store (readNatural_sim R l h)) (fun _ =>
    rel_ite (fun _ => sub_sim R X (fun _ _ hs => parseKeyLoc_sim R X hs) _ (fun _ _ => rfl) l h) (fun _ =>
    rel_ite (fun _ => bin_sim R (l := l) (h := h)) (fun _ =>
    rel_ite (fun _ => rel_store (readNatural_sim R l h)) (fun _ =>
    rel_ite (fun _ => rel_store (readNatural_sim R l h)) (fun _ =>
    rel_ite (fun _ => sub_sim R X (fun _ _ hs => parseValidity_sim R X hs) _ (fun _ _ => rfl) l h) (fun _ =>
    rel_ite (fun _ => rel_oom) (fun _ => unknownField_sim X _ _ _ h))))))))
    _ _ (fun _ _ _ _ => rfl) h

theorem parseMeta_sim {r1 r2 : Rd} (h : Sim r1 r2) : parseMeta r1 = parseMeta r2 :=
  loopParse_sim R metaBody (fun _ _ l _ _ _ h =>
    rel_ite (fun _ => rel_store (readNatural_sim R l h)) (fun _ =>
    rel_ite (fun _ => rel_store (readNatural_sim R l h)) (fun _ =>
    rel_ite (fun _ => bin_sim R (l := l) (h := h)) (fun _ => unknownField_sim X _ _ _ h))))
    _ _ (fun _ _ _ _ => rfl) h

theorem parseLinks_sim {r1 r2 : Rd} (h : Sim r1 r2) : parseLinks r1 = parseLinks r2 :=
  loopParse_sim R linksBody (fun _ _ l _ _ _ h =>
    rel_ite (fun _ => nameStore_sim R _ (fun _ _ _ => rfl) l h) (fun _ => unknownField_sim X _ _ _ h))
    _ _ (fun _ _ _ _ => rfl) h

theorem dataHandle_sim (k : Nat) (s : DataSt) (l sp : Nat) {r1 r2 : Rd} (h : Sim r1 r2) :
    Res.Rel PV (dataHandle k s l sp r1) (dataHandle k s l sp r2) :=
  rel_ite (fun _ => nameStore_sim R _ (fun _ _ _ => rfl) l h) (fun _ =>
  rel_ite (fun _ => sub_sim R X (fun _ _ hs => parseMeta_sim R X hs) _ (fun _ _ => rfl) l h) (fun _ =>
  rel_ite (fun _ => rel_store (readWire_sim R l h)) (fun _ =>
  rel_ite (fun _ => sub_sim R X (fun _ _ hs => parseSigInfo_sim R X hs) _ (fun _ _ => rfl) l h) (fun _ =>
  rel_bind_pv (readWire_sim R l h) (fun _ a b hs => by
    show Res.Rel PV (pure _) (pure _)
    rw [range_sim R X _ _ hs]; exact ⟨rfl, hs⟩)))))

set_option linter.unusedSectionVars false in
theorem dataAbsent_sim_lf (k : Nat) (s : DataSt) (sp : Nat) (r1 r2 : Rd) :
    dataAbsent k s sp r1 = dataAbsent k s sp r2 := rfl

theorem parseData_sim (s0 : DataSt) {r1 r2 : Rd} (h : Sim r1 r2) : parseData s0 r1 = parseData s0 r2 :=
  loopParse_sim R dataBody (fun s typ l sp _ _ hs => ordLoop_sim X 7 dataIdx dataHandle dataAbsent
      (fun _ _ _ _ _ _ hs => dataHandle_sim R X _ _ _ _ hs) (fun _ _ _ _ _ _ => rfl) typ l sp 9 s.2 s.1 _ _ hs) _ _
    (fun st _ _ hs => ordEnd_sim R dataAbsent (fun _ _ _ _ _ _ => rfl) 7 st hs) h

theorem interestHandle_sim (k : Nat) (s : InterestSt) (l sp : Nat) {r1 r2 : Rd} (h : Sim r1 r2) :
    Res.Rel PV (interestHandle k s l sp r1) (interestHandle k s l sp r2) := by
  by_cases hk : k = 8
  · -- HopLimit: `Skip(1)`, then `Range` on the reader after it
    rw [hk, interestHandle_hl, interestHandle_hl]
    refine rel_bind (skip_sim X 1 h) (fun a b hs => ?_)
    rw [pos_sim R hs, range_sim R X _ _ hs]
    cases b.range (b.pos - 1) b.pos with
    | nil => exact rfl
    | cons x t => exact ⟨rfl, hs⟩
  unfold interestHandle
  refine rel_ite (fun _ => ?_) (fun _ => rel_ite (fun _ => ⟨rfl, h⟩) (fun _ => rel_ite (fun _ => ⟨rfl, h⟩) (fun _ =>
    rel_ite (fun _ => sub_sim R X (fun _ _ hs => parseLinks_sim R X hs) _ (fun _ _ => rfl) l h) (fun _ =>
    rel_ite (fun _ => rel_store (readNat_sim R l 32 h)) (fun _ =>
    rel_ite (fun _ => rel_store (readNatural_sim R l h)) (fun _ =>
    rel_ite (fun c => absurd c hk) (fun _ => rel_ite (fun _ => rel_store (readWire_sim R l h)) (fun _ =>
    rel_ite (fun _ => sub_sim R X (fun _ _ hs => parseSigInfo_sim R X hs) _ (fun _ _ => rfl) l h) (fun _ => ?_)))))))))
  · rw [pos_sim R h]
    refine rel_bind (readNameField_sim R l h) (fun ⟨n, e, a⟩ ⟨_, _, b⟩ ⟨h1, h2, hs⟩ => ?_)
    cases h1; cases h2
    show Res.Rel PV (pure _) (pure _)
    rw [range_sim R X _ _ hs]; exact ⟨rfl, hs⟩
  · refine rel_bind_pv (readWire_sim R l h) (fun _ a b hs => ?_)
    show Res.Rel PV (pure _) (pure _)
    rw [range_sim R X _ _ hs]; exact ⟨rfl, hs⟩

theorem interestAbsent_sim (k : Nat) (s : InterestSt) (sp : Nat) {r1 r2 : Rd} (h : Sim r1 r2) :
    interestAbsent k s sp r1 = interestAbsent k s sp r2 := by
  unfold interestAbsent
  rw [range_sim R X _ _ h]

/-- the Interest loop from ANY loop state, followed by the end of `Parse` -/
theorem interestLoop_sim (fuel : Nat) (s : InterestSt × Nat) {r1 r2 : Rd} (h : Sim r1 r2) :
    (tlvLoop interestBody fuel s r1 >>= ordEnd interestAbsent 15) = (tlvLoop interestBody fuel s r2 >>= ordEnd interestAbsent 15) :=
  loopThen_sim R interestBody (fun s typ l sp _ _ hs => ordLoop_sim X 15 interestIdx interestHandle
      interestAbsent (fun _ _ _ _ _ _ hs => interestHandle_sim R X _ _ _ _ hs)
      (fun _ _ _ _ _ hs => interestAbsent_sim R X _ _ _ hs) typ l sp 17 s.2 s.1 _ _ hs) fuel s _
    (fun st _ _ hs => ordEnd_sim R interestAbsent (fun _ _ _ _ _ hs => interestAbsent_sim R X _ _ _ hs) 15 st hs) h

theorem parseInterest_sim (s0 : InterestSt) {r1 r2 : Rd} (h : Sim r1 r2) :
    parseInterest s0 r1 = parseInterest s0 r2 := by
  rw [parseInterest_eq, parseInterest_eq, loopFuel_sim R h]
  exact interestLoop_sim R X _ _ h

theorem parsePacket_sim (r1 r2 : Rd) (h : Sim r1 r2) : parsePacket r1 = parsePacket r2 :=
  loopParse_sim R packetBody (fun p _ l _ _ _ h =>
    rel_ite (fun _ => sub_sim R X (fun _ _ hs => parseInterest_sim R X p.ictx hs) _ (fun _ _ => rfl) l h) (fun _ =>
    rel_ite (fun _ => sub_sim R X (fun _ _ hs => parseData_sim R X p.dctx hs) _ (fun _ _ => rfl) l h) (fun _ =>
    rel_ite (fun _ => rel_oom) (fun _ => unknownField_sim X _ _ _ h))))
    _ _ (fun _ _ _ _ => rfl) h

theorem readData_sim (r1 r2 : Rd) (h : Sim r1 r2) : readData r1 = readData r2 := by
  unfold readData
  rw [parsePacket_sim R X r1 r2 h]

theorem readInterest_sim (H : Bytes → Bytes) (r1 r2 : Rd) (h : Sim r1 r2) :
    readInterest H r1 = readInterest H r2 := by
  unfold readInterest
  rw [parsePacket_sim R X r1 r2 h]

theorem readPacket_sim (H : Bytes → Bytes) (r1 r2 : Rd) (h : Sim r1 r2) :
    readPacket H r1 = readPacket H r2 := by
  unfold readPacket
  rw [parsePacket_sim R X r1 r2 h]

end

end Ndn.C03
