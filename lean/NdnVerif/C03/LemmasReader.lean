/-
  C03/LemmasReader.lean — operation-level refinement WireReader ⊑ BufferReader (`ReaderSpecs`): on every
  healthy reader each ParseReader operation behaves exactly as the BufferReader operation on the logical
  buffer, for every segmentation.
-/
import NdnVerif.C03.LemmasReaderOp
namespace Ndn.C03

namespace BufR

/-- the first guard of `ReadWire` is covered by the second -/
theorem readWire_eq (b : BufR) (l : Nat) : b.readWire l =
    if b.pos + l > b.buf.length then .err else .ok ((b.buf.drop b.pos).take l, { b with pos := b.pos + l }) := by
  unfold readWire
  by_cases h : b.pos ≥ b.buf.length ∧ l > 0
  · rw [if_pos h, if_pos (Nat.lt_of_le_of_lt h.1 (Nat.lt_add_of_pos_right h.2))]
  · rw [if_neg h]

end BufR

namespace Rd

-- an operation of `Rd` is `>>=` over the operation of the reader inside: `congrArg (· >>= _)` of its outcome
theorem skip_spec (r : Rd) (buf : Bytes) (p n : Nat) (h : At r buf p) :
    (p + n ≤ buf.length → ∃ r', r.skip n = .ok r' ∧ At r' buf (p + n))
    ∧ (p + n > buf.length → r.skip n = .err) := by
  cases r with
  | buf b =>
    obtain ⟨rfl, _⟩ := (at_buf_iff _ _ _).1 h
    exact ⟨fun hn => ⟨.buf ⟨buf, p + n⟩, congrArg (· >>= _) (if_neg (Nat.not_lt_of_le hn)),
      (at_buf_iff _ _ _).2 ⟨rfl, hn⟩⟩, fun hn => congrArg (· >>= _) (if_pos hn)⟩
  | wire w =>
    obtain ⟨_, _, _, hb4⟩ := at_wire_buf h
    have H := w.skip_spec n h.1.pre
    refine ⟨fun hn => ?_, fun hn => ?_⟩
    · obtain ⟨r', e, m⟩ := H.1 ((hb4 n).1 hn)
      exact ⟨.wire r', congrArg (· >>= _) e, m.toAt h⟩
    · exact congrArg (· >>= _) (H.2 (at_wire_gt h hn))

end Rd

theorem readerSpecs : ReaderSpecs where
  pos_eq r buf p h := by
    cases r with
    | buf b => obtain ⟨rfl, _⟩ := (at_buf_iff _ _ _).1 h; rfl
    | wire w => exact (at_wire_dest h).2.2.1.symm
  length_eq r buf p h := by
    cases r with
    | buf b => obtain ⟨rfl, _⟩ := (at_buf_iff _ _ _).1 h; rfl
    | wire w => rw [(at_wire_buf h).1]; exact congrArg (· - w.base) w.absLength_eq
  readByte_ok r buf p h hp := by
    cases r with
    | buf b =>
      obtain ⟨rfl, _⟩ := (at_buf_iff _ _ _).1 h
      exact ⟨.buf ⟨buf, p + 1⟩, congrArg (· >>= _) (if_neg (Nat.not_le_of_lt hp)),
        (at_buf_iff _ _ _).2 ⟨rfl, hp⟩, trivial⟩
    | wire w =>
      obtain ⟨_, rfl, rfl, h4, _⟩ := at_wire_dest h
      obtain ⟨r', e, m, hlive⟩ := (w.readByte_spec h.1.pre h.1.ne).1 ((at_wire_buf h).2.2.1.1 hp)
      refine ⟨.wire r', ?_, m.toAt h, hlive⟩
      rw [List.getD_eq_getElem?_getD, List.getElem?_drop, Nat.add_sub_cancel' h4, ← List.getD_eq_getElem?_getD]
      exact congrArg (· >>= _) e
  readByte_eof r buf p h hp := by
    cases r with
    | buf b =>
      obtain ⟨rfl, _⟩ := (at_buf_iff _ _ _).1 h
      exact congrArg (· >>= _) (if_pos hp)
    | wire w =>
      exact congrArg (· >>= _) ((w.readByte_spec h.1.pre h.1.ne).2
        (Nat.le_of_not_lt (mt (at_wire_buf h).2.2.1.2 (Nat.not_lt_of_le hp))))
  readBuf_ok r buf p l h hp := by
    cases r with
    | buf b => exact (at_buf_read h l rfl).1 hp
    | wire w => exact (at_wire_read h l (w.readBuf_spec l h.1.pre h.1.ne)).1 hp
  readBuf_err r buf p l h hp := by
    cases r with
    | buf b => exact (at_buf_read h l rfl).2 hp
    | wire w => exact (at_wire_read h l (w.readBuf_spec l h.1.pre h.1.ne)).2 hp
  readWire_ok r buf p l h hp := by
    cases r with
    | buf b => exact (at_buf_read h l (b.readWire_eq l)).1 hp
    | wire w => exact (at_wire_read h l (w.readWire_spec l h.1.pre h.1.ne)).1 hp
  readWire_err r buf p l h hp := by
    cases r with
    | buf b => exact (at_buf_read h l (b.readWire_eq l)).2 hp
    | wire w => exact (at_wire_read h l (w.readWire_spec l h.1.pre h.1.ne)).2 hp
  readFull_ok r buf p l h hp := by
    cases r with
    | buf b => exact (at_buf_read h l rfl).1 hp
    | wire w => exact (at_wire_read h l (w.readFull_spec l h.1.pre h.1.ne)).1 hp
  readFull_err r buf p l h hp := by
    cases r with
    | buf b => exact (at_buf_read h l rfl).2 hp
    | wire w => exact (at_wire_read h l (w.readFull_spec l h.1.pre h.1.ne)).2 hp
  skip_ok r buf p n h _ hp := (r.skip_spec buf p n h).1 hp
  skip_err r buf p n h _ hp := (r.skip_spec buf p n h).2 hp
  range_eq r buf p s e h hs he := by
    cases r with
    | buf b =>
      obtain ⟨rfl, _⟩ := (at_buf_iff _ _ _).1 h
      exact if_neg fun c => c.elim (Nat.not_lt_of_le he) (Nat.not_lt_of_le hs)
    | wire w =>
      obtain ⟨_, rfl, _, h4, h5⟩ := at_wire_dest h
      rw [List.length_drop] at he
      show w.rangeAbs (s + w.base) (e + w.base) = _
      rw [w.rangeAbs_spec (s + w.base) (e + w.base) (Nat.add_le_add_right hs _)
        (Nat.add_le_of_le_sub (Nat.le_trans h4 h5) he), List.drop_drop, Nat.add_sub_add_right, Nat.add_comm]
  delegate_ok r buf p l h hp := by
    cases r with
    | buf b =>
      obtain ⟨rfl, _⟩ := (at_buf_iff _ _ _).1 h
      exact ⟨.buf ⟨(buf.drop p).take l, 0⟩, .buf ⟨buf, p + l⟩,
        congrArg (fun x : BufR × BufR => Res.ok (Rd.buf x.1, Rd.buf x.2)) (if_neg (Nat.not_lt_of_le hp)),
        (at_buf_iff _ _ _).2 ⟨rfl, Nat.zero_le _⟩, (at_buf_iff _ _ _).2 ⟨rfl, hp⟩⟩
    | wire w =>
      obtain ⟨_, hb2, _, hb4⟩ := at_wire_buf h
      obtain ⟨sub, w', e, hsub, m⟩ := w.delegate_spec l h.1.pre h.1.ne ((hb4 l).1 hp)
      exact ⟨sub, .wire w', congrArg (· >>= _) e, hb2 l ▸ hsub, m.toAt h⟩

end Ndn.C03
