/-
  C03/LemmasEncData.lean — MakeData output in normal form (`EncSpecs.makeData_flatten`).
-/
import NdnVerif.C03.LemmasEncPrim
namespace Ndn.C03

theorem dataSigCovered_eq (d : DataIn) : dataSigCovered d = dataCovered d := by
  unfold dataSigCovered dataCovered
  cases d.content <;> simp [optB]

theorem wrapPacket_flatten (t len : Nat) (segs : List Bytes) :
    (wrapPacket t len segs).flatten = encTL t ++ encTL len ++ segs.flatten := by
  cases segs <;> simp [wrapPacket]

theorem makeData_unsigned (d : DataIn) (sign : Bytes → Bytes) (h : d.est = 0) :
    makeData d sign = .ok { wire := wrapPacket 6 (dataLen d) (dataSegs d), sigCovered := none } := by
  unfold makeData; rw [if_neg (h ▸ Nat.lt_irrefl 0)]; rfl

theorem makeData_toolong (d : DataIn) (sign : Bytes → Bytes) (h : d.est > 0)
    (hsv : (sign (dataSigCovered d)).length > d.est) : makeData d sign = .err := by
  unfold makeData; rw [if_pos h]; dsimp only; rw [if_pos hsv]

theorem makeData_signed (d : DataIn) (sign : Bytes → Bytes) (h : d.est > 0)
    (hsv : (sign (dataSigCovered d)).length ≤ d.est) (w0 : Bytes)
    (hw : shrinkLength ((patchSig (wrapPacket 6 (dataLen d) (dataSegs d)) (dataSigIdx d) d.est
        (sign (dataSigCovered d))).getD 0 []) (fixSigShrink d.est (sign (dataSigCovered d)).length) = .ok w0) :
    makeData d sign = .ok (Encoded.mk ((patchSig (wrapPacket 6 (dataLen d) (dataSegs d)) (dataSigIdx d) d.est
        (sign (dataSigCovered d))).set 0 w0) (some (dataSigCovered d)) (sign (dataSigCovered d))) := by
  unfold makeData; rw [if_pos h]; dsimp only; rw [if_neg (Nat.not_lt_of_le hsv), hw, Res.bind_ok]; rfl

theorem dataValue_layout (d : DataIn) (sv : Bytes) :
    dataValue d sv = dataHead d ++ (optB d.content (fun c => encTL 21 ++ encTL (contentLen c) ++ c.flatten)
      ++ (optB d.si (fun s => encTL 22 ++ encTL (sigInfoLen s) ++ encSigInfo s)
      ++ (if d.est > 0 then encTL 23 ++ encTL sv.length ++ sv else []))) := by
  simp only [dataValue, List.append_assoc]

/-- the wire of a Data after the signature patch: a first segment `outer TL ++ h` and segments `Y` that join to
    the value; ShrinkLength on the first segment puts the exact length of the value into the outer TL
    (`est = 0` is the unsigned Data, where nothing is patched and nothing taken off) -/
theorem data_wire (d : DataIn) (sv : Bytes) (hsv : d.est > 0 → sv.length ≤ d.est) (hL : dataLen d < 2 ^ 62) :
    ∃ h Y, (if d.est > 0 then patchSig (wrapPacket 6 (dataLen d) (dataSegs d)) (dataSigIdx d) d.est sv
            else wrapPacket 6 (dataLen d) (dataSegs d)) = (encTL 6 ++ encTL (dataLen d) ++ h) :: Y
      ∧ h ++ Y.flatten = dataValue d sv
      ∧ dataLen d - (if d.est > 0 then fixSigShrink d.est sv.length else 0) = (dataValue d sv).length
      ∧ shrinkLength (encTL 6 ++ encTL (dataLen d) ++ h) (if d.est > 0 then fixSigShrink d.est sv.length else 0)
        = .ok (encTL 6 ++ encTL (dataValue d sv).length ++ h) := by
  obtain ⟨X, Y, hW, hXY, _⟩ := wire_layout 6 (dataLen d) d.content d.est (dataHead d)
    (optB d.si (fun s => encTL 22 ++ encTL (sigInfoLen s) ++ encSigInfo s)) 23
    (fun c => encTL 21 ++ encTL (contentLen c)) sv
  obtain ⟨hlen, hs⟩ := shrink_exact 6 (dataLen d) _ 23 d.est sv (dataValue d sv) (by decide) (by decide) hL hsv rfl
    (dataValue_length encNameInner_length encMeta_length encSigInfo_length d sv)
  rw [dataSegs_eq, dataSigIdx_eq]
  exact ⟨dataHead d ++ X, Y, hW, by rw [List.append_assoc, hXY, ← dataValue_layout], hlen, hs _⟩

theorem makeData_normal (d : DataIn) (sign : Bytes → Bytes) (e : Encoded) (hv : d.Valid)
    (hm : makeData d sign = .ok e) :
    e.wire.flatten = encTL 6 ++ encTL (dataValue d e.sigVal).length ++ dataValue d e.sigVal
    ∧ (d.est > 0 → e.sigVal = sign (dataCovered d) ∧ e.sigCovered = some (dataCovered d) ∧ e.sigVal.length ≤ d.est)
    ∧ (d.est = 0 → e.sigCovered = none) := by
  have hL := dataLen_lt hv
  by_cases hp : d.est > 0
  · by_cases hlong : (sign (dataSigCovered d)).length > d.est
    · rw [makeData_toolong d sign hp hlong] at hm; cases hm
    · have hsv := Nat.le_of_not_lt hlong
      obtain ⟨h, Y, hW, hfl, _, hs⟩ := data_wire d (sign (dataSigCovered d)) (fun _ => hsv) hL
      rw [if_pos hp] at hW hs
      rw [makeData_signed d sign hp hsv _ (by rw [hW]; exact hs)] at hm
      cases hm
      refine ⟨?_, fun _ => ⟨?_, ?_, hsv⟩, fun h => absurd hp (Nat.not_lt_of_le (Nat.le_of_eq h))⟩
      · show ((patchSig _ _ _ _).set 0 _).flatten = _
        rw [hW, List.set_cons_zero, List.flatten_cons, List.append_assoc, hfl]
      · simp only [dataSigCovered_eq]
      · simp only [dataSigCovered_eq]
  · rw [makeData_unsigned d sign (Nat.eq_zero_of_not_pos hp)] at hm
    cases hm
    obtain ⟨h, Y, hW, hfl, hlen, _⟩ := data_wire d [] (fun he => absurd he hp) hL
    rw [if_neg hp] at hW hlen
    exact ⟨by rw [hW, List.flatten_cons, List.append_assoc, hfl, ← hlen]; rfl, fun h => absurd h hp,
      fun _ => rfl⟩

end Ndn.C03
