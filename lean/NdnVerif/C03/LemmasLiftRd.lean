/-
  C03/LemmasLiftRd.lean — the out-of-range reader facts `ReaderSpecsX` hold for the reader model; a fresh
  WireReader over `segs` (segments after the first non-empty) and the BufferReader over `segs.flatten` are `Sim`.
-/
import NdnVerif.C03.LemmasReader
import NdnVerif.C03.LemmasName
import NdnVerif.C03.LemmasLift
namespace Ndn.C03

theorem readerSpecsX : ReaderSpecsX where
  skip_ok r buf p n h hp := (r.skip_spec buf p n h).1 hp
  skip_err r buf p n h hp := (r.skip_spec buf p n h).2 hp
  range_oob r buf p s e h hc := by
    cases r with
    | buf b =>
      obtain ⟨rfl, _⟩ := (at_buf_iff _ _ _).1 h
      exact if_pos hc
    | wire w =>
      obtain ⟨_, rfl, _, h4, h5⟩ := at_wire_dest h
      rw [List.length_drop] at hc
      exact if_pos (hc.imp (fun c => w.absLength_eq ▸ (Nat.sub_lt_iff_lt_add (Nat.le_trans h4 h5)).1 c)
        (fun c => Nat.add_lt_add_right c _))
  delegate_oob r buf p l h hp := by
    cases r with
    | buf b =>
      obtain ⟨rfl, _⟩ := (at_buf_iff _ _ _).1 h
      exact ⟨.buf ⟨buf, p⟩, congrArg (fun x : BufR × BufR => Res.ok (Rd.buf x.1, Rd.buf x.2)) (if_pos hp), h⟩
    | wire w =>
      exact ⟨.wire w, congrArg (· >>= _) (w.delegate_oob l h.1.pre (at_wire_gt h hp)), h⟩

theorem sim_new (segs : List Bytes) (h : ∀ i, 0 < i → i < segs.length → segs.getD i [] ≠ []) :
    Sim (newWireReader segs) (newBufferReader segs.flatten) :=
  ⟨segs.flatten, 0, at_newWireReader segs h, at_newBufferReader segs.flatten⟩

end Ndn.C03
