/-
  C03/LemmasReaderWire.lean — a wire as a list of segments.  Byte `q` of segment `i` is byte
  `q + accSz w i` of `w.flatten` (the order of the sum is that of `WireR.absPos`); the slices of
  `w.flatten` between two such positions, written in terms of the segments.
-/
import NdnVerif.C03.Reader
namespace Ndn.C03

theorem accSz_zero (w : List Bytes) : accSz w 0 = 0 := rfl

theorem accSz_nil (i : Nat) : accSz [] i = 0 := by simp [accSz]

theorem accSz_eq_take_flatten (w : List Bytes) (i : Nat) : accSz w i = ((w.take i).flatten).length :=
  List.length_flatten.symm

theorem accSz_length (w : List Bytes) : accSz w w.length = w.flatten.length := by
  rw [accSz_eq_take_flatten, List.take_length]

/-- past the last segment `w[i]?.getD []` is empty, so no bound on `i` is needed -/
theorem accSz_succ (w : List Bytes) (i : Nat) : accSz w (i + 1) = accSz w i + (w[i]?.getD []).length := by
  unfold accSz
  rw [List.take_add_one, List.map_append, List.sum_append]
  cases w[i]? <;> rfl

theorem accSz_ge (w : List Bytes) (i : Nat) (h : w.length ≤ i) : accSz w i = accSz w w.length := by
  unfold accSz
  rw [List.take_of_length_le h, List.take_length]

theorem accSz_mono_succ (w : List Bytes) (i : Nat) : accSz w i ≤ accSz w (i + 1) := by
  rw [accSz_succ]; exact Nat.le_add_right _ _

theorem accSz_mono (w : List Bytes) {i j : Nat} (h : i ≤ j) : accSz w i ≤ accSz w j := by
  induction h with
  | refl => exact Nat.le_refl _
  | step _ ih => exact Nat.le_trans ih (accSz_mono_succ w _)

theorem accSz_le_total (w : List Bytes) (i : Nat) : accSz w i ≤ accSz w w.length := by
  rcases Nat.le_total i w.length with h | h
  · exact accSz_mono w h
  · exact Nat.le_of_eq (accSz_ge w i h)

theorem accSz_take (w : List Bytes) (i k : Nat) (h : i ≤ k) : accSz (w.take k) i = accSz w i := by
  unfold accSz
  rw [List.take_take, Nat.min_eq_left h]

theorem flatten_take_accSz (w : List Bytes) (i : Nat) : w.flatten.take (accSz w i) = (w.take i).flatten := by
  have := List.take_left' (l₂ := (w.drop i).flatten) (accSz_eq_take_flatten w i).symm
  rwa [← List.flatten_append, List.take_append_drop] at this

theorem flatten_drop_accSz (w : List Bytes) (i : Nat) : w.flatten.drop (accSz w i) = (w.drop i).flatten := by
  have := List.drop_left' (l₂ := (w.drop i).flatten) (accSz_eq_take_flatten w i).symm
  rwa [← List.flatten_append, List.take_append_drop] at this

theorem take_succ_eq_getD (w : List Bytes) (i : Nat) (h : i < w.length) :
    w.take (i + 1) = w.take i ++ [w[i]?.getD []] := by
  rw [List.take_add_one, List.getElem?_eq_getElem h]; rfl

theorem flatten_drop_seg (w : List Bytes) (i : Nat) :
    w.flatten.drop (accSz w i) = w[i]?.getD [] ++ w.flatten.drop (accSz w (i + 1)) := by
  rw [flatten_drop_accSz, flatten_drop_accSz, List.drop_eq_getElem?_toList_append, List.flatten_append]
  cases w[i]? <;> simp

variable (w : List Bytes) (i q : Nat)

theorem pos_le_succ (hq : q ≤ (w[i]?.getD []).length) : q + accSz w i ≤ accSz w (i + 1) := by
  rw [accSz_succ, Nat.add_comm]; exact Nat.add_le_add_left hq _

theorem pos_lt_succ (hq : q < (w[i]?.getD []).length) : q + accSz w i < accSz w (i + 1) := by
  rw [accSz_succ, Nat.add_comm]; exact Nat.add_lt_add_left hq _

theorem pos_le_total (hq : q ≤ (w[i]?.getD []).length) : q + accSz w i ≤ w.flatten.length :=
  Nat.le_trans (pos_le_succ w i q hq) (accSz_length w ▸ accSz_le_total w (i + 1))

theorem flatten_drop_at (hq : q ≤ (w[i]?.getD []).length) :
    w.flatten.drop (q + accSz w i) = (w[i]?.getD []).drop q ++ w.flatten.drop (accSz w (i + 1)) := by
  rw [Nat.add_comm, ← List.drop_drop, flatten_drop_seg w i, List.drop_append_of_le_length hq]

theorem flatten_take_at (hq : q ≤ (w[i]?.getD []).length) :
    w.flatten.take (q + accSz w i) = (w.take i).flatten ++ (w[i]?.getD []).take q := by
  rw [Nat.add_comm, List.take_add, flatten_take_accSz, flatten_drop_seg w i, List.take_append_of_le_length hq]

theorem flatten_getElem? (hq : q < (w[i]?.getD []).length) :
    w.flatten[q + accSz w i]? = (w[i]?.getD [])[q]? := by
  rw [Nat.add_comm, ← List.getElem?_drop, flatten_drop_seg w i, List.getElem?_append_left hq]

theorem flatten_slice_seg (l : Nat) (h : q + l ≤ (w[i]?.getD []).length) :
    (w.flatten.drop (q + accSz w i)).take l = ((w[i]?.getD []).drop q).take l := by
  rw [flatten_drop_at w i q (Nat.le_trans (Nat.le_add_right q l) h),
    List.take_append_of_le_length (by rw [List.length_drop]; exact Nat.le_sub_of_add_le' h)]

theorem flatten_slice_next (l : Nat) (hq : q ≤ (w[i]?.getD []).length) (h : (w[i]?.getD []).length ≤ q + l) :
    (w.flatten.drop (q + accSz w i)).take l
      = (w[i]?.getD []).drop q ++ (w.flatten.drop (accSz w (i + 1))).take (l - ((w[i]?.getD []).length - q)) := by
  rw [flatten_drop_at w i q hq, List.take_append, List.length_drop,
    List.take_of_length_le (by rw [List.length_drop]; exact Nat.sub_le_iff_le_add'.2 h)]

theorem flatten_slice (j q' l : Nat) (hij : i < j) (hq : q ≤ (w[i]?.getD []).length)
    (hq' : q' ≤ (w[j]?.getD []).length) (hl : q' + accSz w j = q + accSz w i + l) :
    (w.flatten.drop (q + accSz w i)).take l
      = (w[i]?.getD []).drop q ++ ((w.drop (i + 1)).take (j - i - 1)).flatten ++ (w[j]?.getD []).take q' := by
  have hle : q + accSz w i ≤ ((w.take j).flatten).length := by
    rw [← accSz_eq_take_flatten]
    exact Nat.le_trans (pos_le_succ w i q hq) (accSz_mono w hij)
  have hd := flatten_drop_at (w.take j) i q (by rwa [List.getElem?_take_of_lt hij])
  rw [accSz_take w i j (Nat.le_of_lt hij), List.getElem?_take_of_lt hij, flatten_drop_accSz, List.drop_take,
    ← Nat.sub_sub] at hd
  rw [← Nat.sub_eq_of_eq_add' hl, ← List.drop_take, flatten_take_at w j q' hq',
    List.drop_append_of_le_length hle, hd]

theorem exists_pos (s n : Nat) (h : s < accSz w n) :
    ∃ i q, i < n ∧ q < (w[i]?.getD []).length ∧ s = q + accSz w i := by
  induction n with
  | zero => exact absurd h (Nat.not_lt_zero _)
  | succ n ih =>
    by_cases hn : s < accSz w n
    · obtain ⟨i, q, h1, h2⟩ := ih hn
      exact ⟨i, q, Nat.lt_succ_of_lt h1, h2⟩
    · have hn := Nat.le_of_not_lt hn
      rw [accSz_succ] at h
      exact ⟨n, s - accSz w n, Nat.lt_succ_self n, Nat.sub_lt_left_of_lt_add hn h, (Nat.sub_add_cancel hn).symm⟩

theorem exists_pos_end (e n : Nat) (h0 : 0 < e) (h : e ≤ accSz w n) :
    ∃ i q, i < n ∧ 0 < q ∧ q ≤ (w[i]?.getD []).length ∧ e = q + accSz w i := by
  obtain ⟨i, q, hi, hq, he⟩ := exists_pos w (e - 1) n (Nat.lt_of_lt_of_le (Nat.sub_lt h0 Nat.one_pos) h)
  refine ⟨i, q + 1, hi, Nat.succ_pos q, hq, ?_⟩
  rw [Nat.add_right_comm, ← he, Nat.sub_add_cancel h0]

theorem seg_unique {w : List Bytes} {i j : Nat} (h1 : accSz w j < accSz w (i + 1)) (h2 : accSz w i < accSz w (j + 1)) :
    i = j := by
  rcases Nat.lt_trichotomy i j with h | h | h
  · exact absurd (Nat.lt_of_lt_of_le h1 (accSz_mono w h)) (Nat.lt_irrefl _)
  · exact h
  · exact absurd (Nat.lt_of_lt_of_le h2 (accSz_mono w h)) (Nat.lt_irrefl _)

theorem foldl_range_unique {α : Type} (P : Nat → Prop) [DecidablePred P] (f : Nat → α) (init : α) (i0 : Nat)
    (n : Nat) (h0 : i0 < n) (hP : P i0) (huniq : ∀ i, i < n → P i → i = i0) :
    (List.range n).foldl (fun acc i => if P i then f i else acc) init = f i0 := by
  induction n with
  | zero => exact absurd h0 (Nat.not_lt_zero _)
  | succ n ih =>
    rw [List.range_succ, List.foldl_append, List.foldl_cons, List.foldl_nil]
    by_cases hn : i0 = n
    · subst hn; exact if_pos hP
    · have hPn : ¬ P n := fun h => hn (huniq n (Nat.lt_succ_self n) h).symm
      rw [if_neg hPn]
      exact ih (Nat.lt_of_le_of_ne (Nat.le_of_lt_succ h0) hn) (fun i hi => huniq i (Nat.lt_succ_of_lt hi))

def NE (w : List Bytes) : Prop := ∀ i, 0 < i → i < w.length → w[i]?.getD [] ≠ []

theorem NE_iff (w : List Bytes) : NE w ↔ ∀ x ∈ w.drop 1, x ≠ [] := by
  constructor
  · intro h x hx
    obtain ⟨k, hk⟩ := List.mem_iff_getElem?.1 hx
    rw [List.getElem?_drop] at hk
    have := h (1 + k) (Nat.lt_add_right k Nat.one_pos) (List.getElem?_eq_some_iff.1 hk).1
    rwa [hk] at this
  · intro h i h0 h1
    apply h
    rw [List.mem_iff_getElem?]
    refine ⟨i - 1, ?_⟩
    rw [List.getElem?_drop, Nat.add_sub_cancel' h0, List.getElem?_eq_getElem h1]; rfl

theorem NE_take (w : List Bytes) (k : Nat) (h : NE w) : NE (w.take k) := by
  intro i h0 h1
  rw [List.length_take] at h1
  rw [List.getElem?_take_of_lt (Nat.lt_of_lt_of_le h1 (Nat.min_le_left _ _))]
  exact h i h0 (Nat.lt_of_lt_of_le h1 (Nat.min_le_right _ _))

end Ndn.C03
