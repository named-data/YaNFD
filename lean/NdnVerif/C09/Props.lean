/-
  C09 — /localhost traffic never crosses a non-local face.  Property theorems over the shared model
  `Fw` (C01/Fw.lean), for EVERY state `s` (hence every reachable one; `localhost_local_works` assumes `WF s`), every operation, both
  strategies, every FIB, every oracle value (`tie`, `pick`).
  Lemmas: C01/FwTables.lean, C01/FwData.lean, C01/FwInterest.lean; `localhost_local_works` builds on C02/Props.lean.
-/
import NdnVerif.C09.Model
import NdnVerif.C02.Props
import NdnVerif.C01.FwData
namespace Ndn.Fw.C09
open Ndn.Fw.Spec

/-- No packet whose name begins with /localhost is ever transmitted on a non-local face — whatever
    the FIB, strategy choice, PIT contents, cache contents, PIT tokens or NextHopFaceId say.
    (Covers every send site: strategy send, NextHopFaceId, Content Store hit, single-match and
    multi-match Data fan-out; configuration and timer operations send nothing.) -/
theorem localhost_never_sent_nonlocal (s : St) (op : Op) (snd : Send) (h : snd ∈ (step s op).2) :
    ¬(nonLocal s.faces snd.face = true ∧ specLocalhost snd.name = true) := by
  cases op with
  | interest f i tie pick =>
    simp only [step] at h
    rcases onInterest_sends h with ⟨ce, _, _, rfl, _, hd⟩ | ⟨hop, tok, _, g, rfl, hu, _⟩
    · exact hd.scope
    · exact (usableOut_deliverable hu).scope
  | data f d =>
    obtain ⟨g, tok, rfl, _, hd⟩ := onData_sends s f d snd h
    exact hd.scope
  | _ => cases h

/-- non-vacuity: a local consumer asks for /localhost/a while the only route is a default route to
    the non-local face 2: nothing is sent (before the fix of F-09a the Interest left on face 2). -/
example :
    let s : St := { faces := [⟨1, true, .p2p⟩, ⟨2, false, .p2p⟩], fib := [([], [(2, 1)])] }
    (step s (.interest 1 { name := [localhostComp, ⟨8, [97]⟩], nonce := some 5 } [] 0)).2 = [] := by decide

/-- An Interest named /localhost/… arriving on a non-local face is not accepted: the state is left
    exactly as it was (no PIT entry, no in-record, no dead-nonce entry, no cache use) and nothing is
    sent. -/
theorem localhost_interest_rejected_inbound_no_change (s : St) (f : FaceId) (fc : Face) (i : Interest)
    (tie : List FaceId) (pick : Nat) (hf : faceOf s.faces f = some fc) (hnl : fc.isLocal = false)
    (hlh : specLocalhost i.name = true) :
    step s (.interest f i tie pick) = (s, []) := by
  refine onInterest_of_not_accepted tie pick fun _ _ _ hacc => ?_
  cases hf.symm.trans hacc.face
  have := hacc.scope
  rw [hnl, specLocalhost_isLocalhost hlh] at this
  cases this

/-- A Data named /localhost/… arriving on a non-local face is not accepted: it is neither cached nor
    matched against the PIT, the state is unchanged and nothing is sent. -/
theorem localhost_data_rejected_inbound_no_change (s : St) (f : FaceId) (fc : Face) (d : Data)
    (hf : faceOf s.faces f = some fc) (hnl : fc.isLocal = false) (hlh : specLocalhost d.name = true) :
    step s (.data f d) = (s, []) := by
  rcases onData_cases s f d with h | ⟨fc', hf', hacc⟩
  · exact h
  · cases hf.symm.trans hf'
    rw [hnl, specLocalhost_isLocalhost hlh] at hacc
    cases hacc

/-- both rejections under one name (the statement of the property) -/
theorem localhost_rejected_inbound_no_change (s : St) (f : FaceId) (fc : Face)
    (hf : faceOf s.faces f = some fc) (hnl : fc.isLocal = false) :
    (∀ i tie pick, specLocalhost i.name = true → step s (.interest f i tie pick) = (s, [])) ∧
    (∀ d, specLocalhost d.name = true → step s (.data f d) = (s, [])) :=
  ⟨fun i tie pick h => localhost_interest_rejected_inbound_no_change s f fc i tie pick hf hnl h,
   fun d h => localhost_data_rejected_inbound_no_change s f fc d hf hnl h⟩

example :
    let s : St := { faces := [⟨2, false, .p2p⟩, ⟨1, true, .p2p⟩], fib := [([localhostComp], [(1, 1)])] }
    step s (.interest 2 { name := [localhostComp, ⟨8, [97]⟩], nonce := some 5 } [] 0) = (s, []) := by decide

/-- Local faces are unaffected — /localhost exchanges between local applications and the forwarder work:
    in a reachable state (`WF`), a first /localhost Interest (any name, in fact) from local face `f`
    whose longest-prefix FIB entry has a next hop the outgoing pipeline accepts, not answered by the
    cache, IS forwarded; every copy goes to a local face; and the Data that comes back on any local
    face echoing the attached PIT token is delivered to `f` with the PIT token `f` supplied. -/
theorem localhost_local_works (s : St) (hwf : WF s) (f : FaceId) (ff : Face) (i : Interest) (tie : List FaceId) (pick : Nat)
    (hop : Option Nat) (nonce : Nat) (g : FaceId) (c : Nat)
    (hf : faceOf s.faces f = some ff) (hfl : ff.isLocal = true) (hlh : specLocalhost i.name = true)
    (hhop : hopStep i.hop = some hop) (hn : i.nonce = some nonce) (hdead : dnlHas s.dnl i.name nonce = false)
    (hfirst : preEntry s i = none) (hcs : s.csServe = false ∨ csFind s.now s.cs i pick = none) (hnh : i.nextHop = none)
    (hg : (g, c) ∈ lpmNextHops s.fib (lookupName s.regions i)) (hu : usableOut s.faces f i.name hop g = true) :
    let r := step s (.interest f i tie pick)
    r.2 ≠ [] ∧
    (∀ snd ∈ r.2, (∃ g', snd = .interest g' i.name hop (.mine s.nextTok)) ∧ nonLocal s.faces snd.face = false) ∧
    (∀ (from_ : FaceId) (fc : Face) (content : Nat), faceOf s.faces from_ = some fc → fc.isLocal = true →
      Send.data f i.name content i.tok ∈
        (step r.1 (.data from_ { name := i.name, content := content, tok := .six s.nextTok })).2) := by
  intro r
  have hsc : (!ff.isLocal && isLocalhost i.name) = false := by simp [hfl]
  obtain ⟨hne, hall⟩ := C02.first_interest_forwarded_hop_minus_one s hwf f i tie pick ff hop nonce g c hf hsc hhop hn hdead
    hfirst hcs hnh hg hu
  refine ⟨hne, ?_, ?_⟩
  · intro snd hsnd
    refine ⟨hall snd hsnd, ?_⟩
    have := localhost_never_sent_nonlocal s (.interest f i tie pick) snd hsnd
    obtain ⟨g', rfl⟩ := hall snd hsnd
    exact Bool.eq_false_iff.mpr fun hnl => this ⟨hnl, hlh⟩
  · intro from_ fc content hfc hfcl
    -- the new entry holds `f`'s in-record alone, the strategy stage keeps it, the echoed token finds it
    obtain ⟨s', e', hst, hin, heq⟩ := onInterest_first hwf tie
      ⟨hf, hhop, hsc, hn, hdead, fun e he => nomatch hfirst.symm.trans he⟩ hfirst hcs
    have hfw := forwardInterest_fwd s' s.nextTok i nonce hop f tie
    obtain ⟨e2, he2, hi2⟩ := hfw.entry hst.entry
    have hfaces := hfw.faces.trans hst.faces
    have hr1 : r.1 = (forwardInterest s' s.nextTok i nonce hop f tie).1 := by
      show (step s (.interest f i tie pick)).1 = _
      simp only [step]; rw [heq]
    simp only [step]
    rw [hr1, onData_token_delivers (hfaces ▸ hfc) (by rw [hfcl]; rfl) rfl he2, hi2, hin, hfaces]
    exact dataSends_of_deliverable (t := (f, i.tok)) (List.mem_singleton.mpr rfl)
      ⟨ff, hf, by rw [hfl]; exact Bool.false_ne_true⟩

example :
    let s : St := { faces := [⟨1, true, .p2p⟩, ⟨2, true, .p2p⟩, ⟨3, false, .p2p⟩],
                    fib := [([localhostComp], [(3, 0), (2, 5)])] }
    let i : Interest := { name := [localhostComp, ⟨8, [97]⟩], nonce := some 5, tok := [7] }
    (step s (.interest 1 i [] 0)).2 = [.interest 2 i.name none (.mine 0)] ∧
    (step (step s (.interest 1 i [] 0)).1 (.data 2 { name := i.name, content := 9, tok := .six 0 })).2 = [.data 1 i.name 9 [7]] := by
  decide

/-- Which faces are non-local (the scope a transport must assign; compared with the REAL transport
    constructors by the `scope` operations of the harness, clause `C09-scope-classification`): a
    Unix-stream face is Local; a unicast TCP/UDP face is Local exactly when its remote address is a
    loopback address. -/
theorem scope_classification_spec (kind addr : String) :
    scopeLocal "unix" addr = true ∧
    (isLoopbackText addr = true → scopeLocal kind addr = true) ∧
    (kind ≠ "unix" → isLoopbackText addr = false → scopeLocal kind addr = false) := by
  refine ⟨by simp [scopeLocal], ?_, ?_⟩
  · intro h; simp [scopeLocal, h]
  · intro hk h; simp [scopeLocal, h, hk]

/-- a face whose scope is the one the specification assigns to a non-loopback remote address is covered by
    the guards: after it has been added, no /localhost packet is ever sent on it, whatever follows -/
theorem nonloopback_face_never_gets_localhost (s : St) (id : FaceId) (kind addr : String) (lt : Link) (op : Op)
    (hk : kind ≠ "unix") (ha : isLoopbackText addr = false) (snd : Send)
    (h : snd ∈ (step (step s (.addFace ⟨id, scopeLocal kind addr, lt⟩)).1 op).2) (hf : snd.face = id) :
    specLocalhost snd.name = false := by
  have hloc : scopeLocal kind addr = false := (scope_classification_spec kind addr).2.2 hk ha
  have := localhost_never_sent_nonlocal _ op snd h
  cases hl : specLocalhost snd.name with
  | false => rfl
  | true =>
    exfalso
    apply this
    refine ⟨?_, hl⟩
    rw [hf]
    simp only [step, nonLocal]
    rw [faceOf_addFace s.faces ⟨id, scopeLocal kind addr, lt⟩, hloc]
    rfl

end Ndn.Fw.C09
