/- C01/FwInv.lean — invariants of the PIT: `WF` and `NamesOk Q`, both `Stable` (under rewriting entries in place,
   removing one, appending a fresh one), and `Stable` carried through the timers. -/
import NdnVerif.C01.FwTables
namespace Ndn.Fw

/-- PIT tokens are unique and below the allocation counter; an entry holds at most one in-record per
    face (the Go map key) -/
structure WF (s : St) : Prop where
  tokLt : ∀ e ∈ s.pit, e.token < s.nextTok
  tokNodup : (s.pit.map (·.token)).Nodup
  inNodup : ∀ e ∈ s.pit, (e.inRecs.map (·.face)).Nodup

theorem wf_init (s : St) (h : s.pit = []) : WF s := by
  constructor <;> simp [h]

structure NamesOk (P : Name → Prop) (s : St) : Prop where
  all : ∀ e ∈ s.pit, P e.name

def Rewrite (g : Entry → Entry) : Prop :=
  ∀ e, (g e).token = e.token ∧ (g e).name = e.name ∧
    ((e.inRecs.map (·.face)).Nodup → ((g e).inRecs.map (·.face)).Nodup)

/-- `P` reads PIT and token counter only and survives the three ways the pipelines change the PIT: rewriting entries
    in place, RemoveInterest, and InsertInterest of a new entry (next token, no in-record) whose name `Q` admits -/
structure Stable (Q : Name → Prop) (P : St → Prop) : Prop where
  map : ∀ {s s' : St}, P s → ∀ g : Entry → Entry, s'.pit = s.pit.map g → s'.nextTok = s.nextTok → Rewrite g → P s'
  remove : ∀ {s s' : St}, P s → ∀ tok : Nat, s'.pit = removeEntry s.pit tok → s'.nextTok = s.nextTok → P s'
  insert : ∀ {s s' : St}, P s → ∀ e : Entry, Q e.name → e.token = s.nextTok → e.inRecs = [] → s'.pit = s.pit ++ [e] →
    s'.nextTok = s.nextTok + 1 → P s'

namespace Stable
variable {Q : Name → Prop} {P : St → Prop} (hP : Stable Q P) {s s' : St}
include hP

theorem frame (h : P s) (hp : s'.pit = s.pit) (hn : s'.nextTok = s.nextTok) : P s' :=
  hP.map h id (by rw [hp, List.map_id]) hn (fun _ => ⟨rfl, rfl, id⟩)

theorem modify (h : P s) (tok : Nat) (g : Entry → Entry) (hp : s'.pit = modifyEntry s.pit tok g)
    (hn : s'.nextTok = s.nextTok) (hg : Rewrite g) : P s' := by
  refine hP.map h _ hp hn (fun e => ?_)
  split
  · exact hg e
  · exact ⟨rfl, rfl, id⟩

end Stable

theorem inRecs_face_le_one {l : List InRec} (h : (l.map (·.face)).Nodup) (g : FaceId) :
    (l.filter (·.face == g)).length ≤ 1 := by
  have := List.nodup_iff_count.mp h g
  rwa [List.count_eq_countP, List.countP_map, List.countP_eq_length_filter] at this

theorem wf_map {s s' : St} (h : WF s) (g : Entry → Entry) (hp : s'.pit = s.pit.map g) (hn : s'.nextTok = s.nextTok)
    (ht : ∀ e, (g e).token = e.token) (hi : ∀ e ∈ s.pit, ((g e).inRecs.map (·.face)).Nodup) : WF s' := by
  constructor
  · intro e he
    rw [hp, List.mem_map] at he
    obtain ⟨x, hx, rfl⟩ := he
    rw [ht, hn]
    exact h.tokLt x hx
  · rw [hp, List.map_map, show ((fun x => x.token) ∘ g) = fun x => x.token from funext ht]
    exact h.tokNodup
  · intro e he
    rw [hp, List.mem_map] at he
    obtain ⟨x, hx, rfl⟩ := he
    exact hi x hx

theorem wf_modify' {s : St} (h : WF s) (tok : Nat) (g : Entry → Entry) (ht : ∀ e, (g e).token = e.token)
    (hi : ∀ e ∈ s.pit, e.token = tok → ((g e).inRecs.map (·.face)).Nodup) :
    WF { s with pit := modifyEntry s.pit tok g } := by
  refine wf_map h (fun e => if e.token == tok then g e else e) rfl rfl ?_ ?_
  · intro e; split <;> simp [ht]
  · intro e he
    split
    · rename_i heq; exact hi e he (by simpa using heq)
    · exact h.inNodup e he

theorem wf_stable : Stable (fun _ => True) WF where
  map h g hp hn hg := wf_map h g hp hn (fun e => (hg e).1) (fun e he => (hg e).2.2 (h.inNodup e he))
  remove h tok hp hn :=
    ⟨fun e he => hn ▸ h.tokLt e (mem_removeEntry (hp ▸ he)), hp ▸ nodup_removeEntry tok h.tokNodup,
     fun e he => h.inNodup e (mem_removeEntry (hp ▸ he))⟩
  insert h e0 _ ht hi hp hn := by
    constructor
    · intro e he
      rw [hn]
      rcases List.mem_append.mp (hp ▸ he) with he | he
      · exact Nat.lt_succ_of_lt (h.tokLt e he)
      · rw [List.mem_singleton.mp he, ht]; exact Nat.lt_succ_self _
    · rw [hp, List.map_append]
      refine List.nodup_append.mpr ⟨h.tokNodup, by simp, ?_⟩
      intro a ha b hb
      rw [List.mem_singleton.mp hb]
      obtain ⟨x, hx, rfl⟩ := List.mem_map.mp ha
      show x.token ≠ e0.token
      rw [ht]; exact Nat.ne_of_lt (h.tokLt x hx)
    · intro e he
      rcases List.mem_append.mp (hp ▸ he) with he | he
      · exact h.inNodup e he
      · rw [List.mem_singleton.mp he, hi]; exact List.nodup_nil

theorem names_stable (Q : Name → Prop) : Stable Q (NamesOk Q) where
  insert h e0 hq _ _ hp _ := by
    constructor
    intro e he
    rcases List.mem_append.mp (hp ▸ he) with he | he
    · exact h.all e he
    · rw [List.mem_singleton.mp he]; exact hq
  map h g hp _ hg := by
    constructor
    intro e he
    rw [hp, List.mem_map] at he
    obtain ⟨x, hx, rfl⟩ := he
    rw [(hg x).2.1]
    exact h.all x hx
  remove h _ hp _ := ⟨fun e he => h.all e (mem_removeEntry (hp ▸ he))⟩

theorem pred_ite {α : Sort _} {P : α → Prop} {c : Prop} [Decidable c] {a b : α} (ha : P a) (hb : P b) :
    P (if c then a else b) :=
  iteInduction (fun _ => ha) fun _ => hb

-- Each lemma `Stable.f` carries `P` through the model function `f` and bears its name (also in FwData, FwInterest,
-- FwReach): from the proof of `Stable.f` on, `f` inside `namespace Stable` is the lemma, and the function is `Fw.f`.
namespace Stable
variable {Q : Name → Prop} {P : St → Prop} (hP : Stable Q P)
include hP

theorem expireOne {s : St} (h : P s) (e : Entry) : P (expireOne s e) :=
  hP.remove (hP.frame h (dnlInsertAll_pit s _) (dnlInsertAll_nextTok s _)) e.token rfl rfl

theorem pitUpdate {s : St} (h : P s) : P (pitUpdate s) := by
  have ha := List.foldlRecOn ((s.pit.filter (isDue s.now)).foldr insertBySched []) Fw.expireOne h
    fun _ hb e _ => hP.expireOne hb e
  -- pitExpire: a fold of `expireOne`, then maybe `amb`
  have h1 : P (pitExpire s) := pred_ite (hP.frame ha rfl rfl) ha
  unfold Fw.pitUpdate
  exact hP.frame h1 rfl rfl

theorem dnlTick {s : St} (h : P s) : P (dnlTick s) := by
  unfold Fw.dnlTick
  exact hP.frame h rfl rfl

theorem advTo (fuel : Nat) (target : Time) {s : St} (h : P s) : P (advTo fuel target s) := by
  -- stated for any state: on `dnlTick (pitUpdate _)` itself the `rfl`s of `frame` unfold both timers
  have hnow : ∀ {s : St} (t : Time), P s → P { s with now := t } := fun _ h => hP.frame h rfl rfl
  have hamb : ∀ {s : St}, P s → P { s with amb := true } := fun h => hP.frame h rfl rfl
  induction fuel generalizing s with
  | zero => exact hnow _ h
  | succ n ih =>
    rw [Fw.advTo]
    have h0 := hnow (max s.now (min s.nextUpd s.nextDnl)) h
    have ha := hP.dnlTick (hP.pitUpdate h0)
    exact pred_ite (hnow _ h)
      (pred_ite (ih (pred_ite ha (hamb ha))) (pred_ite (ih (hP.pitUpdate h0)) (ih (hP.dnlTick h0))))

end Stable

end Ndn.Fw
