/-
  C01 — Data is delivered exactly to the faces with a matching pending Interest.
  Property theorems over the shared model `Fw` (C01/Fw.lean).  Unless a hypothesis `WF s` is stated
  the theorems hold for EVERY state `s`; `WF` (tokens unique, one in-record per face and entry) is an
  invariant of every state reachable from an empty PIT by any history (`wf_reachable`).
  Lemmas: C01/FwData.lean, C01/FwInterest.lean, C01/FwReach.lean.
-/
import NdnVerif.C01.Model
import NdnVerif.C01.FwReach
namespace Ndn.Fw.C01
open Ndn.Fw.Spec

/-- Data arriving on a face is emitted only on faces that at that moment hold an unsatisfied pending
    Interest it satisfies (token echo in this forwarder's 6-byte format, or — with no such token — name
    equal / extension with CanBePrefix), never elsewhere; each copy is the arriving Data itself and
    carries the PIT token that face supplied; scope rules permitting. -/
theorem data_sends_subset (s : St) (f : FaceId) (d : Data) (snd : Send) (h : snd ∈ (step s (.data f d)).2) :
    ∃ g tok, snd = .data g d.name d.content tok ∧
      (∃ e ∈ s.pit, satisfies d e = true ∧ ∃ r ∈ e.inRecs, r.face = g ∧ r.tok = tok) ∧
      Deliverable s.faces d.name g := by
  simp only [step] at h
  exact onData_sends s f d snd h

example :
    let e : Entry := ⟨[⟨8, [97]⟩], true, false, none, 0, [⟨2, 7, 1000, [9]⟩], [], false, some 1000⟩
    let s : St := { faces := [⟨1, true, .p2p⟩, ⟨2, true, .p2p⟩], pit := [e], nextTok := 1 }
    (step s (.data 1 { name := [⟨8, [97]⟩, ⟨8, [98]⟩], content := 5 })).2 = [.data 2 [⟨8, [97]⟩, ⟨8, [98]⟩] 5 [9]] := by decide

/-- the invariant holds in every state reachable from an empty PIT by any history of operations -/
theorem wf_reachable (s0 : St) (h0 : s0.pit = []) (ops : List Op) : WF (run s0 ops) :=
  List.foldlRecOn ops _ (wf_init s0 h0) fun _ h op _ => wf_step h op

/-- Exactness.  In a reachable state (`WF`), for an accepted Data arriving on `f` and any OTHER face `g`:
    the copies sent to `g` are exactly one per in-record of `g` in the entries the Data satisfies (each
    satisfied entry counted once), each carrying that in-record's PIT token, scope rules permitting
    (`dataSends` drops a copy only when `g` does not exist or the /localhost scope rule forbids it). -/
theorem data_sends_exact (s : St) (hwf : WF s) (f : FaceId) (d : Data) (fc : Face)
    (hf : faceOf s.faces f = some fc) (hacc : (!fc.isLocal && isLocalhost d.name) = false)
    (g : FaceId) (hg : g ≠ f) :
    ∃ ms : List Entry, ms.Nodup ∧ (∀ e, e ∈ ms ↔ e ∈ s.pit ∧ satisfies d e = true) ∧
      (∀ e ∈ ms, ((e.inRecs.filter (·.face == g)).length ≤ 1)) ∧
      (step s (.data f d)).2.filter (·.face == g) =
        ms.flatMap fun e =>
          dataSends s.faces d.name d.content ((e.inRecs.filter (·.face == g)).map fun r => (r.face, r.tok)) := by
  refine ⟨matchData s.pit d, matchData_nodup hwf d, mem_matchData_iff hwf d, ?_, ?_⟩
  · intro e he
    have hnd := hwf.inNodup e (mem_matchData he).1
    exact inRecs_face_le_one hnd g
  · simp only [step]
    obtain ⟨s', _, _, _, heq⟩ := onData_accepted hf hacc
    rw [heq, List.filter_flatMap]
    congr 1
    funext e
    rw [dataSends_filter_face, List.filter_map, List.filter_filter]
    -- among the in-records of `g ≠ f` the multi-match exclusion of the arrival face removes nothing
    congr 2
    apply List.filter_congr
    intro r _
    by_cases hr : r.face = g
    · simp [hr, hg]
    · simp [hr]

/-- … in particular every face other than the arrival face that holds a pending Interest the Data
    satisfies and that the scope rule admits does receive its copy, with the token it supplied. -/
theorem data_reaches_every_pending_face (s : St) (f : FaceId) (d : Data) (fc : Face)
    (hf : faceOf s.faces f = some fc) (hacc : (!fc.isLocal && isLocalhost d.name) = false)
    (e : Entry) (he : e ∈ s.pit) (hs : satisfies d e = true) (hwf : WF s)
    (r : InRec) (hr : r ∈ e.inRecs) (hg : r.face ≠ f) (gf : Face) (hgf : faceOf s.faces r.face = some gf)
    (hsc : (!gf.isLocal && isLocalhost d.name) = false) :
    Send.data r.face d.name d.content r.tok ∈ (step s (.data f d)).2 := by
  obtain ⟨ms, _, hmem, _, heq⟩ := data_sends_exact s hwf f d fc hf hacc r.face hg
  have h1 : Send.data r.face d.name d.content r.tok ∈ (step s (.data f d)).2.filter (·.face == r.face) := by
    rw [heq, List.mem_flatMap]
    refine ⟨e, (hmem e).mpr ⟨he, hs⟩, ?_⟩
    refine dataSends_of_deliverable (t := (r.face, r.tok)) ?_ ⟨gf, hgf, by rw [hsc]; exact Bool.false_ne_true⟩
    exact List.mem_map.mpr ⟨r, List.mem_filter.mpr ⟨hr, beq_self_eq_true _⟩, rfl⟩
  exact (List.mem_filter.mp h1).1

example :
    let e1 : Entry := ⟨[⟨8, [97]⟩], true, false, none, 0, [⟨2, 7, 1000, [9]⟩, ⟨3, 8, 1000, []⟩], [], false, some 1000⟩
    let e2 : Entry := ⟨[⟨8, [97]⟩, ⟨8, [98]⟩], false, false, none, 1, [⟨2, 7, 1000, [1]⟩], [], false, some 1000⟩
    let s : St := { faces := [⟨1, true, .p2p⟩, ⟨2, true, .p2p⟩, ⟨3, false, .p2p⟩], pit := [e1, e2], nextTok := 2 }
    (step s (.data 1 { name := [⟨8, [97]⟩, ⟨8, [98]⟩], content := 5 })).2 =
      [.data 2 [⟨8, [97]⟩, ⟨8, [98]⟩] 5 [1], .data 2 [⟨8, [97]⟩, ⟨8, [98]⟩] 5 [9], .data 3 [⟨8, [97]⟩, ⟨8, [98]⟩] 5 []] := by decide

/-- The pending Interests a Data satisfies are consumed: afterwards no entry it satisfies holds an
    in-record. -/
theorem data_consumes (s : St) (f : FaceId) (d : Data) (fc : Face)
    (hf : faceOf s.faces f = some fc) (hacc : (!fc.isLocal && isLocalhost d.name) = false) :
    ∀ e ∈ (step s (.data f d)).1.pit, satisfies d e = true → e.inRecs = [] := by
  simp only [step]
  exact onData_consumes s f d fc hf hacc

/-- … so that a repeated copy of the Data is delivered to nobody. -/
theorem data_repeat_silent (s : St) (f : FaceId) (d : Data) :
    (step (step s (.data f d)).1 (.data f d)).2 = [] := by
  simp only [step]
  rcases onData_cases s f d with h0 | ⟨fc, hf, hacc⟩
  · rw [h0]; simp only; rw [h0]
  · rw [List.eq_nil_iff_forall_not_mem]
    intro snd hsnd
    obtain ⟨g, tok, _, ⟨e, he, hsat, r, hr, _⟩, _⟩ := onData_sends _ f d snd hsnd
    rw [onData_consumes s f d fc hf hacc e he hsat] at hr
    cases hr

example :
    let e : Entry := ⟨[⟨8, [97]⟩], true, false, none, 0, [⟨2, 7, 1000, [9]⟩], [], false, some 1000⟩
    let s : St := { faces := [⟨1, true, .p2p⟩, ⟨2, true, .p2p⟩], pit := [e], nextTok := 1 }
    let d : Data := { name := [⟨8, [97]⟩, ⟨8, [98]⟩], content := 5 }
    (step s (.data 1 d)).2 ≠ [] ∧ (step (step s (.data 1 d)).1 (.data 1 d)).2 = [] := by decide

/-- Data served from the cache in answer to an Interest goes to that Interest's face alone: it is
    the only send of the operation (no upstream Interest), it matches the Interest, comes from the
    Content Store and carries the PIT token the requester supplied. -/
theorem cs_hit_single (s : St) (f : FaceId) (i : Interest) (tie : List FaceId) (pick : Nat) (snd : Send)
    (h : snd ∈ (step s (.interest f i tie pick)).2) (hd : snd.isData = true) :
    (step s (.interest f i tie pick)).2 = [snd] ∧
    ∃ ce ∈ s.cs, snd = .data f ce.name ce.content i.tok ∧ nameMatch ce.name i.name i.cbp = true := by
  simp only [step] at h ⊢
  rcases onInterest_sends h with ⟨ce, hce, h1, rfl, hm, _⟩ | ⟨hop, tok, _, g, rfl, _⟩
  · exact ⟨h1, ce, hce, rfl, hm⟩
  · -- a forwarded copy is no Data
    cases hd

example :
    let s : St := { faces := [⟨1, true, .p2p⟩, ⟨2, true, .p2p⟩], fib := [([], [(2, 1)])],
                    cs := [⟨[⟨8, [97]⟩], 5, 0⟩] }
    (step s (.interest 1 { name := [⟨8, [97]⟩], nonce := some 3, tok := [4] } [] 0)).2 = [.data 1 [⟨8, [97]⟩] 5 [4]] := by decide

/-! ### the forwarder as several forwarding threads (C01/FwMulti.lean)

  PIT and CS are per thread; the face layer assigns packets to threads by name hashes `H` (any function). -/

/-- Interests for the same name always meet in the same thread, whatever face they come from and
    whatever their flags, nonce or forwarding hint (aggregation and the duplicate-nonce test are per
    PIT entry of that one thread). -/
theorem mt_same_name_same_thread (n : Nat) (H : Name → Nat) (i1 i2 : Interest) (h : i1.name = i2.name) :
    interestThread n H i1.name = interestThread n H i2.name := by rw [h]

/-- A token-less Data is queued to the thread of EVERY Interest name it can satisfy: the thread that
    holds an Interest whose name is a prefix of (or equal to) the Data name — the empty name included —
    is among the Data's threads (after the fixes of F-01a / F-01b, for local and non-local faces). -/
theorem mt_dispatch_covers (n : Nat) (hn : 0 < n) (H : Name → Nat) (iname dname : Name)
    (hp : Name.isPrefixOf iname dname = true) :
    interestThread n H iname ∈ dataThreads n H dname none := by
  unfold dataThreads interestThread prefixThreads
  simp only [List.mem_filter, List.mem_range, List.contains_eq_mem, decide_eq_true_eq]
  have hpre := isPrefixOf_iff_prefix.mp hp
  by_cases he : iname = []
  · -- the thread of the empty name gets every Data, /localhost or not
    subst he
    refine ⟨Nat.mod_lt _ hn, ?_⟩
    split
    · simp [isLocalhost]
    · exact List.mem_map.mpr ⟨[], mem_prefixesDesc.mpr ⟨0, Nat.zero_le _, rfl⟩, by simp [isLocalhost]⟩
  · rw [isLocalhost_of_prefix hp he]
    split
    · exact ⟨hn, by simp⟩
    · exact ⟨Nat.mod_lt _ hn, List.mem_map.mpr
        ⟨iname, mem_prefixesDesc.mpr ⟨_, hpre.length_le, List.prefix_iff_eq_take.mp hpre⟩, rfl⟩⟩

/-- a Data echoing a 6-byte PIT token goes to the thread that minted it (if that thread exists) -/
theorem mt_token_thread (n : Nat) (H : Name → Nat) (name : Name) (t : Nat) (ht : t < n) :
    dataThreads n H name (some t) = [t] := by simp [dataThreads, ht]

/-- Delivery across threads: in thread `t` (reachable state, entries placed by the dispatch rule) entry
    `e` holds an in-record of face `r.face`; a token-less Data that satisfies it by name arrives on
    another face `f`, on any face scope: the copy for `r.face`, with its token, is among the sends of
    the forwarder, scope rules permitting. -/
theorem mt_data_delivered (m : MSt) (H : Name → Nat) (t : Nat) (s : St) (hs : m.ts[t]? = some s) (hwf : WF s)
    (e : Entry) (he : e ∈ s.pit) (hplace : interestThread m.n H e.name = t)
    (f : FaceId) (d : Data) (fc : Face) (hf : faceOf s.faces f = some fc)
    (hacc : (!fc.isLocal && isLocalhost d.name) = false)
    (htok : ∀ v, d.tok ≠ .six v) (hm : nameMatch d.name e.name e.cbp = true)
    (r : InRec) (hr : r ∈ e.inRecs) (hg : r.face ≠ f) (gf : Face) (hgf : faceOf s.faces r.face = some gf)
    (hsc : (!gf.isLocal && isLocalhost d.name) = false) :
    Send.data r.face d.name d.content r.tok ∈ (mData m H f d none).2 := by
  have hn : 0 < m.n := Nat.lt_of_le_of_lt (Nat.zero_le t) (List.getElem?_eq_some_iff.mp hs).1
  have hcov := mt_dispatch_covers m.n hn H e.name d.name (nameMatch_isPrefixOf hm)
  rw [hplace] at hcov
  have hsat : satisfies d e = true := by
    unfold satisfies
    cases hd : d.tok with
    | six v => exact absurd hd (htok v)
    | none => exact hm
    | other b => exact hm
  have := data_reaches_every_pending_face s f d fc hf hacc e he hsat hwf r hr hg gf hgf hsc
  simp only [step] at this
  simp only [mData, List.mem_flatMap]
  exact ⟨t, hcov, by rw [hs]; exact this⟩

/-- Every state of the multi-thread forwarder reachable from empty PITs by any history (configuration and
    timer operations on all threads, Interests and Data dispatched by the face-layer rule with a fixed
    name hash `H`): each thread satisfies `WF`, and every PIT entry lives in the thread the dispatch
    rule assigns to its name. -/
theorem mt_reachable (H : Name → Nat) (m0 : MSt) (h0 : ∀ s ∈ m0.ts, s.pit = []) (ops : List MOp) :
    (∀ (t : Nat) (s : St), (mrun H m0 ops).ts[t]? = some s → WF s) ∧ Placed H (mrun H m0 ops) :=
  have ⟨hn, h⟩ := threadOk_mrun (H := H) ops (m := m0) rfl fun _ s hs =>
    have hp := h0 s (List.mem_of_getElem? hs)
    ⟨wf_init s hp, ⟨fun _ he => nomatch hp ▸ he⟩⟩
  ⟨fun t s hs => (h t s hs).1, fun t s hs => hn ▸ (h t s hs).2⟩

/-- C01 exactness across threads, for every reachable state of the forwarder: whichever thread holds the
    pending Interest, a token-less Data that satisfies it by name (arriving on any other face, local or
    non-local) is delivered to the pending face with the token that face supplied, scope permitting. -/
theorem mt_data_delivered_reachable (H : Name → Nat) (m0 : MSt) (h0 : ∀ s ∈ m0.ts, s.pit = []) (ops : List MOp)
    (t : Nat) (s : St) (hs : (mrun H m0 ops).ts[t]? = some s) (e : Entry) (he : e ∈ s.pit)
    (f : FaceId) (d : Data) (fc : Face) (hf : faceOf s.faces f = some fc)
    (hacc : (!fc.isLocal && isLocalhost d.name) = false)
    (htok : ∀ v, d.tok ≠ .six v) (hm : nameMatch d.name e.name e.cbp = true)
    (r : InRec) (hr : r ∈ e.inRecs) (hg : r.face ≠ f) (gf : Face) (hgf : faceOf s.faces r.face = some gf)
    (hsc : (!gf.isLocal && isLocalhost d.name) = false) :
    Send.data r.face d.name d.content r.tok ∈ (mstep H (mrun H m0 ops) (.data f d none)).2 := by
  obtain ⟨hwf, hpl⟩ := mt_reachable H m0 h0 ops
  exact mt_data_delivered (mrun H m0 ops) H t s hs (hwf t s hs) e he ((hpl t s hs).all e he) f d fc hf hacc htok hm
    r hr hg gf hgf hsc

example :
    let e : Entry := ⟨[], true, false, none, 0, [⟨2, 7, 1000, [9]⟩], [], false, some 1000⟩
    let s0 : St := { faces := [⟨1, true, .p2p⟩, ⟨2, true, .p2p⟩] }
    let m : MSt := ⟨[s0, { s0 with pit := [e], nextTok := 1 }, s0]⟩
    -- hash: the empty name ↦ thread 1, everything else ↦ thread 0
    let H : Name → Nat := fun n => if n.isEmpty then 1 else 0
    (mData m H 1 { name := [⟨8, [97]⟩], content := 5 } none).2 = [.data 2 [⟨8, [97]⟩] 5 [9]] := by decide

end Ndn.Fw.C01
