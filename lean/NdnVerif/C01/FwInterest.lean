/- C01/FwInterest.lean — the incoming Interest pipeline of the shared model `Fw`: strategy stage, then arrival. -/
import NdnVerif.C01.FwInv
namespace Ndn.Fw
open Ndn.Fw.Spec

def fwdSend (i : Interest) (hop : Option Nat) (tok : Nat) (g : FaceId) : Send := .interest g i.name hop (.mine tok)

theorem outInterest_sends (s : St) (tok : Nat) (i : Interest) (nonce : Nat) (hop : Option Nat) (g inFace : FaceId) :
    (outInterest s tok i nonce hop g inFace).2 =
      if usableOut s.faces inFace i.name hop g then [fwdSend i hop tok g] else [] := by
  rw [outInterest, apply_ite Prod.snd]; rfl

@[simp] theorem outInterest_faces (s : St) (tok i nonce hop g inFace) :
    (outInterest s tok i nonce hop g inFace).1.faces = s.faces := by
  rw [outInterest, apply_ite Prod.fst, apply_ite St.faces]; exact ite_self _
@[simp] theorem outInterest_nextTok (s : St) (tok i nonce hop g inFace) :
    (outInterest s tok i nonce hop g inFace).1.nextTok = s.nextTok := by
  rw [outInterest, apply_ite Prod.fst, apply_ite St.nextTok]; exact ite_self _
@[simp] theorem outInterest_now (s : St) (tok i nonce hop g inFace) :
    (outInterest s tok i nonce hop g inFace).1.now = s.now := by
  rw [outInterest, apply_ite Prod.fst, apply_ite St.now]; exact ite_self _

/-- what the outgoing Interest pipeline (`outInterest`, `multicast`, `forwardInterest`) does to a state: in the PIT only
    out-records and expiry timers change -/
structure Fwd (s s' : St) : Prop where
  faces : s'.faces = s.faces
  nextTok : s'.nextTok = s.nextTok
  pit : ∃ g : Entry → Entry, (∀ e, (g e).token = e.token ∧ (g e).name = e.name ∧ (g e).inRecs = e.inRecs) ∧
    s'.pit = s.pit.map g

namespace Fwd
variable {s s1 s2 : St}

theorem refl (s : St) : Fwd s s := ⟨rfl, rfl, id, fun _ => ⟨rfl, rfl, rfl⟩, (List.map_id _).symm⟩

theorem trans (h1 : Fwd s s1) (h2 : Fwd s1 s2) : Fwd s s2 := by
  obtain ⟨g1, hg1, hp1⟩ := h1.pit
  obtain ⟨g2, hg2, hp2⟩ := h2.pit
  refine ⟨h2.faces.trans h1.faces, h2.nextTok.trans h1.nextTok, g2 ∘ g1, fun e => ?_, by rw [hp2, hp1, List.map_map]⟩
  exact ⟨(hg2 _).1.trans (hg1 e).1, (hg2 _).2.1.trans (hg1 e).2.1, (hg2 _).2.2.trans (hg1 e).2.2⟩

theorem modify (tok : Nat) (g : Entry → Entry) (hf : s1.faces = s.faces) (hn : s1.nextTok = s.nextTok)
    (hp : s1.pit = modifyEntry s.pit tok g) (hg : ∀ e, (g e).token = e.token ∧ (g e).name = e.name ∧ (g e).inRecs = e.inRecs) :
    Fwd s s1 := by
  refine ⟨hf, hn, _, fun e => ?_, hp⟩
  split
  · exact hg e
  · exact ⟨rfl, rfl, rfl⟩

theorem entry (h : Fwd s s1) {tok : Nat} {e : Entry} (he : getEntry s.pit tok = some e) :
    ∃ e2, getEntry s1.pit tok = some e2 ∧ e2.inRecs = e.inRecs := by
  obtain ⟨g, hg, hp⟩ := h.pit
  refine ⟨g e, ?_, (hg e).2.2⟩
  rw [hp, getEntry, List.find?_map, show ((fun x : Entry => x.token == tok) ∘ g) = fun x => x.token == tok from
    funext fun x => by rw [Function.comp, (hg x).1]]
  exact congrArg (Option.map g) he

end Fwd

namespace Stable
theorem fwd {Q : Name → Prop} {P : St → Prop} (hP : Stable Q P) {s s' : St} (h : P s) (hf : Fwd s s') : P s' := by
  obtain ⟨g, hg, hp⟩ := hf.pit
  exact hP.map h g hp hf.nextTok fun e => ⟨(hg e).1, (hg e).2.1, fun hnd => by rw [(hg e).2.2]; exact hnd⟩
end Stable

theorem outInterest_fwd (s : St) (tok i nonce hop g inFace) : Fwd s (outInterest s tok i nonce hop g inFace).1 := by
  rw [outInterest, apply_ite Prod.fst]
  exact pred_ite (Fwd.modify tok _ rfl rfl rfl fun _ => ⟨rfl, rfl, rfl⟩) (Fwd.refl s)

theorem multicast_sends (s : St) (tok i nonce hop inFace) (l : List (FaceId × Nat)) :
    (multicast s tok i nonce hop inFace l).2 =
      (l.filter fun nh => usableOut s.faces inFace i.name hop nh.1).map fun nh => fwdSend i hop tok nh.1 := by
  induction l generalizing s with
  | nil => rfl
  | cons nh t ih =>
    simp only [multicast]
    rw [ih, outInterest_faces, outInterest_sends]
    by_cases hu : usableOut s.faces inFace i.name hop nh.1 = true <;> simp [hu]

theorem multicast_fwd (s : St) (tok i nonce hop inFace) (l : List (FaceId × Nat)) :
    Fwd s (multicast s tok i nonce hop inFace l).1 := by
  induction l generalizing s with
  | nil => exact Fwd.refl s
  | cons nh t ih => simp only [multicast]; exact (outInterest_fwd ..).trans (ih _)

theorem multicast_one (s : St) (tok i nonce hop inFace) (nh : FaceId × Nat) :
    multicast s tok i nonce hop inFace [nh] = outInterest s tok i nonce hop nh.1 inFace := by
  simp only [multicast, List.append_nil]

theorem bestRoute_eq_multicast (s : St) (tok i nonce hop inFace) (l : List (FaceId × Nat)) :
    bestRoute s tok i nonce hop inFace l =
      multicast s tok i nonce hop inFace (l.find? fun nh => usableOut s.faces inFace i.name hop nh.1).toList := by
  induction l with
  | nil => rfl
  | cons nh t ih =>
    unfold bestRoute
    split
    · rename_i hu; simp only [List.find?_cons, hu, Option.toList_some, multicast_one]
    · rename_i hu; simp only [List.find?_cons, hu, ih]

/-- `snd` is an Interest forwarded for entry `tok` to a next hop accepted by processOutgoingInterest -/
def IsFwd (faces : List Face) (inFace : FaceId) (i : Interest) (hop : Option Nat) (tok : Nat)
    (cands : List FaceId) (snd : Send) : Prop :=
  ∃ g, snd = fwdSend i hop tok g ∧ usableOut faces inFace i.name hop g = true ∧ g ∈ cands

/-- the candidate next hops named by the property: consumer-chosen face, or FIB longest-prefix match
    of the name / the forwarding hint outside the producer region -/
def nextHopCands (s : St) (i : Interest) : List FaceId :=
  match i.nextHop with
  | some g => [g]
  | none => (lpmNextHops s.fib (lookupName s.regions i)).map (·.1)

/-- the next hops offered to the strategy: FIB longest-prefix match minus the faces that hold an
    in-record of the entry (the arrival face stays) -/
def allowedNhs (s : St) (i : Interest) (e : Entry) (inFace : FaceId) : List (FaceId × Nat) :=
  (lpmNextHops s.fib (lookupName s.regions i)).filter fun nh => !(e.inRecs.any (·.face == nh.1)) || nh.1 == inFace

/-- the next hops the strategy sends to (bestroute.go / multicast.go AfterReceiveInterest) -/
def strategyHops (s : St) (i : Interest) (e : Entry) (nonce : Nat) (hop : Option Nat) (inFace : FaceId)
    (tie : List FaceId) : List (FaceId × Nat) :=
  if suppressed s.now e nonce then []
  else match lpmStrat s.strat i.name with
    | .best => ((sortNh tie (allowedNhs s i e inFace)).find? fun nh => usableOut s.faces inFace i.name hop nh.1).toList
    | .multi => allowedNhs s i e inFace

theorem strategyHops_suppressed {s i e nonce} (hop inFace tie) (h : suppressed s.now e nonce = true) :
    strategyHops s i e nonce hop inFace tie = [] := by
  rw [strategyHops, if_pos h]

theorem strategyHops_best {s i e nonce} (hop inFace tie) (h : suppressed s.now e nonce = false)
    (hs : lpmStrat s.strat i.name = .best) :
    strategyHops s i e nonce hop inFace tie =
      ((sortNh tie (allowedNhs s i e inFace)).find? fun nh => usableOut s.faces inFace i.name hop nh.1).toList := by
  simp only [strategyHops, h, hs, Bool.false_eq_true, if_false]

theorem strategyHops_multi {s i e nonce} (hop inFace tie) (h : suppressed s.now e nonce = false)
    (hs : lpmStrat s.strat i.name = .multi) : strategyHops s i e nonce hop inFace tie = allowedNhs s i e inFace := by
  simp only [strategyHops, h, hs, Bool.false_eq_true, if_false]

theorem strategyHops_sub_allowed {s i e nonce hop inFace tie} {nh : FaceId × Nat}
    (h : nh ∈ strategyHops s i e nonce hop inFace tie) : nh ∈ allowedNhs s i e inFace := by
  unfold strategyHops at h
  split at h
  · cases h
  · split at h
    · exact mem_sortNh.mp (List.mem_of_find?_eq_some (Option.mem_toList.mp h))
    · exact h

private theorem strategy_eq_multicast (s : St) (tok : Nat) (i : Interest) (nonce : Nat) (hop : Option Nat) (inFace : FaceId)
    (tie : List FaceId) (nhs : List (FaceId × Nat)) (sup : Bool) (st : Strat) :
    (if nhs.isEmpty then (s, []) else if sup then (s, []) else
      match st with
      | .best => bestRoute s tok i nonce hop inFace (sortNh tie nhs)
      | .multi => multicast s tok i nonce hop inFace nhs) =
    multicast s tok i nonce hop inFace
      (if sup then [] else match st with
        | .best => ((sortNh tie nhs).find? fun nh => usableOut s.faces inFace i.name hop nh.1).toList
        | .multi => nhs) := by
  cases nhs with
  | nil => cases sup <;> cases st <;> rfl
  | cons a t =>
    cases sup
    · cases st
      · exact bestRoute_eq_multicast ..
      · rfl
    · rfl

/-- the hops `forwardInterest` hands to the outgoing pipeline: the consumer-chosen face (the cost 0 is a dummy),
    else what the strategy picks for the entry found under `tok` -/
def fwdHops (s : St) (tok : Nat) (i : Interest) (nonce : Nat) (hop : Option Nat) (inFace : FaceId) (tie : List FaceId) :
    List (FaceId × Nat) :=
  match i.nextHop with
  | some g => [(g, 0)]
  | none => match getEntry s.pit tok with
    | none => []
    | some e => strategyHops s i e nonce hop inFace tie

/-- UpdateExpirationTimer leaves the records alone: next hops offered and suppression test are those of the entry
    before it.  Best-route is multicast to the first usable hop. -/
theorem forwardInterest_eq (s : St) (tok : Nat) (i : Interest) (nonce : Nat) (hop : Option Nat) (inFace : FaceId)
    (tie : List FaceId) :
    forwardInterest s tok i nonce hop inFace tie =
      multicast { s with pit := modifyEntry s.pit tok (Entry.updateExp s.now) } tok i nonce hop inFace
        (fwdHops s tok i nonce hop inFace tie) := by
  have he' := getEntry_modifyEntry s.pit tok (g := Entry.updateExp s.now) (fun _ => rfl)
  unfold fwdHops
  cases hn : i.nextHop with
  | some g => simp only [forwardInterest, hn]; exact (multicast_one _ tok i nonce hop inFace (g, 0)).symm
  | none =>
    cases he : getEntry s.pit tok with
    | none => rw [he] at he'; simp only [forwardInterest, hn, he']; rfl
    | some e =>
      rw [he] at he'
      simp only [forwardInterest, hn, he', Option.map_some]
      exact strategy_eq_multicast _ tok i nonce hop inFace tie (allowedNhs s i e inFace) (suppressed s.now e nonce)
        (lpmStrat s.strat i.name)

theorem mem_fwdHops {s tok i nonce hop inFace tie} {nh : FaceId × Nat} (h : nh ∈ fwdHops s tok i nonce hop inFace tie) :
    nh.1 ∈ nextHopCands s i := by
  unfold fwdHops at h
  unfold nextHopCands
  cases hn : i.nextHop with
  | some g => rw [hn] at h; rw [List.mem_singleton.mp h]; exact List.mem_singleton.mpr rfl
  | none =>
    rw [hn] at h
    cases he : getEntry s.pit tok with
    | none => rw [he] at h; cases h
    | some e =>
      rw [he] at h
      exact List.mem_map_of_mem (List.mem_filter.mp (strategyHops_sub_allowed h)).1

theorem forwardInterest_isFwd (s : St) (tok : Nat) (i : Interest) (nonce : Nat) (hop : Option Nat) (inFace : FaceId)
    (tie : List FaceId) :
    ∀ snd ∈ (forwardInterest s tok i nonce hop inFace tie).2, IsFwd s.faces inFace i hop tok (nextHopCands s i) snd := by
  intro snd h
  rw [forwardInterest_eq, multicast_sends, List.mem_map] at h
  obtain ⟨nh, hnh, rfl⟩ := h
  exact ⟨nh.1, rfl, (List.mem_filter.mp hnh).2, mem_fwdHops (List.mem_filter.mp hnh).1⟩

theorem forwardInterest_fwd (s : St) (tok i nonce hop inFace tie) :
    Fwd s (forwardInterest s tok i nonce hop inFace tie).1 := by
  rw [forwardInterest_eq]
  refine .trans ?_ (multicast_fwd ..)
  exact .modify tok _ rfl rfl rfl fun _ => ⟨rfl, rfl, rfl⟩

theorem forwardInterest_sends (s : St) (tok : Nat) (i : Interest) (nonce : Nat) (hop : Option Nat) (inFace : FaceId)
    (tie : List FaceId) (e : Entry) (he : getEntry s.pit tok = some e) (hn : i.nextHop = none) :
    (forwardInterest s tok i nonce hop inFace tie).2 =
      ((strategyHops s i e nonce hop inFace tie).filter fun nh => usableOut s.faces inFace i.name hop nh.1).map
        fun nh => fwdSend i hop tok nh.1 := by
  rw [forwardInterest_eq, multicast_sends]
  simp only [fwdHops, hn, he]

/-- the PIT entry an Interest aggregates into, if it exists -/
def preEntry (s : St) (i : Interest) : Option Entry :=
  s.pit.find? (·.hasKey i.name i.cbp i.mbf (fhName s.regions i.hints))

def newEntry (s : St) (i : Interest) : Entry :=
  ⟨i.name, i.cbp, i.mbf, fhName s.regions i.hints, s.nextTok, [], [], false, none⟩

abbrev inserted (s : St) (f : FaceId) (i : Interest) (nonce : Nat) : St × Nat × Bool :=
  insertInterest s i (fhName s.regions i.hints) f nonce

theorem inserted_of_pre {s : St} {i : Interest} {e0 : Entry} (h : preEntry s i = some e0) (f : FaceId) (nonce : Nat) :
    inserted s f i nonce = (s, e0.token, e0.inRecs.any fun r => r.face != f && r.nonce == nonce) := by
  unfold preEntry at h
  simp only [inserted, insertInterest, h]

theorem inserted_of_fresh {s : St} {i : Interest} (h : preEntry s i = none) (f : FaceId) (nonce : Nat) :
    inserted s f i nonce =
      ({ s with pit := s.pit ++ [newEntry s i], nextTok := s.nextTok + 1 }, s.nextTok, false) := by
  unfold preEntry at h
  simp only [inserted, insertInterest, h, newEntry]

theorem inserted_frame (s : St) (f : FaceId) (i : Interest) (nonce : Nat) :
    (inserted s f i nonce).1.faces = s.faces ∧ (inserted s f i nonce).1.fib = s.fib ∧
    (inserted s f i nonce).1.regions = s.regions ∧ (inserted s f i nonce).1.strat = s.strat ∧
    (inserted s f i nonce).1.now = s.now ∧ (inserted s f i nonce).1.cs = s.cs ∧
    (inserted s f i nonce).1.csServe = s.csServe := by
  cases h : preEntry s i with
  | none => rw [inserted_of_fresh h]; simp only [and_self]
  | some e0 => rw [inserted_of_pre h]; simp only [and_self]

theorem inserted_entry (s : St) (f : FaceId) (i : Interest) (nonce : Nat) :
    ∃ e, getEntry (inserted s f i nonce).1.pit (inserted s f i nonce).2.1 = some e := by
  rw [← Option.isSome_iff_exists, getEntry, List.find?_isSome]
  cases h : preEntry s i with
  | none => rw [inserted_of_fresh h]; exact ⟨newEntry s i, by simp, by simp [newEntry]⟩
  | some e0 => rw [inserted_of_pre h]; exact ⟨e0, List.mem_of_find?_eq_some h, by simp⟩

theorem inserted_dup {s : St} {f : FaceId} {i : Interest} {nonce : Nat}
    (h : ∀ e, preEntry s i = some e → (e.inRecs.any fun r => r.face != f && r.nonce == nonce) = false) :
    (inserted s f i nonce).2.2 = false := by
  cases hpre : preEntry s i with
  | none => rw [inserted_of_fresh hpre]
  | some e0 => rw [inserted_of_pre hpre]; exact h e0 hpre

namespace Stable
theorem inserted {Q : Name → Prop} {P : St → Prop} (hP : Stable Q P) {s : St} (h : P s) (f : FaceId) {i : Interest}
    (nonce : Nat) (hi : Q i.name) : P (inserted s f i nonce).1 := by
  cases hpre : preEntry s i with
  | some e0 => rw [inserted_of_pre hpre]; exact h
  | none => rw [inserted_of_fresh hpre]; exact hP.insert h (newEntry s i) hi rfl rfl rfl rfl
end Stable

/-- InsertInRecord on the in-records of one entry (a refreshed record keeps its first PIT token) -/
def putIn (f : FaceId) (nonce : Nat) (exp : Time) (tok : Bytes) (l : List InRec) : List InRec :=
  match l.find? (·.face == f) with
  | some r => l.map fun x => if x.face == f then { r with nonce := nonce, expiry := exp } else x
  | none => l ++ [⟨f, nonce, exp, tok⟩]

theorem mem_putIn {f nonce exp tok} {l : List InRec} {r : InRec} (h : r ∈ putIn f nonce exp tok l) :
    r.face = f ∨ ∃ r0 ∈ l, r0.face = r.face := by
  unfold putIn at h
  split at h
  · rename_i r1 hr1
    obtain ⟨y, hy, rfl⟩ := List.mem_map.mp h
    split
    · left; simpa using List.find?_some hr1
    · right; exact ⟨y, hy, rfl⟩
  · rcases List.mem_append.mp h with h | h
    · right; exact ⟨r, h, rfl⟩
    · left; rw [List.mem_singleton.mp h]

theorem putIn_nodup {f nonce exp tok} {l : List InRec} (h : (l.map (·.face)).Nodup) :
    ((putIn f nonce exp tok l).map (·.face)).Nodup := by
  unfold putIn
  split
  · -- the refreshed record keeps its face: the list of faces is unchanged
    rename_i r1 hr1
    have hrf : r1.face = f := by simpa using List.find?_some hr1
    rw [List.map_map]
    refine (List.map_congr_left fun x _ => ?_) ▸ h
    simp only [Function.comp]
    split
    · rename_i hx; exact (beq_iff_eq.mp hx).trans hrf.symm
    · rfl
  · rename_i hnone
    rw [List.map_append]
    refine List.nodup_append.mpr ⟨h, by simp, ?_⟩
    intro a ha b hb
    rw [List.mem_singleton.mp hb]
    obtain ⟨x, hx, rfl⟩ := List.mem_map.mp ha
    simpa using List.find?_eq_none.mp hnone x hx

/-- acceptance conditions of the incoming Interest pipeline up to and including the duplicate-nonce test
    (`nodup` reads the pre-state: InsertInterest leaves an existing entry as it is) -/
structure Accepted (s : St) (f : FaceId) (i : Interest) (inF : Face) (hop : Option Nat) (nonce : Nat) : Prop where
  face : faceOf s.faces f = some inF
  hopLimit : hopStep i.hop = some hop
  scope : (!inF.isLocal && isLocalhost i.name) = false
  hasNonce : i.nonce = some nonce
  alive : dnlHas s.dnl i.name nonce = false
  nodup : ∀ e, preEntry s i = some e → (e.inRecs.any fun r => r.face != f && r.nonce == nonce) = false

theorem onInterest_drop_or_accepted (s : St) (f : FaceId) (i : Interest) (tie : List FaceId) (pick : Nat) :
    onInterest s f i tie pick = (s, []) ∨ ∃ inF hop nonce, Accepted s f i inF hop nonce := by
  cases hF : faceOf s.faces f with
  | none => left; simp only [onInterest, hF]
  | some inF =>
    cases hhop : hopStep i.hop with
    | none => left; simp only [onInterest, hF, hhop]
    | some hop =>
      cases hsc : (!inF.isLocal && isLocalhost i.name) with
      | true => left; simp only [onInterest, hF, hhop, hsc, if_true]
      | false =>
        cases hn : i.nonce with
        | none => left; simp only [onInterest, hF, hhop, hsc, hn, Bool.false_eq_true, if_false]
        | some nonce =>
          cases hdead : dnlHas s.dnl i.name nonce with
          | true => left; simp only [onInterest, hF, hhop, hsc, hn, hdead, Bool.false_eq_true, if_false, if_true]
          | false =>
            cases hpre : preEntry s i with
            | none => exact Or.inr ⟨inF, hop, nonce, hF, hhop, hsc, hn, hdead, fun e he => nomatch hpre ▸ he⟩
            | some e =>
              cases hdup : (e.inRecs.any fun r => r.face != f && r.nonce == nonce) with
              | false =>
                refine Or.inr ⟨inF, hop, nonce, hF, hhop, hsc, hn, hdead, fun e' he' => ?_⟩
                cases hpre.symm.trans he'
                exact hdup
              | true =>
                left
                have hins := inserted_of_pre hpre f nonce
                unfold inserted at hins
                simp only [onInterest, hF, hhop, hsc, hn, hdead, Bool.false_eq_true, if_false, hins, hdup, if_true]

theorem onInterest_of_not_accepted {s : St} {f : FaceId} {i : Interest} (tie : List FaceId) (pick : Nat)
    (h : ∀ inF hop nonce, ¬Accepted s f i inF hop nonce) : onInterest s f i tie pick = (s, []) :=
  (onInterest_drop_or_accepted s f i tie pick).resolve_right fun ⟨inF, hop, nonce, hacc⟩ => h inF hop nonce hacc

/-- `s'` is `s` after InsertInterest and InsertInRecord on entry `tok`.  The model rewrites every entry with that
    token by what it found in the first: `pit` speaks of states with unique tokens only. -/
structure Recorded (s : St) (f : FaceId) (i : Interest) (nonce : Nat) (s' : St) (tok : Nat) : Prop where
  faces : s'.faces = s.faces
  fib : s'.fib = s.fib
  regions : s'.regions = s.regions
  strat : s'.strat = s.strat
  now : s'.now = s.now
  token : tok = (inserted s f i nonce).2.1
  nextTok : s'.nextTok = (inserted s f i nonce).1.nextTok
  pit : WF s → s'.pit = modifyEntry (inserted s f i nonce).1.pit tok fun x =>
    { x with inRecs := putIn f nonce (s.now + lifetimeNs i) i.tok x.inRecs }

theorem onInterest_of_accepted {s : St} {f : FaceId} {i : Interest} {inF : Face} {hop : Option Nat} {nonce : Nat}
    (tie : List FaceId) (pick : Nat) (hacc : Accepted s f i inF hop nonce) :
    ∃ s' tok, Recorded s f i nonce s' tok ∧
      (onInterest s f i tie pick = forwardInterest s' tok i nonce hop f tie ∨
       ∃ ce cs' s'', s.csServe = true ∧ csFind s.now s.cs i pick = some (ce, cs') ∧
         s''.nextTok = s'.nextTok ∧
         s''.pit = modifyEntry s'.pit tok
           (fun e => Entry.updateExp s.now { e with inRecs := e.inRecs.filter (·.face != f) }) ∧
         onInterest s f i tie pick = (s'', dataSends s.faces ce.name ce.content [(f, i.tok)])) := by
  obtain ⟨s1, tok, dup, hins⟩ : ∃ s1 tok dup, inserted s f i nonce = (s1, tok, dup) := ⟨_, _, _, rfl⟩
  obtain ⟨hfaces, hfib, hregions, hstrat, hnow, hcs, hserve⟩ := inserted_frame s f i nonce
  obtain ⟨e, he⟩ := inserted_entry s f i nonce
  have hdup := inserted_dup (f := f) hacc.nodup
  rw [hins] at hfaces hfib hregions hstrat hnow hcs hserve he hdup
  simp only at hfaces hfib hregions hstrat hnow hcs hserve he hdup
  -- refreshed or appended in-record: both give a `Recorded` state (`hrec`); only the appended one asks the Content Store
  have hrec : ∀ (s' : St) (g : Entry → Entry), s'.faces = s1.faces → s'.fib = s1.fib →
      s'.regions = s1.regions → s'.strat = s1.strat → s'.now = s1.now → s'.nextTok = s1.nextTok →
      (∀ x, g x = { x with inRecs := (g x).inRecs }) →
      (g e).inRecs = putIn f nonce (s.now + lifetimeNs i) i.tok e.inRecs →
      s'.pit = modifyEntry s1.pit tok g → Recorded s f i nonce s' tok := by
    intro s' g hfa hfi hre hst hno hnt hg hge hp
    refine ⟨hfa.trans hfaces, hfi.trans hfib, hre.trans hregions, hst.trans hstrat, hno.trans hnow, ?_, ?_, fun hwf => ?_⟩
    all_goals rw [hins]
    · exact hnt
    · -- tokens are unique, so `e` is the only entry rewritten, and there `g` is `putIn`
      have h1 := wf_stable.inserted hwf f (i := i) nonce trivial
      rw [hins] at h1
      obtain ⟨hem, het⟩ := getEntry_mem he
      rw [hp]
      refine List.map_congr_left fun x hx => ?_
      split
      · rename_i hxt
        cases inj_of_nodup_map _ h1.tokNodup hx hem ((beq_iff_eq.mp hxt).trans het.symm)
        rw [hg e, hge]
      · rfl
  unfold inserted at hins
  unfold onInterest
  simp only [hacc.face, hacc.hopLimit, hacc.scope, hacc.hasNonce, hacc.alive, Bool.false_eq_true, if_false, hins, hdup, he]
  cases hfind : e.inRecs.find? (·.face == f) with
  | some r =>
    dsimp only
    refine ⟨_, tok, ?_, Or.inl rfl⟩
    refine hrec _ _ (dnlInsert_faces ..) (dnlInsert_fib ..) (dnlInsert_regions ..) (dnlInsert_strat ..)
      (dnlInsert_now ..) (dnlInsert_nextTok ..) (fun _ => rfl) ?_ (dnlInsert_pit ..)
    simp only [putIn, hfind, hnow]
  | none =>
    have hrec2 := hrec { s1 with pit := modifyEntry s1.pit tok fun e =>
        { e with inRecs := e.inRecs ++ [⟨f, nonce, s1.now + lifetimeNs i, i.tok⟩] } } _ rfl rfl rfl rfl rfl rfl
      (fun _ => rfl) (by simp only [putIn, hfind, hnow]) rfl
    refine ⟨_, tok, hrec2, ?_⟩
    dsimp only
    cases hsv : s1.csServe with
    | false => exact Or.inl (by simp only [Bool.false_eq_true, if_false])
    | true =>
      simp only [if_true]
      cases hcf : csFind s1.now s1.cs i pick with
      | none => exact Or.inl rfl
      | some p =>
        refine Or.inr ⟨p.1, p.2, _, hserve ▸ hsv, by rw [← hnow, ← hcs, hcf], ?_, ?_, Prod.ext rfl ?_⟩
        · rfl
        · show modifyEntry _ tok _ = modifyEntry _ tok _
          rw [hnow]
        · simp only [hfaces]

namespace Stable
theorem onInterest {Q : Name → Prop} {P : St → Prop} (hP : Stable Q P) {s : St} (h : P s) (hwf : WF s) (f : FaceId)
    {i : Interest} (tie : List FaceId) (pick : Nat) (hi : Q i.name) : P (onInterest s f i tie pick).1 := by
  rcases onInterest_drop_or_accepted s f i tie pick with h0 | ⟨inF, hop, nonce, hacc⟩
  · rw [h0]; exact h
  · obtain ⟨s', tok, hr, hout⟩ := onInterest_of_accepted tie pick hacc
    -- InsertInterest is `insert` (or nothing), InsertInRecord rewrites entry `tok` in place
    have h' : P s' := hP.modify (hP.inserted h f nonce hi) tok _ (hr.pit hwf) hr.nextTok
      (fun _ => ⟨rfl, rfl, putIn_nodup⟩)
    rcases hout with hfw | ⟨ce, cs', s'', _, _, hnt, hpit, heq⟩
    · rw [hfw]; exact hP.fwd h' (forwardInterest_fwd ..)
    · rw [heq]
      refine hP.modify h' tok _ hpit hnt (fun e => ⟨rfl, rfl, fun hnd => ?_⟩)
      exact (List.filter_sublist.map _).nodup hnd
end Stable

theorem onInterest_sends {s : St} {f : FaceId} {i : Interest} {tie : List FaceId} {pick : Nat} {snd : Send}
    (h : snd ∈ (onInterest s f i tie pick).2) :
    (∃ ce ∈ s.cs, (onInterest s f i tie pick).2 = [snd] ∧ snd = .data f ce.name ce.content i.tok ∧
        nameMatch ce.name i.name i.cbp = true ∧ Deliverable s.faces ce.name f) ∨
    (∃ hop tok, hopStep i.hop = some hop ∧ IsFwd s.faces f i hop tok (nextHopCands s i) snd) := by
  rcases onInterest_drop_or_accepted s f i tie pick with h0 | ⟨inF, hop, nonce, hacc⟩
  · rw [h0] at h; cases h
  · obtain ⟨s', tok, hr, hfw | ⟨ce, cs', s'', _, hfind, _, _, heq⟩⟩ := onInterest_of_accepted tie pick hacc
    · right
      refine ⟨hop, tok, hacc.hopLimit, ?_⟩
      have := forwardInterest_isFwd s' tok i nonce hop f tie snd (hfw ▸ h)
      unfold nextHopCands at this ⊢
      rwa [hr.faces, hr.fib, hr.regions] at this
    · -- the cached Data goes to the requester, unless the /localhost scope rule forbids it
      left
      rw [heq, dataSends_one (t := (f, i.tok)) hacc.face] at h ⊢
      by_cases hsc : (!inF.isLocal && isLocalhost ce.name) = true
      · rw [if_pos hsc] at h; cases h
      · rw [if_neg hsc] at h ⊢
        obtain ⟨hm, hmem⟩ := csFind_match hfind
        cases List.mem_singleton.mp h
        exact ⟨ce, hmem, rfl, rfl, hm, inF, hacc.face, hsc⟩

/-- The strategy stage of an accepted Interest, from the pre-state `s`: it starts in `s'` on entry `e'` = `tok`.
    `inSub`: in-records are the arrival face's or the pre-existing entry's; `outs`: out-records (what suppression
    reads) are the pre-existing entry's; `fresh`: a new entry has the next token and the arrival's in-record alone. -/
structure Stage (s : St) (f : FaceId) (i : Interest) (nonce : Nat) (s' : St) (tok : Nat) (e' : Entry) : Prop where
  faces : s'.faces = s.faces
  fib : s'.fib = s.fib
  regions : s'.regions = s.regions
  strat : s'.strat = s.strat
  now : s'.now = s.now
  entry : getEntry s'.pit tok = some e'
  inSub : ∀ r ∈ e'.inRecs, r.face = f ∨ ∃ e, preEntry s i = some e ∧ ∃ r0 ∈ e.inRecs, r0.face = r.face
  outs : e'.outRecs = ((preEntry s i).map (·.outRecs)).getD []
  fresh : preEntry s i = none → tok = s.nextTok ∧ e'.inRecs = [⟨f, nonce, s.now + lifetimeNs i, i.tok⟩]

namespace Recorded
theorem stage {s : St} {f : FaceId} {i : Interest} {nonce : Nat} {s' : St} {tok : Nat}
    (hr : Recorded s f i nonce s' tok) (hwf : WF s) : ∃ e', Stage s f i nonce s' tok e' := by
  have hentry := getEntry_modifyEntry (inserted s f i nonce).1.pit tok
    (g := fun x => { x with inRecs := putIn f nonce (s.now + lifetimeNs i) i.tok x.inRecs }) (fun _ => rfl)
  rw [← hr.pit hwf] at hentry
  have htok := hr.token
  cases hpre : preEntry s i with
  | none =>
    rw [inserted_of_fresh hpre] at hentry htok
    rw [htok, show s.nextTok = (newEntry s i).token from rfl,
      getEntry_append_fresh (fun x hx => Nat.ne_of_lt (hwf.tokLt x hx))] at hentry
    refine ⟨_, hr.faces, hr.fib, hr.regions, hr.strat, hr.now, htok ▸ hentry, ?_, by rw [hpre]; rfl, fun _ => ⟨htok, rfl⟩⟩
    intro r hr
    exact Or.inl (List.mem_singleton.mp hr ▸ rfl)
  | some e0 =>
    rw [inserted_of_pre hpre] at hentry htok
    rw [htok, getEntry_of_mem hwf.tokNodup (List.mem_of_find?_eq_some hpre)] at hentry
    refine ⟨_, hr.faces, hr.fib, hr.regions, hr.strat, hr.now, htok ▸ hentry, ?_, by rw [hpre]; rfl,
      fun h => nomatch hpre.symm.trans h⟩
    intro r hr
    exact (mem_putIn hr).imp_right fun ⟨r0, h0, hf0⟩ => ⟨e0, hpre, r0, h0, hf0⟩
end Recorded

namespace Stage
/-- The strategy reads configuration, which the stage shares with the pre-state, and the staged entry: what is
    sent is told from `s` and `e'`. -/
theorem sends {s : St} {f : FaceId} {i : Interest} {nonce : Nat} {s' : St} {tok : Nat} {e' : Entry}
    (hst : Stage s f i nonce s' tok e') (hnh : i.nextHop = none) (hop : Option Nat) (tie : List FaceId) :
    (forwardInterest s' tok i nonce hop f tie).2 =
      ((strategyHops s i e' nonce hop f tie).filter fun nh => usableOut s.faces f i.name hop nh.1).map
        fun nh => fwdSend i hop tok nh.1 := by
  rw [forwardInterest_sends s' tok i nonce hop f tie e' hst.entry hnh]
  unfold strategyHops allowedNhs
  rw [hst.now, hst.strat, hst.fib, hst.regions, hst.faces]
end Stage

theorem onInterest_stage {s : St} (hwf : WF s) {f : FaceId} {i : Interest} {inF : Face} {hop : Option Nat}
    {nonce : Nat} (tie : List FaceId) (pick : Nat) (hacc : Accepted s f i inF hop nonce) :
    (∃ ce cs', s.csServe = true ∧ csFind s.now s.cs i pick = some (ce, cs') ∧
        (onInterest s f i tie pick).2 = dataSends s.faces ce.name ce.content [(f, i.tok)]) ∨
    (∃ s' tok e', Stage s f i nonce s' tok e' ∧ onInterest s f i tie pick = forwardInterest s' tok i nonce hop f tie) := by
  obtain ⟨s', tok, hr, hfw | ⟨ce, cs', s'', hserve, hfind, _, _, heq⟩⟩ := onInterest_of_accepted tie pick hacc
  · obtain ⟨e', hst⟩ := hr.stage hwf
    exact Or.inr ⟨s', tok, e', hst, hfw⟩
  · exact Or.inl ⟨ce, cs', hserve, hfind, by rw [heq]⟩

theorem onInterest_first {s : St} (hwf : WF s) {f : FaceId} {i : Interest} {inF : Face} {hop : Option Nat} {nonce : Nat}
    (tie : List FaceId) {pick : Nat} (hacc : Accepted s f i inF hop nonce) (hfirst : preEntry s i = none)
    (hcs : s.csServe = false ∨ csFind s.now s.cs i pick = none) :
    ∃ s' e', Stage s f i nonce s' s.nextTok e' ∧ e'.inRecs = [⟨f, nonce, s.now + lifetimeNs i, i.tok⟩] ∧
      onInterest s f i tie pick = forwardInterest s' s.nextTok i nonce hop f tie := by
  rcases onInterest_stage hwf tie pick hacc with ⟨ce, cs', hsv, hfind, _⟩ | ⟨s', tok, e', hst, heq⟩
  · rcases hcs with h | h
    · exact nomatch h.symm.trans hsv
    · exact nomatch h.symm.trans hfind
  · obtain ⟨htok, hin⟩ := hst.fresh hfirst
    subst htok
    exact ⟨s', e', hst, hin, heq⟩

/-- a next hop held back from the strategy: another face that already has an in-record in the entry -/
def heldBy (s : St) (i : Interest) (f g : FaceId) : Prop :=
  g ≠ f ∧ ∃ e, preEntry s i = some e ∧ ∃ r ∈ e.inRecs, r.face = g

theorem mem_allowed_of_not_held {s s' : St} {f : FaceId} {i : Interest} {nonce tok : Nat} {e' : Entry}
    (hst : Stage s f i nonce s' tok e') {nh : FaceId × Nat}
    (hnh : nh ∈ lpmNextHops s.fib (lookupName s.regions i)) (hfree : ¬heldBy s i f nh.1) :
    nh ∈ allowedNhs s i e' f := by
  refine List.mem_filter.mpr ⟨hnh, ?_⟩
  by_cases hf : nh.1 = f
  · simp [hf]
  · have : (e'.inRecs.any fun x => x.face == nh.1) = false := by
      rw [List.any_eq_false]
      intro r hr hrf
      have hrf' : r.face = nh.1 := by simpa using hrf
      rcases hst.inSub r hr with h | ⟨e, he, r0, hr0, hr0f⟩
      · exact hf (by rw [← hrf', h])
      · exact hfree ⟨hf, e, he, r0, hr0, by rw [hr0f, hrf']⟩
    simp [this]

end Ndn.Fw
