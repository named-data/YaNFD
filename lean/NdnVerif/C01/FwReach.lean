/- C01/FwReach.lean — reachable states of one thread (`WF`) and of several (C01/FwMulti.lean: `WF` and `Placed`). -/
import NdnVerif.C01.FwData
import NdnVerif.C01.FwInterest
import NdnVerif.C01.FwMulti
namespace Ndn.Fw

namespace Stable
theorem step {Q : Name → Prop} {P : St → Prop} (hP : Stable Q P) {s : St} (h : P s) (hwf : WF s) (op : Op)
    (hq : ∀ {f i tie pick}, op = .interest f i tie pick → Q i.name) : P (step s op).1 := by
  cases op with
  | adv dt => exact hP.advTo _ _ h
  | interest f i tie pick => exact hP.onInterest h hwf f tie pick (hq rfl)
  | data f d => exact hP.onData h f d
  | _ => exact hP.frame h rfl rfl
end Stable

theorem wf_step {s : St} (h : WF s) (op : Op) : WF (step s op).1 :=
  wf_stable.step h h op (fun _ => trivial)

/-- every entry of thread `t` has a name the dispatch rule assigns to `t` -/
def Placed (H : Name → Nat) (m : MSt) : Prop :=
  ∀ t s, m.ts[t]? = some s → NamesOk (fun nm => interestThread m.n H nm = t) s

/-- the invariant of thread `t` of `n`: `WF`, and thread `t`'s conjunct of `Placed` -/
def ThreadOk (n : Nat) (H : Name → Nat) (t : Nat) (s : St) : Prop :=
  WF s ∧ NamesOk (fun nm => interestThread n H nm = t) s

theorem threadOk_stable (n : Nat) (H : Name → Nat) (t : Nat) :
    Stable (fun nm => interestThread n H nm = t) (ThreadOk n H t) where
  map h g hp hn hg := ⟨wf_stable.map h.1 g hp hn hg, (names_stable _).map h.2 g hp hn hg⟩
  remove h tok hp hn := ⟨wf_stable.remove h.1 tok hp hn, (names_stable _).remove h.2 tok hp hn⟩
  insert h e hq ht hi hp hn := ⟨wf_stable.insert h.1 e trivial ht hi hp hn, (names_stable _).insert h.2 e hq ht hi hp hn⟩

theorem threadOk_mstep {H : Name → Nat} {m : MSt} (h : ∀ (t : Nat) (s : St), m.ts[t]? = some s → ThreadOk m.n H t s)
    (op : MOp) :
    (mstep H m op).1.n = m.n ∧ ∀ (t : Nat) (s : St), (mstep H m op).1.ts[t]? = some s → ThreadOk m.n H t s := by
  have hall : ∀ op : Op, (∀ f i tie pick, op ≠ .interest f i tie pick) →
      (mAll m op).n = m.n ∧ ∀ t s, (mAll m op).ts[t]? = some s → ThreadOk m.n H t s := by
    intro op hop
    refine ⟨List.length_map _, fun t s' hs' => ?_⟩
    simp only [mAll, List.getElem?_map, Option.map_eq_some_iff] at hs'
    obtain ⟨s, hs, rfl⟩ := hs'
    exact (threadOk_stable ..).step (h t s hs) (h t s hs).1 op (fun he => absurd he (hop _ _ _ _))
  cases op with
  | interest f i tie pick =>
    simp only [mstep, mInterest]
    split
    · exact ⟨rfl, h⟩
    · rename_i s hs
      refine ⟨List.length_set, fun t' s' hs' => ?_⟩
      simp only [setAt] at hs'
      by_cases ht : interestThread m.n H i.name = t'
      · subst ht
        rw [List.getElem?_set_self (List.getElem?_eq_some_iff.mp hs).1] at hs'
        cases hs'
        exact (threadOk_stable ..).onInterest (h _ s hs) (h _ s hs).1 f tie pick rfl
      · rw [List.getElem?_set_ne ht] at hs'
        exact h t' s' hs'
  | data f d tt =>
    simp only [mstep, mData]
    refine ⟨by simp [MSt.n], fun t s' hs' => ?_⟩
    simp only [List.getElem?_map, List.getElem?_zipIdx, Option.map_map, Option.map_eq_some_iff] at hs'
    obtain ⟨s, hs, rfl⟩ := hs'
    simp only [Function.comp]
    split
    · exact (threadOk_stable ..).onData (h t s hs) f d
    · exact h t s hs
  | cfg op =>
    cases op with
    | interest f i tie pick => exact ⟨rfl, h⟩
    | data f d => exact ⟨rfl, h⟩
    | _ => exact hall _ (fun _ _ _ _ he => nomatch he)

theorem threadOk_mrun {H : Name → Nat} {n : Nat} (ops : List MOp) {m : MSt} (hn : m.n = n)
    (h : ∀ (t : Nat) (s : St), m.ts[t]? = some s → ThreadOk n H t s) :
    (mrun H m ops).n = n ∧ ∀ (t : Nat) (s : St), (mrun H m ops).ts[t]? = some s → ThreadOk n H t s := by
  unfold mrun
  induction ops generalizing m with
  | nil => exact ⟨hn, h⟩
  | cons op t ih =>
    subst hn
    obtain ⟨h1, h2⟩ := threadOk_mstep h op
    exact ih h1 h2

end Ndn.Fw
