/- C01/FwData.lean — the incoming Data pipeline of the shared model `Fw`: `onData_accepted` and what follows from it. -/
import NdnVerif.C01.FwInv
namespace Ndn.Fw
open Ndn.Fw.Spec

theorem mem_matchByName {pit : List Entry} {n : Name} {e : Entry} :
    e ∈ matchByName pit n ↔ e ∈ pit ∧ nameMatch n e.name e.cbp = true := by
  unfold matchByName nameMatch
  simp only [List.mem_flatMap, List.mem_filter, Bool.and_eq_true, beq_iff_eq, Bool.or_eq_true]
  constructor
  · rintro ⟨p, hp, he, hn, hc⟩
    obtain ⟨k, hk, rfl⟩ := mem_prefixesDesc.mp hp
    refine ⟨he, ?_⟩
    rcases hc with hc | hc
    · right; exact ⟨hc, by rw [hn]; exact isPrefixOf_iff_prefix.mpr (List.take_prefix k n)⟩
    · left
      rw [hn]
      have : k = n.length := by rw [List.length_take] at hc; omega
      rw [this, List.take_length]
  · rintro ⟨he, hm⟩
    rcases hm with hm | ⟨hc, hp⟩
    · exact ⟨n, mem_prefixesDesc.mpr ⟨n.length, Nat.le_refl _, List.take_length.symm⟩, he, hm.symm, Or.inr rfl⟩
    · have hp := isPrefixOf_iff_prefix.mp hp
      exact ⟨n.take e.name.length, mem_prefixesDesc.mpr ⟨_, hp.length_le, rfl⟩, he, List.prefix_iff_eq_take.mp hp,
        Or.inl hc⟩

theorem mem_matchData {pit : List Entry} {d : Data} {e : Entry} (h : e ∈ matchData pit d) :
    e ∈ pit ∧ satisfies d e = true := by
  unfold matchData at h
  unfold satisfies
  cases hd : d.tok with
  | six v =>
    simp only [hd, Option.mem_toList] at h
    exact ⟨List.mem_of_find?_eq_some h, by simpa using List.find?_some h⟩
  | _ =>
    simp only [hd] at h
    exact mem_matchByName.mp h

theorem matchData_complete {pit : List Entry} {d : Data} {e : Entry} (he : e ∈ pit) (hs : satisfies d e = true) :
    ∃ e0 ∈ matchData pit d, e0.token = e.token := by
  unfold matchData
  unfold satisfies at hs
  split at hs
  · rename_i v hd
    simp only [hd, Option.mem_toList]
    have hv : e.token = v := by simpa using hs
    cases hfind : pit.find? (·.token == v) with
    | none => simpa [hv] using List.find?_eq_none.mp hfind e he
    | some e0 => exact ⟨e0, rfl, by rw [hv]; simpa using List.find?_some hfind⟩
  · rename_i h1
    split
    · rename_i v h2; exact absurd h2 (h1 v)
    · exact ⟨e, mem_matchByName.mpr ⟨he, hs⟩, rfl⟩

theorem matchByName_nodup {pit : List Entry} (h : pit.Nodup) (n : Name) : (matchByName pit n).Nodup := by
  unfold matchByName
  rw [List.Nodup, List.pairwise_flatMap]
  -- entries found under two prefixes bear those prefixes as names, and the prefixes differ in length
  refine ⟨fun p _ => List.Pairwise.filter _ h, (prefixesDesc_lengths n).imp ?_⟩
  intro a b hab x hx y hy hxy
  simp only [List.mem_filter, Bool.and_eq_true, beq_iff_eq] at hx hy
  exact hab (by rw [← hx.2.1, ← hy.2.1, hxy])

theorem matchData_nodup {s : St} (h : WF s) (d : Data) : (matchData s.pit d).Nodup := by
  unfold matchData
  split
  · cases s.pit.find? _ <;> simp
  · exact matchByName_nodup (nodup_of_nodup_map _ h.tokNodup) _

theorem mem_matchData_iff {s : St} (h : WF s) (d : Data) (e : Entry) :
    e ∈ matchData s.pit d ↔ e ∈ s.pit ∧ satisfies d e = true := by
  refine ⟨mem_matchData, fun ⟨he, hs⟩ => ?_⟩
  obtain ⟨e0, he0, ht⟩ := matchData_complete he hs
  rw [← inj_of_nodup_map _ h.tokNodup (mem_matchData he0).1 he ht]
  exact he0

theorem afterData_frame (s0 : St) (pit' : List Entry) (l : List (Name × Nat)) (n : Nat) :
    (countData (dnlInsertAll { s0 with pit := pit' } l) n).faces = s0.faces ∧
    (countData (dnlInsertAll { s0 with pit := pit' } l) n).nextTok = s0.nextTok ∧
    (countData (dnlInsertAll { s0 with pit := pit' } l) n).pit = pit' := by
  simp only [countData_faces, countData_nextTok, countData_pit, dnlInsertAll_faces, dnlInsertAll_nextTok, dnlInsertAll_pit,
    and_self]

/-- every entry whose TOKEN is among the matches is cleared; a single match serves all its in-records -/
theorem onData_accepted {s : St} {f : FaceId} {d : Data} {fc : Face} (hf : faceOf s.faces f = some fc)
    (hacc : (!fc.isLocal && isLocalhost d.name) = false) :
    ∃ s' : St, s'.faces = s.faces ∧ s'.nextTok = s.nextTok ∧
      s'.pit = s.pit.map (fun e => if ((matchData s.pit d).map (·.token)).contains e.token then e.clearRecs s.now else e) ∧
      onData s f d = (s', (matchData s.pit d).flatMap fun e => dataSends s.faces d.name d.content
        ((e.inRecs.filter fun r => decide ((matchData s.pit d).length ≤ 1) || r.face != f).map fun r => (r.face, r.tok))) := by
  unfold onData
  simp only [hf, hacc, Bool.false_eq_true, if_false]
  -- `s0`: the state after caching the Data
  have h0 : ∃ s0 : St, s0 = (if s.csAdmit = true then csInsert s d else s) ∧ s0.pit = s.pit ∧ s0.faces = s.faces ∧
      s0.now = s.now ∧ s0.nextTok = s.nextTok :=
    ⟨_, rfl, by split <;> simp only [csInsert_pit, csInsert_faces, csInsert_now, csInsert_nextTok, and_self]⟩
  obtain ⟨s0, hs0, hpit, hfaces, hnow, hnt⟩ := h0
  rw [← hs0, ← hpit, ← hfaces, ← hnow, ← hnt]
  cases hm : matchData s0.pit d with
  | nil => exact ⟨s0, rfl, rfl, by simp, rfl⟩
  | cons e t =>
    cases t with
    | nil =>
      refine ⟨_, (afterData_frame _ _ _ _).1, (afterData_frame _ _ _ _).2.1, ?_, Prod.ext rfl ?_⟩
      · refine (afterData_frame _ _ _ _).2.2.trans ?_
        simp only [modifyEntry, List.map_cons, List.map_nil, List.contains_cons, List.contains_nil, Bool.or_false]
      · simp only [List.flatMap_cons, List.flatMap_nil, List.append_nil, List.length_singleton, Nat.le_refl, decide_true,
          Bool.true_or]
        rw [List.filter_eq_self.mpr (fun _ _ => rfl)]
    | cons e1 t =>
      refine ⟨_, (afterData_frame _ _ _ _).1, (afterData_frame _ _ _ _).2.1, (afterData_frame _ _ _ _).2.2,
        Prod.ext rfl ?_⟩
      have : decide ((e :: e1 :: t).length ≤ 1) = false := by simp
      simp only [this, Bool.false_or]

theorem onData_cases (s : St) (f : FaceId) (d : Data) :
    onData s f d = (s, []) ∨ ∃ fc, faceOf s.faces f = some fc ∧ (!fc.isLocal && isLocalhost d.name) = false := by
  cases hf : faceOf s.faces f with
  | none => left; simp only [onData, hf]
  | some fc =>
    cases hacc : (!fc.isLocal && isLocalhost d.name) with
    | true => left; simp only [onData, hf, hacc, if_true]
    | false => exact Or.inr ⟨fc, rfl, hacc⟩

/-- face `g` holds, in state `s`, an in-record with PIT token `tok` in an entry that Data `d` satisfies -/
def PendingFor (s : St) (d : Data) (g : FaceId) (tok : Bytes) : Prop :=
  ∃ e ∈ s.pit, satisfies d e = true ∧ ∃ r ∈ e.inRecs, r.face = g ∧ r.tok = tok

theorem onData_sends (s : St) (f : FaceId) (d : Data) (snd : Send) (h : snd ∈ (onData s f d).2) :
    ∃ g tok, snd = .data g d.name d.content tok ∧ PendingFor s d g tok ∧ Deliverable s.faces d.name g := by
  rcases onData_cases s f d with h0 | ⟨fc, hf, hacc⟩
  · rw [h0] at h; cases h
  · obtain ⟨s', _, _, _, heq⟩ := onData_accepted hf hacc
    rw [heq, List.mem_flatMap] at h
    obtain ⟨e, he, h⟩ := h
    obtain ⟨t, ht, hsnd, hdel⟩ := mem_dataSends h
    simp only [List.mem_map, List.mem_filter] at ht
    obtain ⟨r, ⟨hr, _⟩, rfl⟩ := ht
    obtain ⟨hep, hsat⟩ := mem_matchData he
    exact ⟨r.face, r.tok, hsnd, ⟨e, hep, hsat, r, hr, rfl, rfl⟩, hdel⟩

theorem onData_faces (s : St) (f : FaceId) (d : Data) : (onData s f d).1.faces = s.faces := by
  rcases onData_cases s f d with h0 | ⟨fc, hf, hacc⟩
  · rw [h0]
  · obtain ⟨s', hfaces, _, _, heq⟩ := onData_accepted hf hacc
    rw [heq]; exact hfaces

namespace Stable
theorem onData {Q : Name → Prop} {P : St → Prop} (hP : Stable Q P) {s : St} (h : P s) (f : FaceId) (d : Data) : P (onData s f d).1 := by
  rcases onData_cases s f d with h0 | ⟨fc, hf, hacc⟩
  · rw [h0]; exact h
  · obtain ⟨s', _, hnt, hpit, heq⟩ := onData_accepted hf hacc
    rw [heq]
    refine hP.map h _ hpit hnt (fun e => ?_)
    split
    · exact ⟨rfl, rfl, fun _ => List.nodup_nil⟩
    · exact ⟨rfl, rfl, id⟩
end Stable

theorem onData_consumes (s : St) (f : FaceId) (d : Data) (fc : Face)
    (hf : faceOf s.faces f = some fc) (hacc : (!fc.isLocal && isLocalhost d.name) = false) :
    ∀ e ∈ (onData s f d).1.pit, satisfies d e = true → e.inRecs = [] := by
  obtain ⟨s', _, _, hpit, heq⟩ := onData_accepted hf hacc
  rw [heq]
  intro e' he' hsat
  rw [hpit, List.mem_map] at he'
  obtain ⟨x, hx, rfl⟩ := he'
  split
  · rfl
  · -- an entry that was not cleared is not satisfied: its token would be among the matches
    rename_i hc
    rw [if_neg hc] at hsat
    obtain ⟨e1, he1, ht⟩ := matchData_complete hx hsat
    refine absurd ?_ hc
    simp only [List.contains_eq_mem, List.mem_map, decide_eq_true_eq]
    exact ⟨e1, he1, ht⟩

theorem onData_token_delivers {s : St} {from_ : FaceId} {fc : Face} {d : Data} {tok : Nat} {e : Entry}
    (hf : faceOf s.faces from_ = some fc) (hacc : (!fc.isLocal && isLocalhost d.name) = false)
    (hd : d.tok = .six tok) (he : getEntry s.pit tok = some e) :
    (onData s from_ d).2 = dataSends s.faces d.name d.content (e.inRecs.map fun r => (r.face, r.tok)) := by
  obtain ⟨s', _, _, _, heq⟩ := onData_accepted hf hacc
  have hm : matchData s.pit d = [e] := by
    unfold matchData; unfold getEntry at he; simp [hd, he]
  rw [heq, hm]
  simp only [List.flatMap_cons, List.flatMap_nil, List.append_nil, List.length_singleton, Nat.le_refl, decide_true,
    Bool.true_or]
  rw [List.filter_eq_self.mpr (fun _ _ => rfl)]

end Ndn.Fw
