/- C01/FwTables.lean — lemmas of the table operations of the shared model `Fw`, one table at a time. -/
import NdnVerif.C01.FwSpec
import NdnVerif.Base.NameLemmas
import NdnVerif.Base.Code
namespace Ndn.Fw
open Ndn.Fw.Spec

@[simp] theorem dnlInsert_pit (s : St) (n : Name) (k : Nat) : (dnlInsert s n k).pit = s.pit := by
  rw [dnlInsert, apply_ite St.pit]; exact ite_self _
@[simp] theorem dnlInsert_faces (s : St) (n : Name) (k : Nat) : (dnlInsert s n k).faces = s.faces := by
  rw [dnlInsert, apply_ite St.faces]; exact ite_self _
@[simp] theorem dnlInsert_fib (s : St) (n : Name) (k : Nat) : (dnlInsert s n k).fib = s.fib := by
  rw [dnlInsert, apply_ite St.fib]; exact ite_self _
@[simp] theorem dnlInsert_strat (s : St) (n : Name) (k : Nat) : (dnlInsert s n k).strat = s.strat := by
  rw [dnlInsert, apply_ite St.strat]; exact ite_self _
@[simp] theorem dnlInsert_regions (s : St) (n : Name) (k : Nat) : (dnlInsert s n k).regions = s.regions := by
  rw [dnlInsert, apply_ite St.regions]; exact ite_self _
@[simp] theorem dnlInsert_now (s : St) (n : Name) (k : Nat) : (dnlInsert s n k).now = s.now := by
  rw [dnlInsert, apply_ite St.now]; exact ite_self _
@[simp] theorem dnlInsert_nextTok (s : St) (n : Name) (k : Nat) : (dnlInsert s n k).nextTok = s.nextTok := by
  rw [dnlInsert, apply_ite St.nextTok]; exact ite_self _
@[simp] theorem dnlInsert_cs (s : St) (n : Name) (k : Nat) : (dnlInsert s n k).cs = s.cs := by
  rw [dnlInsert, apply_ite St.cs]; exact ite_self _
@[simp] theorem dnlInsert_csServe (s : St) (n : Name) (k : Nat) : (dnlInsert s n k).csServe = s.csServe := by
  rw [dnlInsert, apply_ite St.csServe]; exact ite_self _

theorem dnlInsertAll_proj {α : Type} (π : St → α) (h : ∀ s n k, π (dnlInsert s n k) = π s) (s : St)
    (l : List (Name × Nat)) : π (dnlInsertAll s l) = π s :=
  List.foldlRecOn (motive := fun b => π b = π s) l _ rfl fun b hb a _ => (h b a.1 a.2).trans hb

@[simp] theorem dnlInsertAll_pit (s : St) (l) : (dnlInsertAll s l).pit = s.pit := dnlInsertAll_proj (·.pit) dnlInsert_pit s l
@[simp] theorem dnlInsertAll_faces (s : St) (l) : (dnlInsertAll s l).faces = s.faces :=
  dnlInsertAll_proj (·.faces) dnlInsert_faces s l
@[simp] theorem dnlInsertAll_fib (s : St) (l) : (dnlInsertAll s l).fib = s.fib := dnlInsertAll_proj (·.fib) dnlInsert_fib s l
@[simp] theorem dnlInsertAll_now (s : St) (l) : (dnlInsertAll s l).now = s.now := dnlInsertAll_proj (·.now) dnlInsert_now s l
@[simp] theorem dnlInsertAll_nextTok (s : St) (l) : (dnlInsertAll s l).nextTok = s.nextTok :=
  dnlInsertAll_proj (·.nextTok) dnlInsert_nextTok s l

@[simp] theorem csInsert_pit (s : St) (d : Data) : (csInsert s d).pit = s.pit := by
  rw [csInsert, apply_ite St.pit]; exact ite_self _
@[simp] theorem csInsert_faces (s : St) (d : Data) : (csInsert s d).faces = s.faces := by
  rw [csInsert, apply_ite St.faces]; exact ite_self _
@[simp] theorem csInsert_now (s : St) (d : Data) : (csInsert s d).now = s.now := by
  rw [csInsert, apply_ite St.now]; exact ite_self _
@[simp] theorem csInsert_nextTok (s : St) (d : Data) : (csInsert s d).nextTok = s.nextTok := by
  rw [csInsert, apply_ite St.nextTok]; exact ite_self _

@[simp] theorem countData_pit (s : St) (n : Nat) : (countData s n).pit = s.pit := rfl
@[simp] theorem countData_faces (s : St) (n : Nat) : (countData s n).faces = s.faces := rfl
@[simp] theorem countData_nextTok (s : St) (n : Nat) : (countData s n).nextTok = s.nextTok := rfl

theorem csFind_match {now : Time} {cs : List CsEnt} {i : Interest} {pick : Nat} {ce : CsEnt} {cs' : List CsEnt}
    (h : csFind now cs i pick = some (ce, cs')) : nameMatch ce.name i.name i.cbp = true ∧ ce ∈ cs := by
  -- the prefix walk is only made with CanBePrefix, and a candidate is a cached entry under the Interest name
  have hwalk : (if i.cbp = true then
        (let c := csPrefixCands now cs i
         if h : c.length > 0 then some (c[pick % c.length]'(Nat.mod_lt _ h), cs) else none)
      else none) = some (ce, cs') → nameMatch ce.name i.name i.cbp = true ∧ ce ∈ cs := by
    intro h
    by_cases hcbp : i.cbp = true
    · rw [if_pos hcbp] at h
      by_cases hl : (csPrefixCands now cs i).length > 0
      · rw [dif_pos hl] at h
        have hm := List.getElem_mem (Nat.mod_lt pick hl)
        rw [(Prod.mk.inj (Option.some.inj h)).1] at hm
        unfold csPrefixCands at hm
        simp only [List.mem_filter, Bool.and_eq_true] at hm
        exact ⟨by simp [nameMatch, hcbp, hm.1.2.2], hm.1.1⟩
      · rw [dif_neg hl] at h; cases h
    · rw [if_neg hcbp] at h; cases h
  unfold csFind at h
  cases he : cs.find? (·.name == i.name) with
  | none => rw [he] at h; exact hwalk h
  | some e =>
    rw [he] at h
    dsimp only at h
    by_cases hacc : csAcceptable now i.mbf e = true
    · -- exact name: `ce` is that entry
      rw [if_pos hacc] at h
      have hce : ce = e := by
        by_cases hcbp : i.cbp = true
        · rw [if_pos hcbp] at h; exact ((Prod.mk.inj (Option.some.inj h)).1).symm
        · rw [if_neg hcbp] at h; exact ((Prod.mk.inj (Option.some.inj h)).1).symm
      have hname : e.name = i.name := by simpa using List.find?_some he
      exact ⟨by simp [nameMatch, hce, hname], hce ▸ List.mem_of_find?_eq_some he⟩
    · rw [if_neg hacc] at h; exact hwalk h

theorem faceOf_addFace (faces : List Face) (fc : Face) :
    faceOf (faces.filter (·.id != fc.id) ++ [fc]) fc.id = some fc := by
  unfold faceOf
  rw [List.find?_append, List.find?_eq_none.mpr fun x hx hb => by simpa [beq_iff_eq.mp hb] using (List.mem_filter.mp hx).2]
  exact List.find?_cons_of_pos (p := fun x : Face => x.id == fc.id) (beq_self_eq_true fc.id)

theorem specLocalhost_isLocalhost {n : Name} (h : specLocalhost n = true) : isLocalhost n = true := by
  cases n with
  | nil => cases h
  | cons c t =>
    simp only [specLocalhost, beq_iff_eq] at h
    simp [isLocalhost, h, localhostComp]

theorem usableOut_spec {faces : List Face} {inFace : FaceId} {name : Name} {hop : Option Nat} {g : FaceId}
    (h : usableOut faces inFace name hop g = true) :
    ∃ fc, faceOf faces g = some fc ∧ ¬(g = inFace ∧ fc.link ≠ .adhoc) ∧ ¬(hop = some 0 ∧ fc.isLocal = false) ∧
      ¬(fc.isLocal = false ∧ isLocalhost name = true) := by
  unfold usableOut at h
  cases hf : faceOf faces g with
  | none => simp [hf] at h
  | some fc =>
    have hid : fc.id = g := by simpa using List.find?_some hf
    simp only [hf, hid, Bool.and_eq_true, Bool.not_eq_true', Bool.and_eq_false_imp, beq_iff_eq,
      Bool.not_eq_false'] at h
    refine ⟨fc, rfl, ?_, ?_, ?_⟩
    · rintro ⟨h1, h2⟩; exact h2 (by simpa using h.1.1 h1)
    · rintro ⟨h1, h2⟩; have := h.1.2 h1; simp [h2] at this
    · rintro ⟨h1, h2⟩; have := h.2; simp [h1, h2] at this

/-- the scope rule lets a packet named `name` leave on face `g` -/
def Deliverable (faces : List Face) (name : Name) (g : FaceId) : Prop :=
  ∃ fc, faceOf faces g = some fc ∧ ¬(!fc.isLocal && isLocalhost name) = true

theorem Deliverable.scope {faces : List Face} {name : Name} {g : FaceId} (h : Deliverable faces name g) :
    ¬(nonLocal faces g = true ∧ specLocalhost name = true) := by
  obtain ⟨fc, hfc, hsc⟩ := h
  rintro ⟨hnl, hlh⟩
  simp only [nonLocal, hfc] at hnl
  exact hsc (by rw [hnl, specLocalhost_isLocalhost hlh]; rfl)

theorem usableOut_deliverable {faces : List Face} {inFace : FaceId} {name : Name} {hop : Option Nat} {g : FaceId}
    (h : usableOut faces inFace name hop g = true) : Deliverable faces name g := by
  obtain ⟨fc, hfc, _, _, hsc⟩ := usableOut_spec h
  exact ⟨fc, hfc, fun h => hsc (by simpa using h)⟩

theorem mem_dataSends {faces : List Face} {name : Name} {content : Nat} {targets : List (FaceId × Bytes)} {snd : Send}
    (h : snd ∈ dataSends faces name content targets) :
    ∃ t ∈ targets, snd = .data t.1 name content t.2 ∧ Deliverable faces name t.1 := by
  unfold dataSends at h
  rw [List.mem_filterMap] at h
  obtain ⟨t, ht, hs⟩ := h
  refine ⟨t, ht, ?_⟩
  cases hf : faceOf faces t.1 with
  | none => simp [hf] at hs
  | some fc =>
    simp only [hf] at hs
    split at hs
    · cases hs
    · rename_i hsc
      exact ⟨(Option.some.inj hs).symm, fc, hf, hsc⟩

theorem dataSends_nil (faces : List Face) (name : Name) (content : Nat) : dataSends faces name content [] = [] := rfl

theorem dataSends_of_deliverable {faces : List Face} {name : Name} {content : Nat} {targets : List (FaceId × Bytes)}
    {t : FaceId × Bytes} (ht : t ∈ targets) (hd : Deliverable faces name t.1) :
    Send.data t.1 name content t.2 ∈ dataSends faces name content targets := by
  obtain ⟨fc, hf, hsc⟩ := hd
  unfold dataSends
  rw [List.mem_filterMap]
  exact ⟨t, ht, by simp only [hf, if_neg hsc]⟩

theorem dataSends_one {faces : List Face} {name : Name} {content : Nat} {t : FaceId × Bytes} {fc : Face}
    (hf : faceOf faces t.1 = some fc) :
    dataSends faces name content [t] =
      if (!fc.isLocal && isLocalhost name) = true then [] else [.data t.1 name content t.2] := by
  by_cases hsc : (!fc.isLocal && isLocalhost name) = true <;>
    simp only [dataSends, List.filterMap_cons, List.filterMap_nil, hf, hsc, if_true, if_false, Bool.false_eq_true]

theorem dataSends_isData {faces name content l} : ∀ snd ∈ dataSends faces name content l, snd.isData = true := by
  intro snd h
  obtain ⟨t, _, rfl, _⟩ := mem_dataSends h
  rfl

theorem dataSends_filter_face (faces : List Face) (name : Name) (content : Nat) (l : List (FaceId × Bytes)) (g : FaceId) :
    (dataSends faces name content l).filter (·.face == g) = dataSends faces name content (l.filter (·.1 == g)) := by
  unfold dataSends
  rw [List.filter_filterMap, List.filterMap_filter]
  congr 1
  funext t
  cases faceOf faces t.1 with
  | none => exact (ite_self _).symm
  | some fc =>
    by_cases hsc : (!fc.isLocal && isLocalhost name) = true
    · simp only [hsc, if_true]; exact (ite_self _).symm
    · simp only [hsc]; rfl

theorem mem_prefixesDesc {n p : Name} : p ∈ prefixesDesc n ↔ ∃ k, k ≤ n.length ∧ p = n.take k := by
  unfold prefixesDesc
  simp only [List.mem_map, List.mem_reverse, List.mem_range, Nat.lt_succ_iff]
  exact ⟨fun ⟨k, hk, h⟩ => ⟨k, hk, h.symm⟩, fun ⟨k, hk, h⟩ => ⟨k, hk, h.symm⟩⟩

theorem nameMatch_isPrefixOf {d n : Name} {cbp : Bool} (h : nameMatch d n cbp = true) : Name.isPrefixOf n d = true := by
  simp only [nameMatch, Bool.or_eq_true, beq_iff_eq, Bool.and_eq_true] at h
  rcases h with rfl | h
  · exact isPrefixOf_iff_prefix.mpr List.prefix_rfl
  · exact h.2

theorem isLocalhost_of_prefix {a b : Name} (hp : Name.isPrefixOf a b = true) (ha : a ≠ []) :
    isLocalhost a = isLocalhost b := by
  cases a with
  | nil => exact absurd rfl ha
  | cons c t =>
    obtain ⟨rest, rfl⟩ := head_of_isPrefixOf hp
    rfl

theorem prefixesDesc_lengths (n : Name) : (prefixesDesc n).Pairwise fun a b => a.length ≠ b.length := by
  unfold prefixesDesc
  rw [List.pairwise_map, List.pairwise_reverse]
  refine (List.pairwise_lt_range (n := n.length + 1)).imp_of_mem ?_
  intro a b ha hb hab
  simp only [List.mem_range] at ha hb
  simp only [List.length_take]
  omega

theorem getEntry_mem {pit : List Entry} {tok : Nat} {e : Entry} (h : getEntry pit tok = some e) :
    e ∈ pit ∧ e.token = tok :=
  ⟨List.mem_of_find?_eq_some h, by simpa using List.find?_some h⟩

theorem getEntry_of_mem {pit : List Entry} (hnd : (pit.map (·.token)).Nodup) {e : Entry} (he : e ∈ pit) :
    getEntry pit e.token = some e := by
  cases hf : getEntry pit e.token with
  | none => simpa using List.find?_eq_none.mp hf e he
  | some e0 =>
    obtain ⟨h1, h2⟩ := getEntry_mem hf
    rw [inj_of_nodup_map _ hnd h1 he h2]

theorem getEntry_append_fresh {pit : List Entry} {e0 : Entry} (h : ∀ e ∈ pit, e.token ≠ e0.token) :
    getEntry (pit ++ [e0]) e0.token = some e0 := by
  unfold getEntry
  rw [List.find?_append, List.find?_eq_none.mpr fun x hx hb => h x hx (beq_iff_eq.mp hb)]
  exact List.find?_cons_of_pos (p := fun x : Entry => x.token == e0.token) (beq_self_eq_true e0.token)

theorem modifyEntry_eq_map (pit : List Entry) (tok : Nat) (g : Entry → Entry) :
    modifyEntry pit tok g = pit.map (fun e => if e.token == tok then g e else e) := rfl

theorem getEntry_modifyEntry (pit : List Entry) (tok : Nat) {g : Entry → Entry} (hg : ∀ x, (g x).token = x.token) :
    getEntry (modifyEntry pit tok g) tok = (getEntry pit tok).map g := by
  unfold getEntry modifyEntry
  rw [List.find?_map]
  have : ((fun x : Entry => x.token == tok) ∘ fun e => if e.token == tok then g e else e) = fun x => x.token == tok := by
    funext x
    simp only [Function.comp]
    split <;> simp [*]
  rw [this]
  cases h : pit.find? (·.token == tok) with
  | none => rfl
  | some e => simp only [Option.map_some, List.find?_some h, if_true]

/-- RemoveInterest's slice swap keeps tokens distinct -/
theorem nodup_token_swap {t : List Entry} {l : Entry} (a : Nat) (hnd : (t.map (·.token)).Nodup)
    (hl : ∀ x ∈ t, x.token ≠ l.token) : ((t.map fun x => if x.token == a then l else x).map (·.token)).Nodup := by
  rw [List.Nodup, List.pairwise_map] at hnd
  rw [List.map_map, List.Nodup, List.pairwise_map]
  refine hnd.imp_of_mem ?_
  intro x y hx hy hxy
  simp only [Function.comp]
  split <;> split
  · rename_i h1 h2
    exact absurd ((beq_iff_eq.mp h1).trans (beq_iff_eq.mp h2).symm) hxy
  · exact (hl y hy).symm
  · exact hl x hx
  · exact hxy

/-- RemoveInterest: nothing, or the entry goes, or the last entry `l` of its name-tree node takes its place -/
theorem removeEntry_cases (pit : List Entry) (tok : Nat) :
    removeEntry pit tok = pit ∨ removeEntry pit tok = pit.filter (·.token != tok) ∨
    ∃ l ∈ pit, removeEntry pit tok = (pit.filter (·.token != l.token)).map fun x => if x.token == tok then l else x := by
  unfold removeEntry
  cases pit.find? (·.token == tok) with
  | none => exact Or.inl rfl
  | some e =>
    dsimp only
    cases hl : (pit.filter (·.name == e.name)).getLast? with
    | none => exact Or.inl rfl
    | some l =>
      dsimp only
      by_cases ht : (l.token == tok) = true
      · rw [if_pos ht]; exact Or.inr (Or.inl rfl)
      · rw [if_neg ht]; exact Or.inr (Or.inr ⟨l, (List.mem_filter.mp (List.mem_of_getLast? hl)).1, rfl⟩)

theorem mem_removeEntry {pit : List Entry} {tok : Nat} {x : Entry} (h : x ∈ removeEntry pit tok) : x ∈ pit := by
  rcases removeEntry_cases pit tok with h0 | h0 | ⟨l, hl, h0⟩ <;> rw [h0] at h
  · exact h
  · exact (List.mem_filter.mp h).1
  · obtain ⟨y, hy, rfl⟩ := List.mem_map.mp h
    split
    · exact hl
    · exact (List.mem_filter.mp hy).1

theorem nodup_removeEntry {pit : List Entry} (tok : Nat) (h : (pit.map (·.token)).Nodup) :
    ((removeEntry pit tok).map (·.token)).Nodup := by
  rcases removeEntry_cases pit tok with h0 | h0 | ⟨l, _, h0⟩ <;> rw [h0]
  · exact h
  · exact (List.filter_sublist.map _).nodup h
  · exact nodup_token_swap tok ((List.filter_sublist.map _).nodup h) (fun x hx => by simpa using (List.mem_filter.mp hx).2)

theorem nhLe_cost {tie : List FaceId} {a b : FaceId × Nat} (h : nhLe tie a b = true) : a.2 ≤ b.2 := by
  unfold nhLe at h
  simp only [Bool.or_eq_true, decide_eq_true_eq, Bool.and_eq_true, beq_iff_eq] at h
  omega

theorem not_nhLe_cost {tie : List FaceId} {a b : FaceId × Nat} (h : ¬nhLe tie a b = true) : b.2 ≤ a.2 := by
  unfold nhLe at h
  simp only [Bool.or_eq_true, decide_eq_true_eq, Bool.and_eq_true, beq_iff_eq, not_or, not_and] at h
  omega

theorem mem_insertNh {tie : List FaceId} {a x : FaceId × Nat} {l : List (FaceId × Nat)} :
    x ∈ insertNh tie a l ↔ x = a ∨ x ∈ l := by
  induction l with
  | nil => simp [insertNh]
  | cons b t ih =>
    unfold insertNh
    split
    · simp
    · simp only [List.mem_cons, ih]
      constructor
      · rintro (h | h | h) <;> simp [h]
      · rintro (h | h | h) <;> simp [h]

theorem mem_sortNh {tie : List FaceId} {x : FaceId × Nat} {l : List (FaceId × Nat)} : x ∈ sortNh tie l ↔ x ∈ l := by
  unfold sortNh
  induction l with
  | nil => simp
  | cons a t ih => simp only [List.foldr_cons, mem_insertNh, ih, List.mem_cons]

theorem sorted_insertNh {tie : List FaceId} (a : FaceId × Nat) {l : List (FaceId × Nat)}
    (h : l.Pairwise fun x y => x.2 ≤ y.2) : (insertNh tie a l).Pairwise fun x y => x.2 ≤ y.2 := by
  induction l with
  | nil => simp [insertNh]
  | cons b t ih =>
    unfold insertNh
    rw [List.pairwise_cons] at h
    split
    · rename_i hle
      rw [List.pairwise_cons]
      refine ⟨?_, List.pairwise_cons.mpr h⟩
      intro y hy
      rcases List.mem_cons.mp hy with rfl | hy
      · exact nhLe_cost hle
      · exact Nat.le_trans (nhLe_cost hle) (h.1 y hy)
    · rename_i hle
      rw [List.pairwise_cons]
      refine ⟨?_, ih h.2⟩
      intro y hy
      rcases mem_insertNh.mp hy with rfl | hy
      · exact not_nhLe_cost hle
      · exact h.1 y hy

theorem sorted_sortNh (tie : List FaceId) (l : List (FaceId × Nat)) : (sortNh tie l).Pairwise fun x y => x.2 ≤ y.2 :=
  List.foldrRecOn l (insertNh tie) .nil fun _ hb a _ => sorted_insertNh a hb

theorem find_first_le {l : List (FaceId × Nat)} {p : FaceId × Nat → Bool} (hs : l.Pairwise fun x y => x.2 ≤ y.2)
    {x y : FaceId × Nat} (hx : l.find? p = some x) (hy : y ∈ l) (hpy : p y = true) : x.2 ≤ y.2 := by
  obtain ⟨_, as, bs, rfl, has⟩ := List.find?_eq_some_iff_append.mp hx
  rcases List.mem_append.mp hy with h | h
  · exact absurd hpy (by simpa using has y h)
  · rcases List.mem_cons.mp h with rfl | h
    · exact Nat.le_refl _
    · exact (List.pairwise_cons.mp (List.pairwise_append.mp hs).2.1).1 y h

end Ndn.Fw
